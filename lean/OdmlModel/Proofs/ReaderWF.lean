/-
C16 — tree-level well-formedness of what the readers return (`TreeWF`), what `keepValid` keeps
(`keepValid_spec`), and the full content of an input (`fullTag`), for the denotation of
`Proofs/ReaderDenote.lean`.
-/
import OdmlModel.Proofs.ReaderDenote

namespace Reader

/-- A well-formed object tree, in the model's terms (C03 / C04 for a loaded document): at every
    object, a given name is acceptable (`ok`: not empty), sibling Properties have pairwise different
    names and so have sibling Sections, the Property list holds Properties and the Section list
    Sections, a Property has no children, a Document no Properties — and the same below. -/
inductive TreeWF (eq : ν → ν → Bool) (ok : ν → Bool) : Obj ν → Prop where
  | mk (k : Kind) (n : Name ν) (b : Bool) (ps ss : List (Obj ν))
      (hname : ∀ a, n = .given a → ok a = true)
      (hps : Uniq eq ps) (hss : Uniq eq ss)
      (hpk : ∀ p ∈ ps, p.kind = .prop) (hp : ∀ p ∈ ps, TreeWF eq ok p)
      (hsk : ∀ s ∈ ss, s.kind = .sec) (hs : ∀ s ∈ ss, TreeWF eq ok s)
      (hprop : k = .prop → ps = [] ∧ ss = [])
      (hdoc : k = .doc → ps = []) :
      TreeWF eq ok (.mk k n b ps ss)

theorem TreeWF.uniqKids {eq : ν → ν → Bool} {ok : ν → Bool} {o : Obj ν} (h : TreeWF eq ok o) :
    UniqKids eq o := by
  cases h with
  | mk _ _ _ _ _ _ hps hss => exact ⟨hps, hss⟩

theorem TreeWF.sec_mem {eq : ν → ν → Bool} {ok : ν → Bool} {o s : Obj ν} (h : TreeWF eq ok o)
    (hs : s ∈ o.secs) : s.kind = .sec ∧ TreeWF eq ok s := by
  cases h with
  | mk _ _ _ _ _ _ _ _ _ _ hsk hs' => exact ⟨hsk s hs, hs' s hs⟩

theorem TreeWF.prop_mem {eq : ν → ν → Bool} {ok : ν → Bool} {o p : Obj ν} (h : TreeWF eq ok o)
    (hp : p ∈ o.props) : p.kind = .prop ∧ TreeWF eq ok p := by
  cases h with
  | mk _ _ _ _ _ _ _ _ hpk hp' => exact ⟨hpk p hp, hp' p hp⟩

theorem TreeWF.name_ok {eq : ν → ν → Bool} {ok : ν → Bool} {o : Obj ν} (h : TreeWF eq ok o)
    (a : ν) (ha : o.name = .given a) : ok a = true := by
  cases h with
  | mk _ _ _ _ _ hname => exact hname a ha

theorem kept_uniq (eq : ν → ν → Bool) (acc l : List (Obj ν)) (h : Uniq eq acc) :
    Uniq eq (kept eq acc l) := by
  induction l generalizing acc with
  | nil => exact h
  | cons c cs ih =>
    unfold kept
    by_cases hc : clash eq c.name acc = true
    · simp only [hc, if_true]; exact ih acc h
    · simp only [hc, Bool.false_eq_true, if_false]
      exact ih _ (Uniq.snoc h (by simpa using hc))

theorem mem_kept (eq : ν → ν → Bool) (acc l : List (Obj ν)) (x : Obj ν) (h : x ∈ kept eq acc l) :
    x ∈ acc ∨ x ∈ l := by
  induction l generalizing acc with
  | nil => exact Or.inl h
  | cons c cs ih =>
    unfold kept at h
    split at h
    · exact (ih acc h).imp_right (List.mem_cons_of_mem _)
    · rcases ih _ h with h | h
      · rcases List.mem_append.mp h with h | h
        · exact Or.inl h
        · exact Or.inr (List.mem_cons.mpr (Or.inl (List.mem_singleton.mp h)))
      · exact Or.inr (List.mem_cons_of_mem _ h)

theorem kept_of_dropped_zero (eq : ν → ν → Bool) (acc l : List (Obj ν)) (h : dropped eq acc l = 0) :
    kept eq acc l = acc ++ l := by
  induction l generalizing acc with
  | nil => simp [kept]
  | cons c cs ih =>
    unfold dropped at h
    unfold kept
    by_cases hc : clash eq c.name acc = true
    · simp only [hc, if_true] at h
      omega
    · simp only [hc, Bool.false_eq_true, if_false] at h ⊢
      rw [ih _ h]
      simp

/-- every child of the sort is kept or has the name of a kept one -/
theorem kept_or_clash (eq : ν → ν → Bool) (acc l : List (Obj ν)) :
    (∀ x ∈ acc, x ∈ kept eq acc l) ∧
    (∀ c ∈ l, c ∈ kept eq acc l ∨ clash eq c.name (kept eq acc l) = true) := by
  induction l generalizing acc with
  | nil => exact ⟨fun x hx => hx, by intro c hc; cases hc⟩
  | cons c cs ih =>
    unfold kept
    by_cases hc : clash eq c.name acc = true
    · simp only [hc, if_true]
      obtain ⟨i1, i2⟩ := ih acc
      refine ⟨i1, ?_⟩
      intro x hx
      cases hx with
      | head => exact Or.inr (clash_mono i1 hc)
      | tail _ hx => exact i2 x hx
    · simp only [hc, Bool.false_eq_true, if_false]
      obtain ⟨i1, i2⟩ := ih (acc ++ [c])
      refine ⟨fun x hx => i1 x (List.mem_append_left _ hx), ?_⟩
      intro x hx
      cases hx with
      | head => exact Or.inl (i1 _ (List.mem_append_right _ (List.mem_singleton.mpr rfl)))
      | tail _ hx => exact i2 x hx

theorem goesTo_kind {pk : Kind} {c : Obj ν} :
    (goesTo pk false c = true → c.kind = .prop ∧ pk = .sec) ∧
    (goesTo pk true c = true → c.kind = .sec ∧ pk ≠ .prop) := by
  unfold goesTo
  cases pk <;> cases c.kind <;> simp [slotOf]

/-- `keepValid` is what the insertion loops of both readers return (`insertLoop_eq`). -/
theorem keepValid_spec (eq : ν → ν → Bool) (obj : Obj ν) (cs : List (Obj ν)) (hu : UniqKids eq obj) :
    UniqKids eq (keepValid eq obj cs) ∧
    (∀ x ∈ obj.props, x ∈ (keepValid eq obj cs).props) ∧
    (∀ x ∈ obj.secs, x ∈ (keepValid eq obj cs).secs) ∧
    (∀ c ∈ cs, c ∈ (keepValid eq obj cs).props ∨ c ∈ (keepValid eq obj cs).secs ∨
      Refused eq (keepValid eq obj cs) c) := by
  refine ⟨⟨kept_uniq eq _ _ hu.1, kept_uniq eq _ _ hu.2⟩, (kept_or_clash eq _ _).1,
    (kept_or_clash eq _ _).1, ?_⟩
  intro c hc
  cases hs : slotOf obj.kind c.kind with
  | none => exact Or.inr (Or.inr (Or.inr (Or.inr hs)))
  | some slot =>
    have hm : c ∈ cs.filter (goesTo obj.kind slot) :=
      List.mem_filter.mpr ⟨hc, by simp only [goesTo, hs, beq_self_eq_true]⟩
    cases slot with
    | true =>
      rcases (kept_or_clash eq obj.secs _).2 c hm with h | h
      · exact Or.inr (Or.inl h)
      · exact Or.inr (Or.inr (Or.inl h))
    | false =>
      rcases (kept_or_clash eq obj.props _).2 c hm with h | h
      · exact Or.inl h
      · exact Or.inr (Or.inr (Or.inr (Or.inl h)))

theorem keepValid_wf (eq : ν → ν → Bool) (ok : ν → Bool) (k : Kind) (n : Name ν) (b : Bool)
    (cs : List (Obj ν)) (hn : ∀ a, n = .given a → ok a = true) (hcs : ∀ c ∈ cs, TreeWF eq ok c) :
    TreeWF eq ok (keepValid eq (.mk k n b [] []) cs) := by
  have mem : ∀ slot x, x ∈ kept eq [] (cs.filter (goesTo k slot)) → x ∈ cs ∧ goesTo k slot x = true :=
    fun slot x hx => List.mem_filter.mp ((mem_kept eq [] _ x hx).resolve_left List.not_mem_nil)
  have none : ∀ slot, (∀ c : Obj ν, goesTo k slot c ≠ true) → kept eq [] (cs.filter (goesTo k slot)) = [] :=
    fun slot h => by rw [List.filter_eq_nil_iff.mpr (fun c _ => h c)]; rfl
  unfold keepValid
  simp only [Obj.kind_mk, Obj.name_mk, Obj.made_mk, Obj.props_mk, Obj.secs_mk]
  refine TreeWF.mk k n b _ _ hn (kept_uniq eq _ _ List.Pairwise.nil) (kept_uniq eq _ _ List.Pairwise.nil)
    (fun p hp => (goesTo_kind.1 (mem _ p hp).2).1) (fun p hp => hcs p (mem _ p hp).1)
    (fun s hs => (goesTo_kind.2 (mem _ s hs).2).1) (fun s hs => hcs s (mem _ s hs).1) ?_ ?_
  · rintro rfl
    exact ⟨none false (fun c hc => nomatch (goesTo_kind.1 hc).2), none true (fun c hc => (goesTo_kind.2 hc).2 rfl)⟩
  · rintro rfl
    exact none false (fun c hc => nomatch (goesTo_kind.1 hc).2)

theorem leaf_wf (eq : ν → ν → Bool) (ok : ν → Bool) (k : Kind) (n : Name ν) (b : Bool)
    (hn : ∀ a, n = .given a → ok a = true) : TreeWF eq ok (.mk k n b [] []) :=
  keepValid_wf eq ok k n b [] hn (fun _ h => nomatch h)

/-- a name is acceptable: not empty -/
def strOk (s : Str) : Bool := !s.isEmpty

/-- The ids the constructors hand out as names are not empty (canonical uuids are 36 characters). -/
def Env.NamesOk (env : Env) : Prop := ∀ k a s, env.autoName k a = .given s → strOk s = true

theorem objName_ok (env : Env) (he : env.NamesOk) (k : Kind) (a : Args) (s : Str)
    (h : objName env k a = .given s) : strOk s = true := by
  unfold objName at h
  split at h
  · cases h
  · split at h
    · split at h
      · exact he _ _ _ h
      · rename_i hne
        cases h
        simpa [strOk] using hne
    · exact he _ _ _ h

theorem created_shape (env : Env) (kind : Kind) (args : Args) :
    ∃ n b, created env kind args = .mk kind n b [] [] ∧
      (env.NamesOk → ∀ a, n = .given a → strOk a = true) := by
  unfold created
  split
  · exact ⟨_, _, rfl, by intro _ a h; cases h⟩
  · exact ⟨_, _, rfl, fun he a h => objName_ok env he kind args a h⟩

theorem denote_wf (env : Env) (he : env.NamesOk) (x : Xml) :
    ∀ (kind : Kind) (insert : Bool), TreeWF (· == ·) strOk (denoteTag env kind insert x) := by
  revert x
  refine (Xml.induct (Q := fun ks => ∀ (kind : Kind), ∀ c ∈ denoteKids env kind ks, TreeWF (· == ·) strOk c)
    ?elem ?other ?nil ?cons).1
  case elem =>
    intro t a tx ks ih kind insert
    simp only [denoteTag, attach]
    obtain ⟨n, b, hc, hn⟩ := created_shape env kind (specArgs env kind ks [])
    rw [hc]
    split
    · exact keepValid_wf _ _ _ _ _ _ (hn he) (ih kind)
    · exact leaf_wf _ _ _ _ _ (hn he)
  case other =>
    intro k kind insert
    exact leaf_wf _ _ _ _ _ (by intro a h; cases h)
  case nil =>
    intro kind c hc
    cases hc
  case cons =>
    intro x rest ihx ihr kind c hc
    cases x with
    | other k => exact ihr kind c hc
    | elem t0 attrs text kids =>
      simp only [denoteKids] at hc
      split at hc
      · rename_i k' _
        cases hc with
        | head => exact ihx k' _
        | tail _ hc => exact ihr kind c hc
      · exact ihr kind c hc

theorem denoteTag_kind (env : Env) (kind : Kind) (insert : Bool) (x : Xml) :
    (denoteTag env kind insert x).kind = kind := by
  cases x with
  | other k => rfl
  | elem t a tx ks =>
    obtain ⟨n, b, hc, _⟩ := created_shape env kind (specArgs env kind ks [])
    rw [denoteTag, hc, attach]
    split <;> rfl

/-- all parsed children attached, in document order -/
def attachAll (insert : Bool) (base : Obj Str) (children : List (Obj Str)) : Obj Str :=
  if insert then
    .mk base.kind base.name base.made
      (base.props ++ children.filter (goesTo base.kind false))
      (base.secs ++ children.filter (goesTo base.kind true))
  else base

mutual
/-- **The full content of an element**: the object made from its argument elements with *every*
    Property child in its Property list and *every* Section child in its Section list. -/
def fullTag (env : Env) (kind : Kind) (insert : Bool) : Xml → Obj Str
  | .other _ => Obj.mk kind Name.fresh false [] []
  | .elem _ _ _ kids =>
    attachAll insert (created env kind (specArgs env kind kids [])) (fullKids env kind kids)
def fullKids (env : Env) (kind : Kind) : List Xml → List (Obj Str)
  | [] => []
  | .other _ :: rest => fullKids env kind rest
  | .elem t0 attrs text kids :: rest =>
    match kidClass kind (Py.lower t0) with
    | .object k' => fullTag env k' (k' != .prop) (.elem t0 attrs text kids) :: fullKids env kind rest
    | _ => fullKids env kind rest
end

/-- all children attached, Properties to the Property list and Sections to the Section list, in
    input order -/
def attachAllG (base : Obj ν) (children : List (Obj ν)) : Obj ν :=
  .mk base.kind base.name base.made
    (base.props ++ children.filter (goesTo base.kind false))
    (base.secs ++ children.filter (goesTo base.kind true))

theorem keepValid_full (eq : ν → ν → Bool) (base : Obj ν) (cs : List (Obj ν))
    (h : refusedCount eq base cs = 0) : keepValid eq base cs = attachAllG base cs := by
  simp only [refusedCount, Nat.add_eq_zero_iff] at h
  rw [keepValid, kept_of_dropped_zero _ _ _ h.1.2, kept_of_dropped_zero _ _ _ h.2, attachAllG]

theorem denote_eq_full (env : Env) (x : Xml) :
    ∀ (kind : Kind) (insert : Bool) (tag : Str), tagProblems env kind insert tag x = 0 →
      denoteTag env kind insert x = fullTag env kind insert x := by
  revert x
  refine (Xml.induct (Q := fun ks => ∀ (kind : Kind), kidsProblems env kind ks = 0 →
    denoteKids env kind ks = fullKids env kind ks) ?elem ?other ?nil ?cons).1
  case elem =>
    intro t a tx ks ih kind insert tag h
    simp only [tagProblems, Nat.add_eq_zero_iff] at h
    obtain ⟨⟨⟨⟨_, hk⟩, _⟩, _⟩, hr⟩ := h
    simp only [denoteTag, fullTag, attach, attachAll, ← ih kind hk]
    cases insert with
    | true => exact keepValid_full _ _ _ hr
    | false => rfl
  case other =>
    intro k kind insert tag _
    rfl
  case nil =>
    intro kind _
    rfl
  case cons =>
    intro x rest ihx ihr kind h
    cases x with
    | other k => exact ihr kind h
    | elem t0 attrs text kids =>
      simp only [kidsProblems] at h
      simp only [denoteKids, fullKids]
      cases hc : kidClass kind (Py.lower t0) with
      | object k' =>
        simp only [hc, Nat.add_eq_zero_iff] at h ⊢
        rw [ihx k' _ (Py.lower t0) h.1, ihr kind h.2]
      | arg =>
        simp only [hc, Nat.add_eq_zero_iff] at h
        exact ihr kind h.2
      | unknown =>
        simp only [hc] at h
        omega

end Reader
