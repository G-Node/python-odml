/-
Whole-document XML round trip: the `<value>` text.  What `odml_tuple_export` and `to_csv` write is
not blank, is read by `from_csv` and re-typed by the `values` setter (`value_facts`); and what the
constructors make of the collected arguments.
-/
import OdmlModel.Proofs.XmlRound
import OdmlModel.Props.C09

namespace Py.Csv

theorem run_rawFields (dn : Option (List (List Char))) (fs : List (List Char)) :
    ∀ acc mid, fs ≠ [] → (∀ f ∈ fs, RawField f) →
      run ⟨.startField, [], acc⟩ mid dn (Xml.intercal [','] fs) = .ok (dn.getD (acc ++ fs)) := by
  induction fs with
  | nil => intro acc mid h; exact absurd rfl h
  | cons f fs ih =>
    intro acc mid _ hall
    cases fs with
    | nil =>
      have := run_rawField dn acc f [] mid (hall f (by simp))
      rw [List.append_nil] at this
      rw [Xml.intercal, this, run_fieldEnd_eof (.inl rfl)]
    | cons g gs =>
      have := ih (acc ++ [f]) true (by simp) (fun x hx => hall x (by simp [hx]))
      simp only [Xml.intercal, List.append_assoc, List.singleton_append] at this ⊢
      rw [run_rawField _ _ _ _ _ (hall f (by simp)), run_fieldEnd_comma (.inl rfl), this]

theorem intercal_head (f : List Char) (fs : List (List Char)) (c : Char) (cs : List Char)
    (h : f = c :: cs) : ∃ t, Xml.intercal [','] (f :: fs) = c :: t := by
  subst h
  cases fs with
  | nil => exact ⟨cs, rfl⟩
  | cons g gs => exact ⟨cs ++ [','] ++ Xml.intercal [','] (g :: gs), by simp [Xml.intercal]⟩

theorem readFirst_rawFields (fs : List (List Char)) (hne : fs ≠ []) (hall : ∀ f ∈ fs, RawField f) :
    readFirst (Xml.intercal [','] fs) = .ok fs ∧ Xml.intercal [','] fs ≠ [] := by
  cases fs with
  | nil => exact absurd rfl hne
  | cons f gs =>
    obtain ⟨⟨c, cs, hf, hq⟩, hp⟩ := hall f (by simp)
    obtain ⟨t, ht⟩ := intercal_head f gs c cs hf
    have hc := (hp c (by simp [hf])).2
    constructor
    · unfold readFirst
      rw [RS.init, run_startRecord]
      · simpa using run_rawFields none (f :: gs) [] false (by simp) hall
      · intro c' hc'; rw [ht] at hc'; simp at hc'; subst hc'; exact hc
    · rw [ht]; simp

end Py.Csv

namespace Xml
open Py Py.Csv

theorem toCsv_nil : toCsv [] = [] := by decide

theorem strip_toCsv (vs : List (List Char)) (h : vs ≠ []) : (strip (toCsv vs)).isEmpty = false := by
  have wrap : ∀ b : List Char, (strip ('[' :: (b ++ [']']))).isEmpty = false := by
    intro b; rw [strip_ends (a := '[') (b := ']') b (by decide) (by decide)]; rfl
  simp only [toCsv]
  match hv : vs.map strip with
  | [] => simp at hv; exact absurd hv h
  | [s] =>
    simp only
    split
    · rename_i hc
      simp only [Bool.and_eq_true, Bool.not_eq_true'] at hc
      obtain ⟨v, hv'⟩ : ∃ v, s = strip v := by
        cases vs with
        | nil => simp at hv
        | cons v vs' => simp at hv; exact ⟨v, hv.1.symm⟩
      rw [hv', strip_idem, ← hv']; exact hc.1
    · exact wrap _
  | f :: g :: gs => exact wrap _

theorem natOfDigits_foldl_ge (cs : List Char) : ∀ a : Nat,
    a ≤ cs.foldl (fun acc c => 10 * acc + (c.toNat - 48)) a := by
  induction cs with
  | nil => intro a; simp
  | cons c cs ih => intro a; simp only [List.foldl_cons]; have := ih (10 * a + (c.toNat - 48)); omega

theorem span_loop_eq {α} (p : α → Bool) : ∀ (l acc : List α),
    List.span.loop p l acc = (acc.reverse ++ l.takeWhile p, l.dropWhile p) := by
  intro l
  induction l with
  | nil => intro acc; simp [List.span.loop]
  | cons a as ih =>
    intro acc
    by_cases h : p a = true
    · simp [List.span.loop, h, ih]
    · simp [List.span.loop, h]

theorem span_eq_takeWhile_dropWhile {α} (p : α → Bool) (l : List α) : l.span p = (l.takeWhile p, l.dropWhile p) := by
  simp [List.span, span_loop_eq]

/-- A valid name ending in `-tuple` is in neither dtype table, so `tupleName` holds: its digit
    prefix is not empty and does not start with `0`. -/
theorem tuple_count_pos (d : Str) (hv : validType (some d) = true) (hl : lower d = d)
    (he : endsWith "-tuple" d = true) : 0 < natOfDigits (d.take (d.length - 6)) := by
  obtain ⟨pre, hd⟩ := List.isSuffixOf_iff_suffix.mp he
  replace hd := hd.symm
  have htake : d.take (d.length - 6) = pre := by
    rw [hd]; simp
  rw [htake]
  simp only [validType, hl, Bool.or_eq_true] at hv
  rcases hv with hv | hv
  · exfalso
    have hk1 : ∀ k ∈ Gen.DTypes.dtypeMap.map (·.1), endsWith "-tuple" k.toList = false := by decide +kernel
    have hk2 : ∀ k ∈ Gen.DTypes.members.map (·.1), endsWith "-tuple" k.toList = false := by decide +kernel
    cases hlk : Gen.DTypes.dtypeMap.lookup (String.ofList d) with
    | some v =>
      have := hk1 _ (lookup_some_mem _ _ _ hlk)
      simp [he] at this
    | none =>
      rw [hlk] at hv
      simp only [Option.getD_none, List.contains_iff_mem] at hv
      have := hk2 _ hv
      simp [he] at this
  · simp only [tupleName, span_eq_takeWhile_dropWhile, Bool.and_eq_true, Bool.not_eq_true',
      bne_iff_ne, ne_eq, beq_iff_eq] at hv
    obtain ⟨⟨h1, h2⟩, h3⟩ := hv
    have hpre : pre = d.takeWhile Char.isDigit :=
      List.append_cancel_right (hd.symm.trans (by rw [← h3, List.takeWhile_append_dropWhile]))
    rw [hpre]
    cases hds : d.takeWhile Char.isDigit with
    | nil => rw [hds] at h1; simp at h1
    | cons c cs =>
      rw [hds] at h2
      have hc0 : c ≠ '0' := by simpa using h2
      have hcd : c.isDigit = true :=
        List.all_eq_true.mp List.all_takeWhile c (by rw [hds]; exact List.mem_cons_self)
      have hb := isDigit_bounds hcd
      have hne : c.toNat ≠ 48 := by
        intro h
        have h' : c = Char.ofNat c.toNat := (Char.ofNat_toNat c).symm
        rw [h] at h'
        exact hc0 (h'.trans (by decide))
      have := natOfDigits_foldl_ge cs (10 * 0 + (c.toNat - 48))
      simp only [natOfDigits, List.foldl_cons]
      omega

/-- the text `odml_tuple_export` writes for one value -/
def tupleText (v : Val) : Str := '(' :: (intercal [';'] (tupleItems v) ++ [')'])

theorem mem_intercal (sep : Str) (c : Char) : ∀ (xs : List Str), c ∈ intercal sep xs →
    c ∈ sep ∨ ∃ x ∈ xs, c ∈ x := by
  intro xs
  induction xs with
  | nil => simp [intercal]
  | cons x xs ih =>
    cases xs with
    | nil => intro h; exact Or.inr ⟨x, by simp, by simpa [intercal] using h⟩
    | cons y ys =>
      intro h
      simp only [intercal, List.mem_append] at h
      rcases h with (h | h) | h
      · exact Or.inr ⟨x, by simp, h⟩
      · exact Or.inl h
      · rcases ih h with h' | ⟨z, hz, hc⟩
        · exact Or.inl h'
        · exact Or.inr ⟨z, by simp [hz], hc⟩

theorem rawField_tupleText (xs : List Str) (h : xs.all itemRepr = true) :
    RawField (tupleText (.tuple xs)) := by
  refine ⟨⟨'(', _, rfl, by decide⟩, ?_⟩
  intro c hc
  simp only [tupleText, tupleItems, List.mem_cons, List.mem_append, List.not_mem_nil, or_false] at hc
  rcases hc with rfl | hc | rfl
  · decide
  · rcases mem_intercal _ _ _ hc with h' | ⟨x, hx, hcx⟩
    · have : c = ';' := by simpa using h'
      subst this; decide
    · have hx' := List.all_eq_true.mp h x hx
      simp only [itemRepr, Bool.not_eq_true', List.any_eq_false, Bool.or_eq_true, beq_iff_eq,
        not_or] at hx'
      obtain ⟨⟨h1, h2⟩, h3⟩ := hx' c hcx
      simp [isNl, h1, h2, h3]
  · decide

theorem tuple_of_valOk (lib : TokLib) (d : Str) (v : Val) (he : endsWith "-tuple" d = true)
    (h : valOk lib d v = true) :
    ∃ xs, v = .tuple xs ∧ xs.length = natOfDigits (d.take (d.length - 6)) ∧ xs.all itemOk = true := by
  -- no scalar dtype name ends in `-tuple`
  have hk : ∀ s ∈ "int" :: "boolean" :: tokKinds, endsWith "-tuple" s.toList = false := by
    decide +kernel
  have hno : String.ofList d ∉ "int" :: "boolean" :: tokKinds := by
    intro hm
    have := hk _ hm
    rw [String.toList_ofList, he] at this; cases this
  cases v with
  | str s => simp [valOk, he] at h
  | int i =>
    simp only [valOk, beq_iff_eq] at h
    exact absurd (h ▸ List.mem_cons_self) hno
  | bool b =>
    simp only [valOk, beq_iff_eq] at h
    exact absurd (h ▸ List.mem_cons_of_mem _ List.mem_cons_self) hno
  | tok t =>
    simp only [valOk, Bool.and_eq_true] at h
    exact absurd (List.mem_cons_of_mem _ (List.mem_cons_of_mem _ (List.contains_iff_mem.mp h.1))) hno
  | tuple xs =>
    simp only [valOk, Bool.and_eq_true, beq_iff_eq] at h
    exact ⟨xs, rfl, h.1.2, h.2⟩
  | nul => simp [valOk] at h

theorem tupleGet_tupleText (xs : List Str) (hne : xs ≠ []) (h : xs.all itemOk = true) :
    tupleGet (tupleText (.tuple xs)) xs.length = .ok (.tuple xs) := by
  apply tupleGet_export xs hne
  · intro x hx
    have := List.all_eq_true.mp h x hx
    simp only [itemOk, Bool.and_eq_true, beq_iff_eq] at this
    exact this.1
  · intro x hx c hc
    have := List.all_eq_true.mp h x hx
    simp only [itemOk, Bool.and_eq_true, Bool.not_eq_true'] at this
    have h2 := this.2
    simp only [List.contains_eq_mem, decide_eq_false_iff_not] at h2
    simp only [beq_eq_false_iff_ne, ne_eq]
    rintro rfl; exact h2 hc

/-- One value of a non-tuple dtype: the trimmed `str()` text is re-typed by `dtypes.get` to the
    (trimmed) value. -/
theorem getTyped_valStr (lib : TokLib) (d : Str) (v : Val) (hd : endsWith "-tuple" d = false)
    (h : valOk lib d v = true) : getTyped lib d (strip (valStr v)) = .ok (trimVal v) := by
  cases v with
  | str s =>
    simp only [valOk, hd, Bool.not_false, Bool.true_and] at h
    simpa [valStr, trimVal] using getTyped_str lib d s h
  | int i => simpa [valStr, trimVal] using getTyped_int lib d i (by simpa [valOk] using h)
  | bool b => simpa [trimVal] using getTyped_bool lib d b (by simpa [valOk] using h)
  | tok t =>
    simp only [valOk, Bool.and_eq_true] at h
    simpa [valStr, trimVal] using getTyped_tok lib d t h.1 h.2
  | tuple xs => simp [valOk, hd] at h
  | nul => simp [valOk] at h

theorem mapExcept_map {α β γ ε} (f : β → Except ε γ) (t : α → β) (g : α → γ) :
    ∀ xs : List α, (∀ x ∈ xs, f (t x) = .ok (g x)) → mapExcept f (xs.map t) = .ok (xs.map g)
  | [], _ => rfl
  | x :: xs, h => by
    simp only [List.map_cons, mapExcept, h x (by simp),
      mapExcept_map f t g xs fun y hy => h y (by simp [hy])]

def propLower (p : PropT) : Bool :=
  match p.dtype with
  | none => true
  | some d => lower d == d

/-- **The `<value>` element of a well-formed, representable Property**: either the text is empty
    (no values) or it is not blank, `from_csv` reads it, and the `values` setter re-types what
    was read to the trimmed values under the same dtype. -/
theorem value_facts (lib : TokLib) (p : PropT) (d : Str) (hp1 : p.dtype = some d)
    (hval : validType (some d) = true) (hl : lower d = d) (hok : ∀ v ∈ p.values, valOk lib d v = true)
    (hrep : p.values.all valRepr = true) (hne : p.values ≠ []) :
    ∃ vs, (strip (valueText p)).isEmpty = false ∧ fromCsv (valueText p) = .ok vs ∧
      loadValues lib (some d) vs = .ok (some d, p.values.map trimVal) := by
  by_cases he : endsWith "-tuple" d = true
  · -- n-tuples
    have hcount := tuple_count_pos d hval hl he
    have hvt : valueText p = '[' :: (intercal [','] (p.values.map tupleText) ++ [']']) := by
      have : p.values.isEmpty = false := by simpa using hne
      simp only [valueText, hp1, he, this, tupleExport, Bool.not_false, Bool.and_self, if_true]
      rfl
    have hall : ∀ v ∈ p.values, ∃ xs, v = .tuple xs ∧ xs.length = natOfDigits (d.take (d.length - 6)) ∧
        xs.all itemOk = true := fun v hv => tuple_of_valOk lib d v he (hok v hv)
    have hraw : ∀ f ∈ p.values.map tupleText, RawField f := by
      intro f hf
      obtain ⟨v, hv, rfl⟩ := List.mem_map.mp hf
      obtain ⟨xs, rfl, _, _⟩ := hall v hv
      exact rawField_tupleText xs (by simpa [valRepr] using List.all_eq_true.mp hrep _ hv)
    obtain ⟨hread, hnn⟩ := readFirst_rawFields (p.values.map tupleText) (by simpa using hne) hraw
    refine ⟨p.values.map tupleText, ?_, ?_, ?_⟩
    · rw [hvt, strip_ends (a := '[') (b := ']') _ (by decide) (by decide)]; rfl
    · rw [hvt]
      unfold fromCsv
      rw [bracketed_wrap, slice1m1_wrap]
      simp [hnn, hread]
    · have hmap := mapExcept_map (fun t => tupleGet t (natOfDigits (d.take (d.length - 6))))
          tupleText trimVal p.values fun v hv => by
        obtain ⟨xs, rfl, hlen, hitems⟩ := hall v hv
        have hxs : xs ≠ [] := by
          intro h; subst h; simp at hlen; omega
        exact hlen ▸ tupleGet_tupleText xs hxs hitems
      cases hv : p.values with
      | nil => exact absurd hv hne
      | cons v0 rest =>
        rw [hv] at hmap
        simp only [List.map_cons] at hmap
        simp only [List.map_cons, loadValues, he, if_true, hmap]
  · -- every other dtype
    have he' : endsWith "-tuple" d = false := by simpa using he
    have hvt : valueText p = toCsv (p.values.map valStr) := by
      simp [valueText, hp1, he']
    refine ⟨(p.values.map valStr).map strip, ?_, ?_, ?_⟩
    · rw [hvt]; exact strip_toCsv _ (by simpa using hne)
    · rw [hvt]; exact fromCsv_toCsv _
    · have key := mapExcept_map (getTyped lib d) (fun v => strip (valStr v)) trimVal p.values
          fun v hv => getTyped_valStr lib d v he' (hok v hv)
      cases hv : p.values with
      | nil => exact absurd hv hne
      | cons v vs =>
        rw [hv] at key
        simp only [List.map_cons] at key
        simp only [List.map_cons, List.map_map, Function.comp_def, loadValues, he', key]
        simp

theorem cardOk_stored : ∀ {c : Card.Card}, cardOk c = true → C09.Stored c
  | none, _ => .unset
  | some (none, some _), h => .max (by simpa [cardOk] using h)
  | some (some _, none), h => .min (by simpa [cardOk] using h)
  | some (some _, some _), h => by
    simp only [cardOk, Bool.and_eq_true, decide_eq_true_eq] at h
    exact .both h.1.1 h.1.2 h.2

/-- the text a collected argument stands for when it is handed to a constructor -/
def argText : Option ArgV → Option Str
  | some (.text t) => t
  | _ => none

/-- the cardinality a collected argument stands for: `None`, or what `format_cardinality` makes
    of the parsed tuple -/
def argCard : Option ArgV → Option Card.Card
  | some (.card c) =>
    match Card.formatCard (cardAsIn c) with
    | .ok c' => some c'
    | .valueError => none
  | _ => some none

theorem getText_eq (a : Args) (k : String) : getText a k = argText (a.lookup k) := rfl

theorem loadCard_eq (a : Args) (k : String) : loadCard a k = argCard (a.lookup k) := rfl

theorem argText_textArg (s : Str) : argText (some (textArg s)) = normText (some s) := rfl

theorem argText_map (o : Option Str) : argText (o.map textArg) = normText o := by
  cases o <;> rfl

theorem argCard_map (c : Card.Card) (hc : cardOk c = true) : argCard (c.map cardArg) = some c := by
  cases c with
  | none => rfl
  | some q =>
    have hs := cardOk_stored hc
    have h1 := C09.persist_text q hs
    have h2 : Card.formatCard (cardAsIn (some q)) = .ok (some q) := C09.stored_fixpoint (some q) hs
    simp [argCard, cardArg, h1, h2]

theorem idOk_facts (i : Option Str) (h : idOk i = true) :
    loadId (normText (some (shown i))) = i := by
  cases i with
  | none => simp [idOk] at h
  | some s =>
    simp only [idOk, Bool.and_eq_true, beq_iff_eq] at h
    have hne : s.isEmpty = false := by
      have := h.1
      simp only [canonicalUuid, Bool.and_eq_true, beq_iff_eq] at this
      cases s with
      | nil => simp at this
      | cons c cs => rfl
    simp [shown, normText, hne, h.2, loadId, h.1]

theorem name_facts (n i : Option Str) (h1 : n.isSome = true) (h2 : nameRepr n = true) :
    loadName (normText (some (shown (n <|> i)))) = n.map strip := by
  cases n with
  | none => simp at h1
  | some s =>
    simp only [nameRepr, Bool.not_eq_true'] at h2
    have hne : s.isEmpty = false := ne_nil_of_strip h2
    simp [shown, normText, hne, loadName, h2]

theorem unc_facts (u : Option Unc) (h : uncRepr u = true) :
    (normText (u.map (·.text))).map (fun t => (⟨false, t⟩ : Unc)) = normUnc u := by
  cases u with
  | none => rfl
  | some u =>
    obtain ⟨b, t⟩ := u
    simp only [uncRepr, Bool.not_eq_true'] at h
    subst h
    by_cases ht : t.isEmpty = true <;> simp [normText, normUnc, ht]

end Xml
