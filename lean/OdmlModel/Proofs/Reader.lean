/-
C16 — what the statements about the readers are phrased with: `Conv m r` ("every way `r` ends other
than with a value is a ParserException, and only in strict mode"; `Reader.outcome` has it,
`Proofs/ReaderSpec.lean`), induction over the two input types in the form the readers walk them, the
root checks of `to_odml`, sibling names (`Uniq`, `Refused`), and the stack need of the XML reader.
-/
import OdmlModel.Model.Reader

namespace Reader

/-- A computation of the reader only ends with ParserException, and only in strict mode. -/
def Conv (m : Mode) (r : Except Err α) : Prop :=
  ∀ e, r = .error e → e = .parserException ∧ m = .strict

theorem Conv.ok (m : Mode) (a : α) : Conv m (Except.ok a : Except Err α) := by
  intro e h; cases h

theorem Conv.no_leak {m : Mode} {r : Except Err α} (h : Conv m r) (c : Leak) : r ≠ .error (.leak c) := by
  intro he
  have := (h _ he).1
  cases this

/-- The guards the XML tree reader needs. -/
def Guards.XmlOk (g : Guards) : Prop :=
  g.skipNonElem = true ∧ g.guardAppend = true ∧ g.guardCsv = true ∧ g.decimalCard = true

theorem Guards.fixed_xmlOk : Guards.fixed.XmlOk := ⟨rfl, rfl, rfl, rfl⟩

/-- The guards the dictionary reader needs. -/
def Guards.DictOk (g : Guards) : Prop :=
  g.rootIsDict = true ∧ g.guardDocCreate = true ∧ g.guardDocAppend = true ∧
  g.shapeChecks = true ∧ g.perChildAppend = true

theorem Guards.fixed_dictOk : Guards.fixed.DictOk := ⟨rfl, rfl, rfl, rfl, rfl⟩

/-- `Xml.rec` with both motives, returned as a pair so that mutual statements are proved in one go. -/
theorem Xml.induct {P : Xml → Prop} {Q : List Xml → Prop}
    (elem : ∀ t a tx ks, Q ks → P (.elem t a tx ks)) (other : ∀ k, P (.other k))
    (nil : Q []) (cons : ∀ x rest, P x → Q rest → Q (x :: rest)) : (∀ x, P x) ∧ (∀ ks, Q ks) :=
  ⟨fun x => Xml.rec (motive_1 := P) (motive_2 := Q) elem other nil cons x,
   fun ks => Xml.rec_1 (motive_1 := P) (motive_2 := Q) elem other nil cons ks⟩

/-- Structural induction over a JSON-like value the way `parse_sections` walks it: `A` for the value
    under a `sections` key (only a list is looked into), `B` for the entries of such a list (only
    dictionaries are looked into), `C` for the pairs of one dictionary. -/
theorem J.induct {A : J → Prop} {B : List J → Prop} {C : List (Str × J) → Prop}
    (leaf : ∀ v, (∀ xs, v ≠ .arr xs) → A v) (arr : ∀ xs, B xs → A (.arr xs))
    (nil : B []) (cons_obj : ∀ kvs rest, C kvs → B rest → B (.obj kvs :: rest))
    (cons_other : ∀ x rest, (∀ kvs, x ≠ .obj kvs) → B rest → B (x :: rest))
    (pnil : C []) (pcons : ∀ k v rest, A v → C rest → C ((k, v) :: rest)) :
    (∀ v, A v) ∧ (∀ kvs, C kvs) := by
  let M := fun v : J => A v ∧ ∀ kvs, v = .obj kvs → C kvs
  have lf : ∀ v, (∀ xs, v ≠ .arr xs) → (∀ kvs, v ≠ .obj kvs) → M v :=
    fun v h1 h2 => ⟨leaf v h1, fun kvs h => absurd h (h2 kvs)⟩
  have all : ∀ v, M v := fun v =>
    J.rec (motive_1 := M) (motive_2 := B) (motive_3 := C) (motive_4 := fun p => M p.2)
      (lf _ (fun _ => nofun) (fun _ => nofun)) (fun _ => lf _ (fun _ => nofun) (fun _ => nofun))
      (fun _ => lf _ (fun _ => nofun) (fun _ => nofun)) (fun _ => lf _ (fun _ => nofun) (fun _ => nofun))
      (fun _ => lf _ (fun _ => nofun) (fun _ => nofun))
      (fun xs ih => ⟨arr xs ih, fun _ => nofun⟩)
      (fun kvs ih => ⟨leaf _ (fun _ => nofun), fun _ h => by cases h; exact ih⟩)
      nil
      (fun x rest ihx ihr => by
        cases x with
        | obj kvs => exact cons_obj kvs rest (ihx.2 kvs rfl) ihr
        | _ => exact cons_other _ rest (fun _ => nofun) ihr)
      pnil (fun p rest ihp ihr => pcons p.1 p.2 rest ihp.1 ihr) (fun _ _ ih => ih) v
  exact ⟨fun v => (all v).1, fun kvs => (all (.obj kvs)).2 kvs rfl⟩

theorem lookupKey_of_any (key : Str) (kvs : List (Str × J)) (h : kvs.any (fun p => p.1 == key) = true) :
    ∃ v, lookupKey key kvs = some v := by
  obtain ⟨p, hp, hk⟩ := List.any_eq_true.mp h
  unfold lookupKey
  cases hf : kvs.find? (fun p => p.1 == key) with
  | some q => exact ⟨q.2, rfl⟩
  | none => exact absurd hk (by simpa using List.find?_eq_none.mp hf p hp)

theorem lookupKey_any (key : Str) (kvs : List (Str × J)) (v : J) (h : lookupKey key kvs = some v) :
    kvs.any (fun p => p.1 == key) = true := by
  unfold lookupKey at h
  cases hf : kvs.find? (fun p => p.1 == key) with
  | none => rw [hf] at h; cases h
  | some p =>
    have := List.find?_some hf
    have hm := List.mem_of_find?_eq_some hf
    exact List.any_eq_true.mpr ⟨p, hm, this⟩

/-- With the root checks, `to_odml` refuses the input, finds another version, or goes on with a
    `Document` entry that is a dictionary — it never lets an exception escape. -/
theorem dictVerdict_cases (g : Guards) (hr : g.rootIsDict = true) (x : J) :
    dictVerdict g x = .refused ∨ dictVerdict g x = .wrongVersion ∨
      ∃ kvs, dictVerdict g x = .ok (.obj kvs) := by
  unfold dictVerdict
  cases x with
  | obj top =>
    simp only [hr, J.isDict, Bool.not_true, Bool.and_false, pyInStr, pyGet, pyGetItem,
      Bool.false_eq_true, if_false, Bool.true_and]
    cases h1 : top.any (fun p => p.1 == "Document".toList) with
    | false => exact Or.inl rfl
    | true =>
      obtain ⟨dv, hdv⟩ := lookupKey_of_any _ top h1
      rw [hdv]
      cases top.any (fun p => p.1 == "odml-version".toList) with
      | false => exact Or.inl rfl
      | true =>
        dsimp only
        split
        · exact Or.inr (Or.inl rfl)
        · cases dv with
          | obj kvs => exact Or.inr (Or.inr ⟨kvs, rfl⟩)
          | _ => exact Or.inl rfl
  | _ => exact Or.inl (if_pos (by rw [hr]; rfl))

/-- Python `==` on two object names; a fresh uuid equals nothing. -/
def nameClash (eq : ν → ν → Bool) (a b : Name ν) : Bool :=
  match a, b with
  | .given x, .given y => eq x y
  | _, _ => false

theorem clash_eq_any (eq : ν → ν → Bool) (n : Name ν) (l : List (Obj ν)) :
    clash eq n l = l.any (fun o => nameClash eq o.name n) := by
  cases n with
  | fresh =>
    simp only [clash]
    induction l with
    | nil => rfl
    | cons o rest ih =>
      simp only [List.any_cons, ← ih]
      cases o.name <;> simp [nameClash]
  | given a =>
    simp only [clash]
    congr 1
    funext o
    cases o.name <;> simp [nameClash]

/-- No two objects of the list have clashing names. -/
def Uniq (eq : ν → ν → Bool) (l : List (Obj ν)) : Prop :=
  l.Pairwise (fun a b => nameClash eq a.name b.name = false)

theorem Uniq.snoc {eq : ν → ν → Bool} {l : List (Obj ν)} {c : Obj ν} (h : Uniq eq l)
    (hc : clash eq c.name l = false) : Uniq eq (l ++ [c]) := by
  unfold Uniq
  rw [List.pairwise_append]
  refine ⟨h, List.pairwise_singleton _ _, ?_⟩
  intro a ha b hb
  simp only [List.mem_singleton] at hb
  subst hb
  rw [clash_eq_any] at hc
  have := List.any_eq_false.mp hc a ha
  simpa using this

/-- Both child lists of the object have unique names. -/
def UniqKids (eq : ν → ν → Bool) (o : Obj ν) : Prop := Uniq eq o.props ∧ Uniq eq o.secs

/-- A refused child: a kept sibling of its sort carries its name, or the parent cannot hold
    children of that sort. -/
def Refused (eq : ν → ν → Bool) (o c : Obj ν) : Prop :=
  clash eq c.name o.secs = true ∨ clash eq c.name o.props = true ∨ slotOf o.kind c.kind = none

theorem clash_mono {eq : ν → ν → Bool} {n : Name ν} {l l' : List (Obj ν)} (hs : ∀ x ∈ l, x ∈ l')
    (h : clash eq n l = true) : clash eq n l' = true := by
  rw [clash_eq_any] at *
  obtain ⟨x, hx, hc⟩ := List.any_eq_true.mp h
  exact List.any_eq_true.mpr ⟨x, hs x hx, hc⟩

/-- three frames per level of element nesting, at most -/
theorem stack_le_depth :
    (∀ (x : Xml) (kind : Kind), stackTag kind x ≤ 3 * Xml.depth x) ∧
    (∀ (ks : List Xml) (kind : Kind), stackKids kind ks ≤ 3 * Xml.depthList ks) := by
  refine Xml.induct ?elem ?other ?nil ?cons
  case elem =>
    intro t a tx ks ih kind
    have h := ih kind
    simp only [stackTag, Xml.depth, framesPerObject]
    omega
  case other =>
    intro k kind
    simp [stackTag]
  case nil =>
    intro kind
    simp [stackKids]
  case cons =>
    intro x rest ihx ihr kind
    have hr := ihr kind
    cases x with
    | other k =>
      simp only [stackKids, Xml.depthList, Xml.depth]
      omega
    | elem t0 attrs text kids =>
      simp only [stackKids, Xml.depthList]
      split
      · rename_i k' _ _ _
        have hx := ihx k'
        omega
      · omega

end Reader
