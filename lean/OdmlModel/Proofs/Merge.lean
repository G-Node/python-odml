/-
Lemmas about `Model/Merge.lean`. `mergeSecs` and `mergeProps` are one loop (`Loop`), and what the
theorems need of it is proved once, of `Loop.run`; the recursive checks are read pointwise.
-/
import OdmlModel.Model.Merge

namespace Merge
variable {V : Type}

theorem find?_replaceFirst_other {α : Type} (p q : α → Bool) (x : α) (l : List α)
    (hpq : ∀ y, p y = true → q y = false) (hx : q x = false) :
    (replaceFirst p x l).find? q = l.find? q := by
  induction l with
  | nil => rfl
  | cons y ys ih =>
    unfold replaceFirst
    by_cases hp : p y = true
    · simp [hp, List.find?, hx, hpq y hp]
    · simp [hp, List.find?, ih]

theorem find?_replaceFirst_same {α : Type} (p : α → Bool) (x y0 : α) (l : List α)
    (hf : l.find? p = some y0) (hx : p x = true) :
    (replaceFirst p x l).find? p = some x := by
  induction l with
  | nil => simp at hf
  | cons y ys ih =>
    unfold replaceFirst
    by_cases hp : p y = true
    · simp [hp, hx]
    · have : ys.find? p = some y0 := by simpa [List.find?, hp] using hf
      simp [hp, ih this]

theorem getElem?_replaceFirst_other {α : Type} (p : α → Bool) (x c : α) (l : List α) (i : Nat)
    (hi : l[i]? = some c) (hc : p c = false) : (replaceFirst p x l)[i]? = some c := by
  induction l generalizing i with
  | nil => cases hi
  | cons y ys ih =>
    rw [replaceFirst]
    cases i with
    | zero =>
      cases (Option.some.inj hi : y = c)
      rw [hc]; rfl
    | succ j =>
      rw [List.getElem?_cons_succ] at hi
      cases p y with
      | true => exact hi
      | false => exact ih j hi

theorem length_replaceFirst {α : Type} (p : α → Bool) (x : α) (l : List α) :
    (replaceFirst p x l).length = l.length := by
  induction l with
  | nil => rfl
  | cons y ys ih => unfold replaceFirst; split <;> simp [ih]

theorem any_eq_find? {α : Type} (q : α → Bool) (l : List α) : l.any q = (l.find? q).isSome := by
  rw [Bool.eq_iff_iff, List.any_eq_true, List.find?_isSome]

theorem find?_self {α : Type} (f : α → Str) (q : α → α → Bool) (hq : ∀ a b, q a b = true → f b = f a)
    (hr : ∀ a, q a a = true) (l : List α) : (l.map f).Nodup → ∀ a ∈ l, l.find? (q a) = some a := by
  induction l with
  | nil => exact fun _ _ h => nomatch h
  | cons b l ih =>
    intro hnd a ha
    rw [List.map_cons, List.nodup_cons] at hnd
    rcases List.mem_cons.1 ha with rfl | ha'
    · rw [List.find?_cons, hr]
    · have : q a b = false :=
        Bool.eq_false_iff.2 fun h => hnd.1 (hq a b h ▸ List.mem_map_of_mem ha')
      rw [List.find?_cons, this]
      exact ih hnd.2 a ha'

theorem Sec.induct {P : Sec V → Prop} (mk : ∀ a ps ss, (∀ o ∈ ss, P o) → P (.mk a ps ss))
    (s : Sec V) : P s :=
  Sec.rec (motive_1 := P) (motive_2 := fun l => ∀ o ∈ l, P o) mk (fun _ h => nomatch h)
    (fun _ _ h1 h2 => List.forall_mem_cons.2 ⟨h1, h2⟩) s

theorem secMatch_iff (n t : Str) (c : Sec V) : secMatch n t c = true ↔ c.name = n ∧ c.type = t := by
  simp [secMatch]

theorem findSec_some {l : List (Sec V)} {n t : Str} {c : Sec V} (h : findSec l n t = some c) :
    c ∈ l ∧ c.name = n ∧ c.type = t :=
  ⟨List.mem_of_find?_eq_some h, (secMatch_iff n t c).1 (List.find?_some h)⟩

theorem findProp_some {l : List (PropT V)} {n : Str} {p : PropT V} (h : findProp l n = some p) :
    p ∈ l ∧ p.name = n := by
  unfold findProp at h
  exact ⟨List.mem_of_find?_eq_some h, by simpa using List.find?_some h⟩

theorem propNameIn_eq (l : List (PropT V)) (n : Str) : propNameIn l n = (findProp l n).isSome :=
  any_eq_find? _ l

theorem findProp_none_iff (l : List (PropT V)) (n : Str) :
    findProp l n = none ↔ propNameIn l n = false := by
  rw [propNameIn_eq]; cases findProp l n <;> simp

theorem findSec_none_of_name {l : List (Sec V)} {n : Str} (t : Str) (h : secNameIn l n = false) :
    findSec l n t = none := by
  rw [secNameIn, List.any_eq_false] at h
  rw [findSec, List.find?_eq_none]
  exact fun c hc hm => h c hc (beq_iff_eq.2 ((secMatch_iff n t c).1 hm).1)

theorem findSec_self (ss : List (Sec V)) (hnd : (ss.map (·.name)).Nodup) :
    ∀ o ∈ ss, findSec ss o.name o.type = some o :=
  find?_self (·.name) (fun o => secMatch o.name o.type) (fun _ b h => ((secMatch_iff _ _ b).1 h).1)
    (fun a => (secMatch_iff _ _ a).2 ⟨rfl, rfl⟩) ss hnd

@[simp] theorem cloneMerged_name (r : Ref) (o : Sec V) : (cloneMerged r o).name = o.name := rfl
@[simp] theorem cloneMerged_type (r : Ref) (o : Sec V) : (cloneMerged r o).type = o.type := rfl
@[simp] theorem cloneMerged_props (r : Ref) (o : Sec V) : (cloneMerged r o).props = o.props := rfl
@[simp] theorem cloneMerged_secs (r : Ref) (o : Sec V) : (cloneMerged r o).secs = o.secs := rfl

theorem setValues_name (cv : Conv V) (p : PropT V) (nv : List V) :
    (setValues cv p nv).1.name = p.name := by
  cases nv with
  | nil => rfl
  | cons v vs => rw [setValues]; cases validate cv (dtypeFor cv p v) (v :: vs) <;> rfl

theorem extend_name (cv : Conv V) (p : PropT V) (obj : List V) (k : Bool) :
    (extend cv p obj k).1.name = p.name := by
  rw [extend]
  cases p.values.isEmpty with
  | true => exact setValues_name cv p obj
  | false =>
    cases p.dtype with
    | none => rfl
    | some t =>
      dsimp only
      cases extendRefuses cv t obj k with
      | true => rfl
      | false => cases validate cv (some t) obj <;> rfl

theorem propMerge_name (cv : Conv V) (k : Bool) (d s : PropT V) :
    (propMerge cv k d s).1.name = d.name := by
  unfold propMerge
  split
  · rfl
  · rw [extend_name]; rfl

theorem merge_keeps (cv : Conv V) (k : Bool) (r : Ref) (d s : Sec V) :
    ((merge cv k r d s).1.name = d.name ∧ (merge cv k r d s).1.type = d.type) ∧
    ((merge cv k r d s).1.secs = d.secs ∨
      (merge cv k r d s).1.secs = (mergeSecs cv k (r.eff d.attrs) d.secs s.secs).1) ∧
    ((merge cv k r d s).1.props = d.props ∨
      (merge cv k r d s).1.props = (mergeProps cv k d.props s.props).1) := by
  cases s with
  | mk sa sp ss =>
    rw [merge]
    dsimp only [Sec.secs_mk, Sec.props_mk]
    cases mergeCheck cv k d (.mk sa sp ss) with
    | raised e => exact ⟨⟨rfl, rfl⟩, Or.inl rfl, Or.inl rfl⟩
    | ok =>
      dsimp only
      cases typeClash d (.mk sa sp ss) with
      | true => exact ⟨⟨rfl, rfl⟩, Or.inl rfl, Or.inl rfl⟩
      | false =>
        cases mergeSecs cv k (r.eff d.attrs) d.secs ss with
        | mk secs' o1 =>
          cases o1 with
          | raised e => exact ⟨⟨rfl, rfl⟩, Or.inr rfl, Or.inl rfl⟩
          | ok =>
            cases mergeProps cv k d.props sp with
            | mk props' o2 => cases o2 <;> exact ⟨⟨rfl, rfl⟩, Or.inr rfl, Or.inr rfl⟩

theorem merge_name_type (cv : Conv V) (k : Bool) (r : Ref) (d s : Sec V) :
    (merge cv k r d s).1.name = d.name ∧ (merge cv k r d s).1.type = d.type :=
  (merge_keeps cv k r d s).1

theorem merge_lists (cv : Conv V) (k : Bool) (r : Ref) (d s : Sec V) :
    ((merge cv k r d s).1.secs = d.secs ∨
      (merge cv k r d s).1.secs = (mergeSecs cv k (r.eff d.attrs) d.secs s.secs).1) ∧
    ((merge cv k r d s).1.props = d.props ∨
      (merge cv k r d s).1.props = (mergeProps cv k d.props s.props).1) :=
  (merge_keeps cv k r d s).2

theorem Ref.pick_on {α : Type} (r : Ref) (h : r.record = true) (x y : α) : r.pick x y = x := by
  simp [Ref.pick, h]

theorem Ref.pick_off {α : Type} (r : Ref) (h : r.record = false) (x y : α) : r.pick x y = y := by
  simp [Ref.pick, h]

theorem resolved_of_not_merged (a : SecAttrs) (h : a.merged = none) : a.resolved = false := by
  simp [SecAttrs.resolved, h]

theorem Ref.eff_record_on (r : Ref) (a : SecAttrs) (hr : r.record = true) (ha : a.resolved = false) :
    (r.eff a).record = true := by simp [Ref.eff, hr, ha]

/-- into a Section whose link / include is resolved nothing is recorded -/
theorem Ref.eff_record_off (r : Ref) (a : SecAttrs) (ha : a.resolved = true) :
    (r.eff a).record = false := by simp [Ref.eff, ha]

/-- The loop of `Section.merge` over the children of the source: the child `contains` (`m`) finds
    for a source child is replaced by its merge with that child (`step`), a source child that is not
    found is appended as a copy (`new`) unless its name (`na`, `nb`) is in use. `α` is the type of
    the destination's children, `β` of the source's (the same in both instances; kept apart so that
    every law says which side a name or key is read from). -/
structure Loop (α β : Type) where
  na : α → Str
  nb : β → Str
  m : β → α → Bool
  step : α → β → α × Outcome
  new : β → α

namespace Loop
variable {α β : Type} (L : Loop α β)

/-- one pass through the body of the loop -/
def iter (ds : List α) (o : β) : List α × Outcome :=
  match ds.find? (L.m o) with
  | some mine => (replaceFirst (L.m o) (L.step mine o).1 ds, (L.step mine o).2)
  | none =>
    if ds.any (fun y => L.na y == L.nb o) then (ds, .raised .keyError) else (ds ++ [L.new o], .ok)

def run (L : Loop α β) : List α → List β → List α × Outcome
  | ds, [] => (ds, .ok)
  | ds, o :: os =>
    match L.iter ds o with
    | (ds', .ok) => run L ds' os
    | r => r

theorem run_cons_ok {ds : List α} {o : β} (os : List β) (h : (L.iter ds o).2 = .ok) :
    L.run ds (o :: os) = L.run (L.iter ds o).1 os := by
  rw [run]
  revert h
  cases L.iter ds o with
  | mk ds' out => intro h; cases h; rfl

theorem run_cons_raised {ds : List α} {o : β} {e : Exc} (os : List β)
    (h : (L.iter ds o).2 = .raised e) : L.run ds (o :: os) = L.iter ds o := by
  rw [run]
  revert h
  cases L.iter ds o with
  | mk ds' out => intro h; cases h; rfl

theorem iter_ok_of_run {ds : List α} {o : β} {os : List β} (h : (L.run ds (o :: os)).2 = .ok) :
    (L.iter ds o).2 = .ok := by
  cases hi : (L.iter ds o).2 with
  | ok => rfl
  | raised e => rw [L.run_cons_raised os hi, hi] at h; exact h

theorem run_induct (P : List α → Prop) (os : List β) : ∀ ds : List α,
    (∀ o ∈ os, ∀ ds, P ds → P (L.iter ds o).1) → P ds → P (L.run ds os).1 := by
  induction os with
  | nil => exact fun _ _ h0 => h0
  | cons o os ih =>
    intro ds h h0
    have h1 := h o (List.mem_cons_self ..) ds h0
    cases hi : (L.iter ds o).2 with
    | raised e => rw [L.run_cons_raised os hi]; exact h1
    | ok =>
      rw [L.run_cons_ok os hi]
      exact ih _ (fun o' ho' => h o' (List.mem_cons_of_mem _ ho')) h1

/-- the lookup `q` sees nothing of what the pass for `o` changes or adds -/
def Blind (q : α → Bool) (o : β) : Prop :=
  (∀ y, L.m o y = true → q y = false ∧ q (L.step y o).1 = false) ∧ q (L.new o) = false

theorem find?_iter {q : α → Bool} {o : β} (h : L.Blind q o) (ds : List α) :
    (L.iter ds o).1.find? q = ds.find? q := by
  unfold iter
  split
  · rename_i mine hf
    exact find?_replaceFirst_other _ _ _ _ (fun y hy => (h.1 y hy).1)
      (h.1 mine (List.find?_some hf)).2
  · split
    · rfl
    · simp [List.find?_append, h.2]

theorem find?_run {q : α → Bool} {os : List β} (h : ∀ o ∈ os, L.Blind q o) (ds : List α) :
    (L.run ds os).1.find? q = ds.find? q :=
  L.run_induct (fun ds' => ds'.find? q = ds.find? q) os ds
    (fun o ho ds' h' => (L.find?_iter (h o ho) ds').trans h') rfl

theorem getElem?_run {os : List β} {ds : List α} {i : Nat} {c : α} (hi : ds[i]? = some c)
    (hc : ∀ o ∈ os, L.m o c = false) : (L.run ds os).1[i]? = some c := by
  refine L.run_induct (fun ds' => ds'[i]? = some c) os ds (fun o ho ds' h' => ?_) hi
  unfold iter
  split
  · exact getElem?_replaceFirst_other _ _ _ _ _ h' (hc o ho)
  · split
    · exact h'
    · exact (List.getElem?_append_left (List.getElem?_eq_some_iff.1 h').1).trans h'

/-- what a successful loop leaves under the key of a source child -/
def Result (ds ds' : List α) (o : β) : Prop :=
  (∀ mine, ds.find? (L.m o) = some mine →
    ds'.find? (L.m o) = some (L.step mine o).1 ∧ (L.step mine o).2 = .ok) ∧
  (ds.find? (L.m o) = none → ds'.find? (L.m o) = some (L.new o))

/-- merging a child or copying one keeps its name and key -/
structure Lawful : Prop where
  m_name : ∀ {o y}, L.m o y = true → L.na y = L.nb o
  m_step : ∀ o o' y, L.m o' (L.step y o).1 = L.m o' y
  na_step : ∀ o y, L.na (L.step y o).1 = L.na y
  m_new : ∀ o, L.m o (L.new o) = true
  na_new : ∀ o, L.na (L.new o) = L.nb o

variable {L}

theorem Lawful.blind (hL : L.Lawful) {q : α → Bool} {n : Str} (hq : ∀ y, q y = true → L.na y = n)
    {o : β} (hn : L.nb o ≠ n) : L.Blind q o := by
  have key : ∀ y, L.na y = L.nb o → q y = false :=
    fun y hy => Bool.eq_false_iff.2 (fun h => hn (hy.symm.trans (hq y h)))
  exact ⟨fun y hy => ⟨key y (hL.m_name hy), key _ ((hL.na_step o y).trans (hL.m_name hy))⟩,
    key _ (hL.na_new o)⟩

theorem Lawful.blind_m (hL : L.Lawful) {o o' : β} (hn : L.nb o ≠ L.nb o') : L.Blind (L.m o') o :=
  hL.blind (fun _ h => hL.m_name h) hn

theorem Lawful.iter_result (hL : L.Lawful) (ds : List α) (o : β) (hok : (L.iter ds o).2 = .ok) :
    L.Result ds (L.iter ds o).1 o := by
  unfold iter at hok ⊢
  unfold Result
  split at hok
  · rename_i mine hf
    rw [hf]
    refine ⟨fun mine' h' => ?_, nofun⟩
    cases h'
    exact ⟨find?_replaceFirst_same _ _ _ _ hf (by rw [hL.m_step]; exact List.find?_some hf), hok⟩
  · rename_i hf
    rw [hf]
    split at hok
    · cases hok
    · rename_i hn
      rw [if_neg hn]
      exact ⟨nofun, fun _ => by simp [List.find?_append, hf, hL.m_new]⟩

theorem Lawful.run_result (hL : L.Lawful) (os : List β) : ∀ ds : List α, (os.map L.nb).Nodup →
    (L.run ds os).2 = .ok → ∀ o ∈ os, L.Result ds (L.run ds os).1 o := by
  induction os with
  | nil => exact fun _ _ _ _ h => nomatch h
  | cons o0 os ih =>
    intro ds hnd hok o ho
    rw [List.map_cons, List.nodup_cons] at hnd
    have hne : ∀ o' ∈ os, L.nb o' ≠ L.nb o0 := fun o' ho' he => hnd.1 (he ▸ List.mem_map_of_mem ho')
    have hi := L.iter_ok_of_run hok
    rw [L.run_cons_ok os hi] at hok ⊢
    rcases List.mem_cons.1 ho with rfl | ho'
    · have := hL.iter_result ds o hi
      unfold Result at this ⊢
      rwa [L.find?_run (fun o' ho' => hL.blind_m (hne o' ho'))]
    · have := ih _ hnd.2 hok o ho'
      unfold Result at this ⊢
      rwa [L.find?_iter (hL.blind_m (hne o ho').symm)] at this

theorem iter_ok {ds : List α} {o : β}
    (h1 : ∀ mine, ds.find? (L.m o) = some mine → (L.step mine o).2 = .ok)
    (h2 : ds.find? (L.m o) = none → ds.any (fun y => L.na y == L.nb o) = false) :
    (L.iter ds o).2 = .ok := by
  unfold iter
  split
  · rename_i mine hf; exact h1 mine hf
  · rename_i hf; rw [h2 hf]; rfl

theorem Lawful.run_ok (hL : L.Lawful) (os : List β) : ∀ ds : List α, (os.map L.nb).Nodup →
    (∀ o ∈ os, ∀ mine, ds.find? (L.m o) = some mine → (L.step mine o).2 = .ok) →
    (∀ o ∈ os, ds.find? (L.m o) = none → ds.any (fun y => L.na y == L.nb o) = false) →
    (L.run ds os).2 = .ok := by
  induction os with
  | nil => exact fun _ _ _ _ => rfl
  | cons o0 os ih =>
    intro ds hnd h1 h2
    rw [List.map_cons, List.nodup_cons] at hnd
    have hne : ∀ o' ∈ os, L.nb o0 ≠ L.nb o' := fun o' ho' he => hnd.1 (he ▸ List.mem_map_of_mem ho')
    rw [L.run_cons_ok os (iter_ok (h1 o0 (List.mem_cons_self ..)) (h2 o0 (List.mem_cons_self ..)))]
    refine ih _ hnd.2 (fun o' ho' => ?_) (fun o' ho' => ?_)
    · rw [L.find?_iter (hL.blind_m (hne o' ho'))]
      exact h1 o' (List.mem_cons_of_mem _ ho')
    · rw [L.find?_iter (hL.blind_m (hne o' ho')), any_eq_find?,
        L.find?_iter (hL.blind (fun _ h => eq_of_beq h) (hne o' ho')), ← any_eq_find?]
      exact h2 o' (List.mem_cons_of_mem _ ho')

theorem Lawful.iter_new (hL : L.Lawful) {ds : List α} {o : β}
    (hn : ds.any (fun y => L.na y == L.nb o) = false) : L.iter ds o = (ds ++ [L.new o], .ok) := by
  have hf : ds.find? (L.m o) = none := List.find?_eq_none.2 fun y hy hm =>
    (List.any_eq_false.1 hn) y hy (beq_iff_eq.2 (hL.m_name hm))
  rw [iter, hf, hn]; rfl

theorem Lawful.run_disjoint (hL : L.Lawful) (os : List β) : ∀ ds : List α, (os.map L.nb).Nodup →
    (∀ o ∈ os, ds.any (fun y => L.na y == L.nb o) = false) →
    L.run ds os = (ds ++ os.map L.new, .ok) := by
  induction os with
  | nil => intro ds _ _; rw [run, List.map_nil, List.append_nil]
  | cons o os ih =>
    intro ds hnd hd
    rw [List.map_cons, List.nodup_cons] at hnd
    have hi := hL.iter_new (hd o (List.mem_cons_self ..))
    rw [L.run_cons_ok os (congrArg Prod.snd hi), hi]
    refine (ih (ds ++ [L.new o]) hnd.2 fun o' ho' => ?_).trans (by rw [List.append_assoc]; rfl)
    rw [List.any_append, hd o' (List.mem_cons_of_mem _ ho'), List.any_cons, hL.na_new, List.any_nil,
      Bool.or_false, Bool.false_or, beq_eq_false_iff_ne]
    exact fun he => hnd.1 (he ▸ List.mem_map_of_mem ho')

end Loop

def secLoop (cv : Conv V) (k : Bool) (r : Ref) : Loop (Sec V) (Sec V) where
  na := (·.name)
  nb := (·.name)
  m o := secMatch o.name o.type
  step mine o := merge cv k (r.child o.name) mine o
  new o := cloneMerged (r.child o.name) o

def propLoop (cv : Conv V) (k : Bool) : Loop (PropT V) (PropT V) where
  na := (·.name)
  nb := (·.name)
  m o p := p.name == o.name
  step := propMerge cv k
  new o := o

theorem mergeSecs_eq_run (cv : Conv V) (k : Bool) (r : Ref) (os : List (Sec V)) :
    ∀ dsecs, mergeSecs cv k r dsecs os = (secLoop cv k r).run dsecs os := by
  induction os with
  | nil => intro dsecs; rw [mergeSecs, Loop.run]
  | cons o os ih =>
    intro dsecs
    rw [mergeSecs, Loop.run, Loop.iter]
    simp only [ih]
    dsimp only [findSec, secNameIn, secLoop]
    cases List.find? (secMatch o.name o.type) dsecs with
    | none => by_cases hn : (dsecs.any fun c => c.name == o.name) = true <;> simp [hn]
    | some mine =>
      dsimp only
      cases merge cv k (r.child o.name) mine o with
      | mk m' out => cases out <;> rfl

theorem mergeProps_eq_run (cv : Conv V) (k : Bool) (os : List (PropT V)) :
    ∀ dprops, mergeProps cv k dprops os = (propLoop cv k).run dprops os := by
  induction os with
  | nil => intro dprops; rw [mergeProps, Loop.run]
  | cons o os ih =>
    intro dprops
    rw [mergeProps, Loop.run, Loop.iter]
    simp only [ih]
    dsimp only [findProp, propNameIn, propLoop]
    cases List.find? (fun p => p.name == o.name) dprops with
    | none => by_cases hn : (dprops.any fun p => p.name == o.name) = true <;> simp [hn]
    | some mine =>
      dsimp only
      cases propMerge cv k mine o with
      | mk m' out => cases out <;> rfl

theorem secLoop_lawful (cv : Conv V) (k : Bool) (r : Ref) : (secLoop cv k r).Lawful where
  m_name h := ((secMatch_iff _ _ _).1 h).1
  m_step o o' y := by
    have h := merge_name_type cv k (r.child o.name) y o
    simp only [secLoop, secMatch, h.1, h.2]
  na_step o y := (merge_name_type ..).1
  m_new o := (secMatch_iff _ _ _).2 ⟨rfl, rfl⟩
  na_new o := rfl

theorem propLoop_lawful (cv : Conv V) (k : Bool) : (propLoop cv k).Lawful where
  m_name h := eq_of_beq h
  m_step o o' y := by simp only [propLoop, propMerge_name]
  na_step o y := propMerge_name ..
  m_new o := beq_self_eq_true _
  na_new o := rfl

theorem mergeSecs_keeps (cv : Conv V) (k : Bool) (r : Ref) (dsecs os : List (Sec V)) (i : Nat)
    (c : Sec V) (hi : dsecs[i]? = some c) (hno : ∀ o ∈ os, ¬ (o.name = c.name ∧ o.type = c.type)) :
    (mergeSecs cv k r dsecs os).1[i]? = some c := by
  rw [mergeSecs_eq_run]
  refine Loop.getElem?_run _ hi fun o ho => Bool.eq_false_iff.2 fun h => hno o ho ?_
  exact ⟨((secMatch_iff _ _ c).1 h).1.symm, ((secMatch_iff _ _ c).1 h).2.symm⟩

theorem mergeProps_keeps (cv : Conv V) (k : Bool) (dprops os : List (PropT V)) (i : Nat)
    (c : PropT V) (hi : dprops[i]? = some c) (hno : ∀ o ∈ os, o.name ≠ c.name) :
    (mergeProps cv k dprops os).1[i]? = some c := by
  rw [mergeProps_eq_run]
  exact Loop.getElem?_run _ hi fun o ho => Bool.eq_false_iff.2 fun h => hno o ho (eq_of_beq h).symm

theorem propMergeCheck_eq (cv : Conv V) (k : Bool) (d s : PropT V) :
    propMergeCheck cv k d s =
      if validate cv d.dtype s.values && !(k && propConflict d s) then .ok
      else .raised .valueError := by
  unfold propMergeCheck
  cases validate cv d.dtype s.values <;> cases k <;> cases propConflict d s <;> rfl

theorem propMergeCheck_ok_iff (cv : Conv V) (k : Bool) (d s : PropT V) :
    propMergeCheck cv k d s = .ok ↔
      validate cv d.dtype s.values = true ∧ (k = true → propConflict d s = false) := by
  rw [propMergeCheck_eq]
  cases validate cv d.dtype s.values <;> cases k <;> cases propConflict d s <;> simp

/-- the loop shared by `mergeCheckSecs` and `mergeCheckProps` -/
def checkLoop {α β : Type} (find : β → Option α) (chk : α → β → Outcome) : List β → Outcome
  | [] => .ok
  | o :: os =>
    match find o with
    | some mine =>
      match chk mine o with
      | .raised e => .raised e
      | .ok => checkLoop find chk os
    | none => checkLoop find chk os

theorem checkLoop_ok_iff {α β : Type} (find : β → Option α) (chk : α → β → Outcome) (os : List β) :
    checkLoop find chk os = .ok ↔ ∀ o ∈ os, ∀ mine, find o = some mine → chk mine o = .ok := by
  induction os with
  | nil => simp [checkLoop]
  | cons o os ih =>
    rw [checkLoop, List.forall_mem_cons, ← ih]
    cases find o with
    | none => simp
    | some mine => cases hc : chk mine o <;> simp [hc]

theorem checkLoop_raised {α β : Type} (find : β → Option α) (chk : α → β → Outcome) (e : Exc)
    (os : List β) (h : checkLoop find chk os = .raised e) :
    ∃ o ∈ os, ∃ mine, find o = some mine ∧ chk mine o = .raised e := by
  induction os with
  | nil => cases h
  | cons o os ih =>
    have ih' : checkLoop find chk os = .raised e →
        ∃ o' ∈ o :: os, ∃ mine, find o' = some mine ∧ chk mine o' = .raised e := fun h' => by
      obtain ⟨o', ho', hm⟩ := ih h'
      exact ⟨o', List.mem_cons_of_mem _ ho', hm⟩
    rw [checkLoop] at h
    split at h
    · rename_i mine hf
      split at h
      · rename_i e' hc
        exact ⟨o, List.mem_cons_self .., mine, hf, h ▸ hc⟩
      · exact ih' h
    · exact ih' h

theorem mergeCheckProps_eq (cv : Conv V) (k : Bool) (dprops os : List (PropT V)) :
    mergeCheckProps cv k dprops os =
      checkLoop (fun o => findProp dprops o.name) (propMergeCheck cv k) os := by
  induction os with
  | nil => rfl
  | cons o os ih =>
    rw [mergeCheckProps, checkLoop, ih]
    cases findProp dprops o.name with
    | none => rfl
    | some mine => dsimp only; cases propMergeCheck cv k mine o <;> rfl

theorem mergeCheckSecs_eq (cv : Conv V) (k : Bool) (dsecs os : List (Sec V)) :
    mergeCheckSecs cv k dsecs os =
      checkLoop (fun o => findSec dsecs o.name o.type) (mergeCheck cv k) os := by
  induction os with
  | nil => rw [mergeCheckSecs, checkLoop]
  | cons o os ih =>
    rw [mergeCheckSecs, checkLoop, ih]
    cases findSec dsecs o.name o.type with
    | none => rfl
    | some mine => dsimp only; cases mergeCheck cv k mine o <;> rfl

theorem mergeCheckProps_ok_iff (cv : Conv V) (k : Bool) (dprops os : List (PropT V)) :
    mergeCheckProps cv k dprops os = .ok ↔
      ∀ o ∈ os, ∀ mine, findProp dprops o.name = some mine → propMergeCheck cv k mine o = .ok := by
  rw [mergeCheckProps_eq]; exact checkLoop_ok_iff ..

theorem mergeCheckSecs_ok_iff (cv : Conv V) (k : Bool) (dsecs os : List (Sec V)) :
    mergeCheckSecs cv k dsecs os = .ok ↔
      ∀ o ∈ os, ∀ mine, findSec dsecs o.name o.type = some mine → mergeCheck cv k mine o = .ok := by
  rw [mergeCheckSecs_eq]; exact checkLoop_ok_iff ..

theorem mergeCheck_ok_iff (cv : Conv V) (k : Bool) (d : Sec V) (sa : SecAttrs)
    (sp : List (PropT V)) (ss : List (Sec V)) :
    mergeCheck cv k d (.mk sa sp ss) = .ok ↔
      (k && secConflict d.attrs sa) = false ∧ mergeCheckSecs cv k d.secs ss = .ok ∧
      mergeCheckProps cv k d.props sp = .ok := by
  rw [mergeCheck]
  cases (k && secConflict d.attrs sa) <;> cases mergeCheckSecs cv k d.secs ss <;> simp

theorem typeClashSecs_false_iff (dsecs os : List (Sec V)) :
    typeClashSecs dsecs os = false ↔
      ∀ o ∈ os, (∀ mine, findSec dsecs o.name o.type = some mine → typeClash mine o = false) ∧
                (findSec dsecs o.name o.type = none → secNameIn dsecs o.name = false) := by
  induction os with
  | nil => exact ⟨fun _ _ h => (nomatch h), fun _ => rfl⟩
  | cons o os ih =>
    rw [typeClashSecs, Bool.or_eq_false_iff, ih, List.forall_mem_cons]
    cases findSec dsecs o.name o.type with
    | none =>
      exact ⟨fun h => ⟨⟨fun _ hm => (nomatch hm), fun _ => h.1⟩, h.2⟩, fun h => ⟨h.1.2 rfl, h.2⟩⟩
    | some mine =>
      exact ⟨fun h => ⟨⟨fun _ hm => Option.some.inj hm ▸ h.1, fun hm => (nomatch hm)⟩, h.2⟩,
        fun h => ⟨h.1.1 mine rfl, h.2⟩⟩

theorem typedSecs_iff (os : List (Sec V)) : typedSecs os = true ↔ ∀ o ∈ os, typedSec o = true := by
  induction os with
  | nil => simp [typedSecs]
  | cons o os ih => unfold typedSecs; simp [ih]

theorem typedSec_iff (d : Sec V) :
    typedSec d = true ↔ (∀ p ∈ d.props, typedProp p = true) ∧ (∀ c ∈ d.secs, typedSec c = true) := by
  cases d with
  | mk a ps ss => rw [typedSec, Bool.and_eq_true, typedSecs_iff]; simp

theorem namesNodup_iff (l : List Str) : namesNodup l = true ↔ l.Nodup := by
  induction l with
  | nil => simp [namesNodup]
  | cons n r ih => simp [namesNodup, ih]

theorem secNameIn_eq_false (l : List (Sec V)) (n : Str) :
    secNameIn l n = false ↔ n ∉ l.map (·.name) := by
  rw [secNameIn, List.any_eq_false, List.mem_map]
  exact ⟨fun h ⟨c, hc, he⟩ => h c hc (beq_iff_eq.2 he), fun h c hc he => h ⟨c, hc, eq_of_beq he⟩⟩

theorem wfSecs_iff (cv : Conv V) (os : List (Sec V)) :
    wfSecs cv os = true ↔ (∀ o ∈ os, wfSec cv o = true) ∧ (os.map (·.name)).Nodup := by
  induction os with
  | nil => simp [wfSecs]
  | cons o os ih =>
    rw [wfSecs, Bool.and_eq_true, Bool.and_eq_true, Bool.not_eq_true', ih, List.map_cons,
      List.nodup_cons, List.forall_mem_cons, secNameIn_eq_false]
    exact ⟨fun ⟨⟨a, b⟩, c, d⟩ => ⟨⟨a, c⟩, b, d⟩, fun ⟨⟨a, c⟩, b, d⟩ => ⟨⟨a, b⟩, c, d⟩⟩

theorem wfSec_mk (cv : Conv V) (a : SecAttrs) (ps : List (PropT V)) (ss : List (Sec V)) :
    wfSec cv (.mk a ps ss) = true ↔
      (ps.map (·.name)).Nodup ∧ (∀ p ∈ ps, propHomog cv p = true) ∧
      (∀ o ∈ ss, wfSec cv o = true) ∧ (ss.map (·.name)).Nodup := by
  rw [wfSec, Bool.and_eq_true, Bool.and_eq_true, namesNodup_iff, wfSecs_iff, List.all_eq_true,
    and_assoc]

theorem validate_sublist (cv : Conv V) (dt : Option DType) (l l' : List V)
    (h : validate cv dt l = true) (hs : ∀ v ∈ l', v ∈ l) : validate cv dt l' = true := by
  unfold validate at *
  simp only [List.all_eq_true] at *
  intro v hv; exact h v (hs v hv)

theorem toAdd_nil_own (cv : Conv V) (src : List V) : toAdd cv [] src = src := by
  unfold toAdd; simp

theorem propMerge_ok (cv : Conv V) (k : Bool) (d s : PropT V)
    (hck : propMergeCheck cv k d s = .ok) (hty : typedProp d = true) (hh : propHomog cv s = true) :
    (propMerge cv k d s).2 = .ok := by
  have hval := ((propMergeCheck_ok_iff ..).1 hck).1
  unfold propMerge
  rw [hck]
  simp only
  unfold extend
  have hv1 : (fillProp d s).values = d.values := rfl
  have hd1 : (fillProp d s).dtype = d.dtype := rfl
  rw [hv1, hd1]
  by_cases he : d.values.isEmpty = true
  · simp only [he, if_true]
    have hnil : d.values = [] := List.isEmpty_iff.1 he
    rw [hnil, toAdd_nil_own]
    unfold setValues
    cases hs : s.values with
    | nil => rfl
    | cons v0 vs =>
      simp only
      have : validate cv (dtypeFor cv (fillProp d s) v0) (v0 :: vs) = true := by
        unfold dtypeFor
        rw [hd1]
        cases hdt : d.dtype with
        | none =>
          simp only
          unfold propHomog at hh
          rw [hs] at hh
          exact hh
        | some t =>
          simp only
          rw [hdt, hs] at hval
          exact hval
      rw [this]; rfl
  · simp only [he]
    cases hdt : d.dtype with
    | none =>
      rw [typedProp, hdt] at hty
      exact absurd ((Bool.or_false _).symm.trans hty) he
    | some t =>
      simp only
      have h1 : extendRefuses cv t (toAdd cv d.values s.values) false = false := by
        cases toAdd cv d.values s.values <;> rfl
      have h2 : validate cv (some t) (toAdd cv d.values s.values) = true := by
        rw [hdt] at hval
        exact validate_sublist cv _ _ _ hval fun v hv => (List.mem_filter.1 hv).1
      rw [h1, h2]; rfl

theorem merge_ok_of_check (cv : Conv V) (k : Bool) :
    ∀ (s : Sec V) (r : Ref) (d : Sec V), wfSec cv s = true → typedSec d = true →
      typeClash d s = false → mergeCheck cv k d s = .ok → (merge cv k r d s).2 = .ok := by
  intro s
  induction s using Sec.induct with
  | mk sa sp ss ih =>
    intro r d hwf hty hcl hck
    obtain ⟨hnd, hh, hwfs, hnds⟩ := (wfSec_mk ..).1 hwf
    have hty' := (typedSec_iff d).1 hty
    obtain ⟨-, hcs, hcp⟩ := (mergeCheck_ok_iff ..).1 hck
    have hcl' := hcl
    rw [typeClash, typeClashSecs_false_iff] at hcl'
    rw [mergeCheckSecs_ok_iff] at hcs
    rw [mergeCheckProps_ok_iff] at hcp
    have h1 : (mergeSecs cv k (r.eff d.attrs) d.secs ss).2 = .ok := by
      rw [mergeSecs_eq_run]
      exact (secLoop_lawful ..).run_ok ss d.secs hnds
        (fun o ho mine hf => ih o ho _ mine (hwfs o ho) (hty'.2 mine (findSec_some hf).1)
          ((hcl' o ho).1 mine hf) (hcs o ho mine hf))
        (fun o ho => (hcl' o ho).2)
    have h2 : (mergeProps cv k d.props sp).2 = .ok := by
      rw [mergeProps_eq_run]
      exact (propLoop_lawful ..).run_ok sp d.props hnd
        (fun o ho mine hf => propMerge_ok cv k mine o (hcp o ho mine hf)
          (hty'.1 mine (findProp_some hf).1) (hh o ho))
        (fun o _ hf => (findProp_none_iff _ _).1 hf)
    rw [merge, hck]
    simp only [hcl, Bool.false_eq_true, if_false]
    split
    · rename_i secs' e he; rw [he] at h1; cases h1
    · split
      · rename_i props' e he; rw [he] at h2; cases h2
      · rfl

theorem mergeSecs_ok_of_check (cv : Conv V) (k : Bool) :
    ∀ (os : List (Sec V)) (r : Ref) (dsecs : List (Sec V)), wfSecs cv os = true →
      (∀ o ∈ os, ∀ mine, findSec dsecs o.name o.type = some mine →
        typedSec mine = true ∧ typeClash mine o = false ∧ mergeCheck cv k mine o = .ok) →
      (∀ o ∈ os, findSec dsecs o.name o.type = none → secNameIn dsecs o.name = false) →
      (mergeSecs cv k r dsecs os).2 = .ok := by
  intro os r dsecs hwf hm hn
  rw [wfSecs_iff] at hwf
  rw [mergeSecs_eq_run]
  exact (secLoop_lawful ..).run_ok os dsecs hwf.2 (fun o ho mine hf =>
    merge_ok_of_check cv k o _ mine (hwf.1 o ho) (hm o ho mine hf).1 (hm o ho mine hf).2.1
      (hm o ho mine hf).2.2) hn

theorem propMergeCheck_raised (cv : Conv V) (k : Bool) (d s : PropT V) (e : Exc)
    (h : propMergeCheck cv k d s = .raised e) : e = .valueError := by
  rw [propMergeCheck_eq] at h
  split at h
  · cases h
  · exact (Outcome.raised.inj h).symm

theorem mergeCheck_raised (cv : Conv V) (k : Bool) :
    ∀ (s d : Sec V) (e : Exc), mergeCheck cv k d s = .raised e → e = .valueError := by
  intro s
  induction s using Sec.induct with
  | mk sa sp ss ih =>
    intro d e h
    rw [mergeCheck] at h
    split at h
    · injection h with h; exact h.symm
    · split at h
      · rename_i e' he
        injection h with h; subst h
        rw [mergeCheckSecs_eq] at he
        obtain ⟨o, ho, mine, -, hc⟩ := checkLoop_raised _ _ _ _ he
        exact ih o ho mine _ hc
      · rw [mergeCheckProps_eq] at h
        obtain ⟨o, -, mine, -, hc⟩ := checkLoop_raised _ _ _ _ h
        exact propMergeCheck_raised cv k mine o e hc

theorem mergeCheckSecs_raised (cv : Conv V) (k : Bool) :
    ∀ (os dsecs : List (Sec V)) (e : Exc), mergeCheckSecs cv k dsecs os = .raised e → e = .valueError := by
  intro os dsecs e h
  rw [mergeCheckSecs_eq] at h
  obtain ⟨o, -, mine, -, hc⟩ := checkLoop_raised _ _ _ _ h
  exact mergeCheck_raised cv k o mine e hc

theorem propsConflict_false_of (dprops os : List (PropT V))
    (h : ∀ o ∈ os, ∀ mine, findProp dprops o.name = some mine → propConflict mine o = false) :
    propsConflict dprops os = false := by
  induction os with
  | nil => rfl
  | cons o os ih =>
    rw [propsConflict, ih fun o' ho' => h o' (List.mem_cons_of_mem _ ho'), Bool.or_false]
    cases hf : findProp dprops o.name with
    | none => rfl
    | some mine => exact h o (List.mem_cons_self ..) mine hf

theorem secsConflict_false_of (dsecs os : List (Sec V))
    (h : ∀ o ∈ os, ∀ mine, findSec dsecs o.name o.type = some mine → treeConflict mine o = false) :
    secsConflict dsecs os = false := by
  induction os with
  | nil => rfl
  | cons o os ih =>
    rw [secsConflict, ih fun o' ho' => h o' (List.mem_cons_of_mem _ ho'), Bool.or_false]
    cases hf : findSec dsecs o.name o.type with
    | none => rfl
    | some mine => exact h o (List.mem_cons_self ..) mine hf

theorem treeConflict_false (cv : Conv V) :
    ∀ (s d : Sec V), mergeCheck cv true d s = .ok → treeConflict d s = false := by
  intro s
  induction s using Sec.induct with
  | mk sa sp ss ih =>
    intro d h
    obtain ⟨hsc, hcs, hcp⟩ := (mergeCheck_ok_iff ..).1 h
    rw [mergeCheckSecs_ok_iff] at hcs
    rw [mergeCheckProps_ok_iff] at hcp
    rw [treeConflict, ← Bool.true_and (secConflict d.attrs sa), hsc,
      propsConflict_false_of _ _ fun o ho mine hf =>
        ((propMergeCheck_ok_iff ..).1 (hcp o ho mine hf)).2 rfl,
      secsConflict_false_of _ _ fun o ho mine hf => ih o ho mine (hcs o ho mine hf)]
    rfl

theorem secsConflict_false (cv : Conv V) :
    ∀ (os dsecs : List (Sec V)), mergeCheckSecs cv true dsecs os = .ok → secsConflict dsecs os = false :=
  fun _ _ h => secsConflict_false_of _ _ fun o ho mine hf =>
    treeConflict_false cv o mine ((mergeCheckSecs_ok_iff ..).1 h o ho mine hf)

theorem mergeCheck_conflict (cv : Conv V) (d s : Sec V) (h : treeConflict d s = true) :
    mergeCheck cv true d s = .raised .valueError := by
  cases hc : mergeCheck cv true d s with
  | ok => rw [treeConflict_false cv s d hc] at h; cases h
  | raised e => rw [mergeCheck_raised cv true s d e hc]

theorem typeClashSecs_congr (l l' os : List (Sec V))
    (h : ∀ o ∈ os, findSec l' o.name o.type = findSec l o.name o.type ∧
                   secNameIn l' o.name = secNameIn l o.name) :
    typeClashSecs l' os = typeClashSecs l os := by
  induction os with
  | nil => rfl
  | cons o os ih =>
    unfold typeClashSecs
    rw [(h o (List.mem_cons_self ..)).1, (h o (List.mem_cons_self ..)).2,
        ih (fun o' ho' => h o' (List.mem_cons_of_mem _ ho'))]

theorem typeClashSecs_disjoint (dsecs os : List (Sec V))
    (h : ∀ o ∈ os, secNameIn dsecs o.name = false) : typeClashSecs dsecs os = false := by
  rw [typeClashSecs_false_iff]
  exact fun o ho => ⟨fun mine hf => (nomatch (findSec_none_of_name _ (h o ho)).symm.trans hf),
    fun _ => h o ho⟩

theorem merge_of_check_raised (cv : Conv V) (k : Bool) (r : Ref) (d s : Sec V) (e : Exc)
    (hck : mergeCheck cv k d s = .raised e) : merge cv k r d s = (d, .raised e) := by
  cases s with
  | mk sa sp ss => unfold merge; rw [hck]

theorem merge_of_clash (cv : Conv V) (k : Bool) (r : Ref) (d s : Sec V)
    (hck : mergeCheck cv k d s = .ok) (hcl : typeClash d s = true) :
    merge cv k r d s = (d, .raised .valueError) := by
  cases s with
  | mk sa sp ss => unfold merge; rw [hck]; simp only [hcl, if_true]

theorem merge_raised (cv : Conv V) (k : Bool) (r : Ref) (d s : Sec V) (e : Exc)
    (hwf : wfSec cv s = true) (hty : typedSec d = true) (hr : (merge cv k r d s).2 = .raised e) :
    (merge cv k r d s).1 = d ∧ e = .valueError ∧
      (mergeCheck cv k d s = .raised .valueError ∨ typeClash d s = true) := by
  cases hck : mergeCheck cv k d s with
  | raised e' =>
    cases mergeCheck_raised cv k s d e' hck
    rw [merge_of_check_raised cv k r d s _ hck] at hr ⊢
    cases hr
    exact ⟨rfl, rfl, Or.inl rfl⟩
  | ok =>
    cases hcl : typeClash d s with
    | true =>
      rw [merge_of_clash cv k r d s hck hcl] at hr ⊢
      cases hr
      exact ⟨rfl, rfl, Or.inr rfl⟩
    | false => rw [merge_ok_of_check cv k s r d hwf hty hcl hck] at hr; cases hr

theorem merge_ok_shape (cv : Conv V) (k : Bool) (r : Ref) (d s : Sec V)
    (h : (merge cv k r d s).2 = .ok) :
    mergeCheck cv k d s = .ok ∧
    (mergeSecs cv k (r.eff d.attrs) d.secs s.secs).2 = .ok ∧ (mergeProps cv k d.props s.props).2 = .ok ∧
    (merge cv k r d s).1 =
      .mk { d.attrs with definition := fillText d.attrs.definition s.attrs.definition
                         reference := fillText d.attrs.reference s.attrs.reference
                         filledDef := (r.eff d.attrs).pick
                           (recFill d.attrs.definition s.attrs.definition d.attrs.filledDef)
                           d.attrs.filledDef
                         filledRef := (r.eff d.attrs).pick
                           (recFill d.attrs.reference s.attrs.reference d.attrs.filledRef)
                           d.attrs.filledRef
                         merged := (r.eff d.attrs).pick (some r) d.attrs.merged }
          (mergeProps cv k d.props s.props).1 (mergeSecs cv k (r.eff d.attrs) d.secs s.secs).1 := by
  cases s with
  | mk sa sp ss =>
    revert h
    rw [merge]
    dsimp only [Sec.secs_mk, Sec.props_mk, Sec.attrs_mk]
    cases mergeCheck cv k d (.mk sa sp ss) with
    | raised e => exact nofun
    | ok =>
      dsimp only
      cases typeClash d (.mk sa sp ss) with
      | true => exact nofun
      | false =>
        cases mergeSecs cv k (r.eff d.attrs) d.secs ss with
        | mk secs' o1 =>
          cases o1 with
          | raised e => exact nofun
          | ok =>
            cases mergeProps cv k d.props sp with
            | mk props' o2 =>
              cases o2 with
              | raised e => exact nofun
              | ok => exact fun _ => ⟨rfl, rfl, rfl, rfl⟩

theorem merge_ok_no_clash (cv : Conv V) (k : Bool) (r : Ref) (d s : Sec V)
    (h : (merge cv k r d s).2 = .ok) : typeClash d s = false := by
  cases hcl : typeClash d s with
  | false => rfl
  | true =>
    cases hck : mergeCheck cv k d s with
    | ok => rw [merge_of_clash cv k r d s hck hcl] at h; cases h
    | raised e => rw [merge_of_check_raised cv k r d s e hck] at h; cases h

/-- element-wise relation between two lists of the same length -/
inductive Forall2 {α β : Type} (R : α → β → Prop) : List α → List β → Prop
  | nil : Forall2 R [] []
  | cons {a b l l'} : R a b → Forall2 R l l' → Forall2 R (a :: l) (b :: l')

theorem validate_forall2 (cv : Conv V) (dt : Option DType) (l : List V)
    (h : validate cv dt l = true) :
    Forall2 (fun v w => cv.get dt v = some w) l (l.filterMap (cv.get dt)) := by
  induction l with
  | nil => exact Forall2.nil
  | cons v vs ih =>
    unfold validate at h ih
    simp only [List.all_cons, Bool.and_eq_true] at h
    cases hg : cv.get dt v with
    | none => rw [hg] at h; simp at h
    | some w =>
      rw [List.filterMap_cons, hg]
      exact Forall2.cons hg (ih h.2)

theorem setValues_ok (cv : Conv V) (p p' : PropT V) (nv : List V)
    (h : setValues cv p nv = (p', .ok)) :
    p'.values = nv.filterMap (cv.get p'.dtype) ∧ validate cv p'.dtype nv = true ∧
    (p'.dtype = p.dtype ∨ (p.dtype = none ∧ ∃ v0 vs, nv = v0 :: vs ∧ p'.dtype = some (cv.infer v0))) ∧
    p' = { p with dtype := p'.dtype, values := p'.values } := by
  cases nv with
  | nil =>
    simp only [setValues] at h
    cases h
    exact ⟨rfl, rfl, Or.inl rfl, rfl⟩
  | cons v0 vs =>
    simp only [setValues] at h
    split at h
    · cases h
    · rename_i hval
      cases h
      simp only [Bool.not_eq_true, Bool.not_eq_false'] at hval
      refine ⟨rfl, hval, ?_, rfl⟩
      simp only [dtypeFor]
      cases hdt : p.dtype with
      | none => exact Or.inr ⟨rfl, v0, vs, rfl, rfl⟩
      | some t => exact Or.inl rfl

theorem extend_ok (cv : Conv V) (p p' : PropT V) (obj : List V) (k : Bool)
    (h : extend cv p obj k = (p', .ok)) :
    p'.values = p.values ++ obj.filterMap (cv.get p'.dtype) ∧ validate cv p'.dtype obj = true ∧
    (p'.dtype = p.dtype ∨
      (p.dtype = none ∧ p.values = [] ∧ ∃ v0 vs, obj = v0 :: vs ∧ p'.dtype = some (cv.infer v0))) ∧
    p' = { p with dtype := p'.dtype, values := p'.values } := by
  unfold extend at h
  by_cases he : p.values.isEmpty = true
  · rw [if_pos he] at h
    have hnil : p.values = [] := List.isEmpty_iff.1 he
    have := setValues_ok cv p p' obj h
    rw [hnil, List.nil_append]
    refine ⟨this.1, this.2.1, ?_, this.2.2.2⟩
    rcases this.2.2.1 with h1 | ⟨h1, h2⟩
    · exact Or.inl h1
    · exact Or.inr ⟨h1, rfl, h2⟩
  · rw [if_neg he] at h
    cases hdt : p.dtype with
    | none => rw [hdt] at h; cases h
    | some t =>
      rw [hdt] at h; simp only at h
      by_cases hr : extendRefuses cv t obj k = true
      · rw [if_pos hr] at h; cases h
      · rw [if_neg hr] at h
        by_cases hval : (!validate cv (some t) obj) = true
        · rw [if_pos hval] at h; cases h
        · rw [if_neg hval] at h
          cases h
          simp only [Bool.not_eq_true, Bool.not_eq_false'] at hval
          exact ⟨rfl, hval, Or.inl rfl, rfl⟩

theorem propMerge_spec (cv : Conv V) (k : Bool) (d s d' : PropT V)
    (h : propMerge cv k d s = (d', .ok)) :
    d'.values = d.values ++ (toAdd cv d.values s.values).filterMap (cv.get d'.dtype) ∧
    validate cv d'.dtype (toAdd cv d.values s.values) = true ∧
    (d'.dtype = d.dtype ∨
      (d.dtype = none ∧ d.values = [] ∧ ∃ v0 vs, s.values = v0 :: vs ∧ d'.dtype = some (cv.infer v0))) ∧
    d' = { fillProp d s with dtype := d'.dtype, values := d'.values } := by
  unfold propMerge at h
  split at h
  · cases h
  · have := extend_ok cv _ _ _ _ h
    have hv1 : (fillProp d s).values = d.values := rfl
    have hd1 : (fillProp d s).dtype = d.dtype := rfl
    rw [hv1, hd1] at this
    refine ⟨this.1, this.2.1, ?_, this.2.2.2⟩
    rcases this.2.2.1 with h1 | ⟨h1, h2, v0, vs, h3, h4⟩
    · exact Or.inl h1
    · refine Or.inr ⟨h1, h2, v0, vs, ?_, h4⟩
      rw [h2, toAdd_nil_own] at h3; exact h3

/-- a set attribute is kept by `fillText` / `fillOpt`, an unset one is taken from the source -/
theorem fillText_some (a : Str) (b : Option Str) : fillText (some a) b = some a := rfl
theorem fillText_none (b : Str) (hb : b ≠ []) : fillText none (some b) = some b := by
  unfold fillText; cases b with
  | nil => exact absurd rfl hb
  | cons c cs => rfl
theorem fillText_none_none : fillText none none = none := rfl
theorem fillOpt_some {α : Type} (a : α) (b : Option α) : fillOpt (some a) b = some a := rfl
theorem fillOpt_none {α : Type} (b : Option α) : fillOpt none b = b := rfl

theorem coversList_iff (rs os : List (Sec V)) :
    CoversList rs os ↔ ∀ o ∈ os, ∃ c, findSec rs o.name o.type = some c ∧ Covers c o := by
  induction os with
  | nil => exact ⟨fun _ _ h => (nomatch h), fun _ => trivial⟩
  | cons o os ih => rw [CoversList, ih, List.forall_mem_cons]

theorem covers_same (cv : Conv V) :
    ∀ (s r : Sec V), wfSec cv s = true → r.props = s.props → r.secs = s.secs → Covers r s := by
  intro s
  induction s using Sec.induct with
  | mk sa sp ss ih =>
    intro r hwf hp hs
    obtain ⟨-, -, hwfs, hnds⟩ := (wfSec_mk ..).1 hwf
    rw [Covers, hp, hs, coversList_iff]
    exact ⟨fun p hp' => List.any_eq_true.2 ⟨p, hp', beq_self_eq_true _⟩,
      fun o ho => ⟨o, findSec_self ss hnds o ho, ih o ho o (hwfs o ho) rfl rfl⟩⟩

theorem coversList_self (cv : Conv V) :
    ∀ (os rs : List (Sec V)), wfSecs cv os = true →
      (∀ o ∈ os, findSec rs o.name o.type = some o) → CoversList rs os := by
  intro os rs hwf hf
  rw [coversList_iff]
  exact fun o ho => ⟨o, hf o ho, covers_same cv o o (((wfSecs_iff ..).1 hwf).1 o ho) rfl rfl⟩

theorem mergeSecs_covers_of (cv : Conv V) (k : Bool) (os : List (Sec V)) (r : Ref)
    (dsecs : List (Sec V)) (hw : ∀ o ∈ os, wfSec cv o = true) (hnd : (os.map (·.name)).Nodup)
    (hok : (mergeSecs cv k r dsecs os).2 = .ok)
    (ih : ∀ o ∈ os, ∀ r d, wfSec cv o = true → (merge cv k r d o).2 = .ok →
      Covers (merge cv k r d o).1 o) :
    CoversList (mergeSecs cv k r dsecs os).1 os := by
  rw [mergeSecs_eq_run] at hok ⊢
  rw [coversList_iff]
  intro o ho
  have hres := (secLoop_lawful ..).run_result os dsecs hnd hok o ho
  cases hf : findSec dsecs o.name o.type with
  | some mine => exact ⟨_, (hres.1 mine hf).1, ih o ho _ mine (hw o ho) (hres.1 mine hf).2⟩
  | none => exact ⟨_, hres.2 hf, covers_same cv o _ (hw o ho) rfl rfl⟩

theorem merge_covers (cv : Conv V) (k : Bool) :
    ∀ (s : Sec V) (r : Ref) (d : Sec V), wfSec cv s = true → (merge cv k r d s).2 = .ok →
      Covers (merge cv k r d s).1 s := by
  intro s
  induction s using Sec.induct with
  | mk sa sp ss ih =>
    intro r d hwf hok
    obtain ⟨-, hs, hp, he⟩ := merge_ok_shape cv k r d _ hok
    obtain ⟨hnd, -, hwfs, hnds⟩ := (wfSec_mk ..).1 hwf
    rw [he, Covers]
    refine ⟨fun p hp' => ?_, mergeSecs_covers_of cv k ss _ d.secs hwfs hnds hs ih⟩
    rw [Sec.props_mk, mergeProps_eq_run] at hp ⊢
    have hres := (propLoop_lawful ..).run_result sp d.props hnd hp p hp'
    cases hf : findProp d.props p.name with
    | some mine => exact (propNameIn_eq ..).trans (congrArg Option.isSome (hres.1 mine hf).1)
    | none => exact (propNameIn_eq ..).trans (congrArg Option.isSome (hres.2 hf))

theorem mergeSecs_covers (cv : Conv V) (k : Bool) :
    ∀ (os : List (Sec V)) (r : Ref) (dsecs : List (Sec V)), wfSecs cv os = true →
      (mergeSecs cv k r dsecs os).2 = .ok → CoversList (mergeSecs cv k r dsecs os).1 os :=
  fun os r dsecs hwf hok =>
    mergeSecs_covers_of cv k os r dsecs ((wfSecs_iff ..).1 hwf).1 ((wfSecs_iff ..).1 hwf).2 hok
      fun o _ r d => merge_covers cv k o r d

end Merge
