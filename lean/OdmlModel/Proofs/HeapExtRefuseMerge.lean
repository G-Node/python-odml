/-
Refusals of the compound operations (property C06): `merge_check` and `_merge_name_check` only
read at and below their two arguments (`mergeCheck_congr`, `nameCheck_congr`), and `contains`
answers the same after copies with other names were appended (`containsS_ext`, `containsP_ext`).
-/
import OdmlModel.Proofs.HeapExtRefuseFrame

namespace Heap.Refuse

theorem find_append_congr {p q : Nat → Bool} (l1 l2 : List Nat) (h1 : ∀ m ∈ l1, p m = q m)
    (h2 : ∀ c ∈ l2, p c = false) : (l1 ++ l2).find? p = l1.find? q := by
  rw [List.find?_append, (List.find?_eq_none (l := l2)).mpr fun c hc => by rw [h2 c hc]; decide,
    Option.or_none]
  induction l1 with
  | nil => rfl
  | cons a l ih =>
    rw [List.find?_cons, List.find?_cons, h1 a List.mem_cons_self,
      ih fun m hm => h1 m (List.mem_cons_of_mem _ hm)]

theorem checkAll_true {rec : Nat → Option Bool} : ∀ (l : List Nat), checkAll rec l = some true →
    ∀ o ∈ l, rec o = some true := by
  intro l
  induction l with
  | nil => intro _ o ho; cases ho
  | cons a l ih =>
    intro h o ho
    unfold checkAll at h
    split at h
    · rename_i heq
      rcases List.mem_cons.mp ho with e | e
      · rw [e]; exact heq
      · exact ih h o e
    · rename_i hne
      exact absurd h hne

theorem checkAll_congr {rec rec' : Nat → Option Bool} : ∀ (l : List Nat),
    (∀ o ∈ l, rec o = rec' o) → checkAll rec l = checkAll rec' l := by
  intro l
  induction l with
  | nil => intro _; rfl
  | cons a l ih =>
    intro h
    unfold checkAll
    rw [h a List.mem_cons_self, ih (fun o ho => h o (List.mem_cons_of_mem _ ho))]

theorem mergeCheck_pass {O : Oracle} {f : Nat} {s : X} {dest src : Nat}
    (h : mergeCheck O (f + 1) s dest src = some true) :
    (∀ obj ∈ (s.h.node src).secs, mcSec O f s dest obj = some true) ∧
    (∀ obj ∈ (s.h.node src).props, mcProp O s dest obj = some true) := by
  rw [mergeCheck_succ] at h
  split at h
  · cases h
  · split at h
    · rename_i heq
      exact ⟨checkAll_true _ heq, checkAll_true _ h⟩
    · rename_i hne
      exact absurd h hne

theorem nameCheck_pass {O : Oracle} {f : Nat} {s : X} {dest src : Nat}
    (h : nameCheck O (f + 1) s dest src = some true) :
    ∀ obj ∈ (s.h.node src).secs, ncSec O f s dest obj = some true := by
  rw [nameCheck_succ] at h
  exact checkAll_true _ h

theorem containsS_ext {O : Oracle} {s t : X} {dest obj : Nat} {l : List Nat}
    (hd : (t.h.node dest).secs = (s.h.node dest).secs ++ l)
    (hobj : (t.h.node obj).name = (s.h.node obj).name ∧ t.orig obj = s.orig obj)
    (hk : ∀ m ∈ (s.h.node dest).secs,
      (t.h.node m).name = (s.h.node m).name ∧ t.orig m = s.orig m)
    (hl : ∀ c ∈ l, (t.h.node c).name ≠ (s.h.node obj).name) :
    containsS O t dest obj = containsS O s dest obj := by
  unfold containsS
  rw [hd]
  apply find_append_congr
  · intro m hm
    rw [hobj.1, hobj.2, (hk m hm).1, (hk m hm).2]
  · intro c hc
    have : ((t.h.node obj).name == (t.h.node c).name) = false := by
      rw [hobj.1]; exact beq_false_of_ne (Ne.symm (hl c hc))
    rw [this, Bool.false_and]

theorem containsP_ext {s t : X} {dest obj : Nat} {l : List Nat}
    (hd : (t.h.node dest).props = (s.h.node dest).props ++ l)
    (hobj : (t.h.node obj).name = (s.h.node obj).name)
    (hk : ∀ m ∈ (s.h.node dest).props, (t.h.node m).name = (s.h.node m).name)
    (hl : ∀ c ∈ l, (t.h.node c).name ≠ (s.h.node obj).name) :
    containsP t dest obj = containsP s dest obj := by
  unfold containsP
  rw [hd]
  apply find_append_congr
  · intro m hm
    rw [hobj, hk m hm]
  · intro c hc
    rw [hobj]; exact beq_false_of_ne (Ne.symm (hl c hc))

/-- `t` agrees with `s` on everything at or below `a`. -/
def AgreeBelow (s t : X) (a : Nat) : Prop :=
  ∀ j, Anc s.h a j → t.h.node j = s.h.node j ∧ t.orig j = s.orig j

theorem AgreeBelow.child {s t : X} {a c : Nat} (h : AgreeBelow s t a)
    (hp : (s.h.node c).parent = some a) : AgreeBelow s t c :=
  fun j hj => h j (Anc.trans (Anc.step hp (Anc.refl a)) hj)

theorem containsS_agree {O : Oracle} {s t : X} {dest obj : Nat} (w : WF s.h)
    (hd : AgreeBelow s t dest)
    (hobj : t.h.node obj = s.h.node obj ∧ t.orig obj = s.orig obj) :
    containsS O t dest obj = containsS O s dest obj := by
  apply containsS_ext (l := [])
  · rw [(hd dest (Anc.refl _)).1, List.append_nil]
  · exact ⟨by rw [hobj.1], hobj.2⟩
  · intro m hm
    have := hd m (Anc.step ((w.memS dest m).mp hm).1 (Anc.refl _))
    exact ⟨by rw [this.1], this.2⟩
  · intro c hc; cases hc

theorem containsP_agree {s t : X} {dest obj : Nat} (w : WF s.h)
    (hd : AgreeBelow s t dest) (hobj : t.h.node obj = s.h.node obj) :
    containsP t dest obj = containsP s dest obj := by
  apply containsP_ext (l := [])
  · rw [(hd dest (Anc.refl _)).1, List.append_nil]
  · rw [hobj]
  · intro m hm
    have := hd m (Anc.step ((w.memP dest m).mp hm).1 (Anc.refl _))
    rw [this.1]
  · intro c hc; cases hc

/-- `merge_check(dest, src)` only reads at and below `dest` and `src`. -/
theorem mergeCheck_congr (O : Oracle) : ∀ (f : Nat) (s t : X) (dest src : Nat), WF s.h →
    AgreeBelow s t dest → AgreeBelow s t src →
    mergeCheck O f t dest src = mergeCheck O f s dest src := by
  intro f
  induction f with
  | zero => intro s t dest src _ _ _; rfl
  | succ f ih =>
    intro s t dest src w hd hs
    rw [mergeCheck_succ, mergeCheck_succ]
    have hsn := (hs src (Anc.refl _)).1
    have hS : checkAll (mcSec O f t dest) (t.h.node src).secs =
        checkAll (mcSec O f s dest) (s.h.node src).secs := by
      rw [hsn]
      apply checkAll_congr
      intro obj hobj
      have hop := ((w.memS src obj).mp hobj).1
      have hso := hs.child hop
      unfold mcSec
      rw [containsS_agree w hd (hso obj (Anc.refl _))]
      split
      · rename_i mine hc
        exact ih s t mine obj w (hd.child ((w.memS dest mine).mp (containsS_mem hc).1).1) hso
      · rfl
    have hP : checkAll (mcProp O t dest) (t.h.node src).props =
        checkAll (mcProp O s dest) (s.h.node src).props := by
      rw [hsn]
      apply checkAll_congr
      intro obj hobj
      have hop := ((w.memP src obj).mp hobj).1
      have hso := hs.child hop
      unfold mcProp
      rw [containsP_agree w hd (hso obj (Anc.refl _)).1]
      split
      · rename_i mine hc
        have hm := hd mine (Anc.step ((w.memP dest mine).mp (containsP_mem hc).1).1 (Anc.refl _))
        rw [hm.2, (hso obj (Anc.refl _)).2]
      · rfl
    rw [hS, hP, (hd dest (Anc.refl _)).2, (hs src (Anc.refl _)).2]

theorem nameCheck_congr (O : Oracle) : ∀ (f : Nat) (s t : X) (dest src : Nat), WF s.h →
    AgreeBelow s t dest → AgreeBelow s t src →
    nameCheck O f t dest src = nameCheck O f s dest src := by
  intro f
  induction f with
  | zero => intro s t dest src _ _ _; rfl
  | succ f ih =>
    intro s t dest src w hd hs
    rw [nameCheck_succ, nameCheck_succ]
    have hsn := (hs src (Anc.refl _)).1
    rw [hsn]
    apply checkAll_congr
    intro obj hobj
    have hop := ((w.memS src obj).mp hobj).1
    have hso := hs.child hop
    unfold ncSec
    rw [containsS_agree w hd (hso obj (Anc.refl _))]
    split
    · rename_i mine hc
      exact ih s t mine obj w (hd.child ((w.memS dest mine).mp (containsS_mem hc).1).1) hso
    · rw [(hd dest (Anc.refl _)).1, (hso obj (Anc.refl _)).1]
      congr 2
      apply nameIn_congr
      intro m hm
      rw [(hd m (Anc.step ((w.memS dest m).mp hm).1 (Anc.refl _))).1]

end Heap.Refuse
