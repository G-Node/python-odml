/-
Helper lemmas for C02: the bracketed text form of odML n-tuples, `[(a;b),(c;d)]`, is read back
to the same list of tuples when no item contains a comma.
-/
import OdmlModel.Model.DictDoc
import OdmlModel.Proofs.Str

namespace Dict
open Py

/-- The characters of a string item. -/
def itemChars : J → List Char
  | .str s => s.toList
  | _ => []

theorem item_of_ok {x : J} (h : tupleItemOk x = true) :
    x = .str (String.ofList (itemChars x)) ∧ strip (itemChars x) = itemChars x ∧
      ∀ c ∈ itemChars x, (c == ';') = false := by
  cases x <;> simp [tupleItemOk] at h
  simp only [itemChars, String.ofList_toList, true_and]
  exact ⟨by simpa [strippedStr] using h.1, fun c hc => by
    simp only [beq_eq_false_iff_ne, ne_eq]; rintro rfl; exact h.2 hc⟩

theorem joinItems_eq (items : List J) (h : items.all tupleItemOk = true) :
    joinItems items = some (joinSep ';' (items.map itemChars)) := by
  induction items with
  | nil => rfl
  | cons x r ih =>
    simp only [List.all_cons, Bool.and_eq_true] at h
    obtain ⟨hx, hr⟩ := h
    cases x <;> simp [tupleItemOk] at hx
    rename_i s
    cases r with
    | nil => rfl
    | cons y r' =>
      have := ih hr
      simp only [joinItems, this, List.map_cons, joinSep, itemChars, Option.map_some]

/-- The text of one tuple, `(a;b;c)`. -/
def exportText (items : List J) : List Char := '(' :: joinSep ';' (items.map itemChars) ++ [')']

theorem strip_exportText (items : List J) : strip (exportText items) = exportText items :=
  strip_ends _ (by decide) (by decide)

theorem slice_wrap (a b : Char) (l : List Char) : slice1m1 (a :: l ++ [b]) = l := by
  simp [slice1m1]

theorem head_wrap (a b : Char) (l : List Char) : (a :: l ++ [b]).head? = some a := rfl

theorem last_wrap (a b : Char) (l : List Char) : (a :: l ++ [b]).getLast? = some b := by
  exact List.getLast?_concat ..

/-- `tuple_get` reads the text of a tuple back to its items. -/
theorem tupleGet_exportText (n : Nat) (items : List J) (hlen : items.length = n) (hn : 0 < n)
    (h : items.all tupleItemOk = true) :
    tupleGet n (.str (String.ofList (exportText items))) = .ok (.arr items) := by
  have hne : items ≠ [] := by
    intro e; subst e; simp at hlen; omega
  have hok := List.all_eq_true.1 h
  have hsemi : ∀ a ∈ items.map itemChars, ∀ c ∈ a, (c == ';') = false :=
    List.forall_mem_map.2 fun x hx => (item_of_ok (hok x hx)).2.2
  have hstrip : (items.map itemChars).map strip = items.map itemChars := by
    rw [List.map_map]
    exact List.map_congr_left fun x hx => (item_of_ok (hok x hx)).2.1
  have hitems : (items.map itemChars).map (fun p => J.str (String.ofList p)) = items := by
    rw [List.map_map]
    exact (List.map_congr_left fun x hx => (item_of_ok (hok x hx)).1.symm).trans (List.map_id _)
  have htr : (J.str (String.ofList (exportText items))).truthy = true := by
    simp [J.truthy, exportText]
  simp only [tupleGet, htr, Bool.not_true, Bool.false_eq_true, if_false, String.toList_ofList,
    strip_exportText]
  simp only [exportText, head_wrap, last_wrap, slice_wrap, beq_self_eq_true, Bool.and_self, if_true]
  rw [splitOn_joinSep ';' _ (by simpa using hne) hsemi, hstrip]
  simp [hlen, hitems]

/-- The text of one stored tuple value. -/
def valText : J → List Char
  | .arr items => exportText items
  | _ => []

theorem arr_of_valOk {lib : Lib} {n : Nat} {v : J} (h : valOk lib (.tuple n) v = true) :
    ∃ items, v = .arr items ∧ items.length = n ∧ 0 < n ∧ items.all tupleItemOk = true := by
  cases v <;> simp [valOk] at h
  exact ⟨_, rfl, h.1.1, h.1.2, List.all_eq_true.2 h.2⟩

theorem valText_no_comma (lib : Lib) (n : Nat) (v : J) (hv : valOk lib (.tuple n) v = true) (hr : valRepr v = true) :
    ∀ c ∈ valText v, (c == ',') = false := by
  obtain ⟨items, rfl, -, -, hok⟩ := arr_of_valOk hv
  intro c hc
  simp only [valText, exportText, List.mem_cons, List.mem_append] at hc
  simp only [beq_eq_false_iff_ne, ne_eq]
  rintro rfl
  rcases hc with (hc | hc) | hc
  · exact absurd hc (by decide)
  · rcases mem_joinSep hc with h | ⟨a, ha, hca⟩
    · exact absurd h (by decide)
    · simp only [List.mem_map] at ha
      obtain ⟨x, hx, rfl⟩ := ha
      have h1 := (List.all_eq_true.1 (by simpa [valRepr] using hr)) x hx
      have h2 := List.all_eq_true.1 hok x hx
      cases x <;> simp [tupleItemOk] at h2
      simp [tupleItemRepr] at h1
      exact h1 hca
  · exact absurd hc (by decide)

theorem tupleExportInner_eq (lib : Lib) (n : Nat) (vals : List J)
    (h : vals.all (valOk lib (.tuple n)) = true) :
    tupleExportInner vals = some (joinSep ',' (vals.map valText)) := by
  induction vals with
  | nil => rfl
  | cons v r ih =>
    simp only [List.all_cons, Bool.and_eq_true] at h
    obtain ⟨hv, hr⟩ := h
    obtain ⟨items, rfl, -, -, hok⟩ := arr_of_valOk hv
    have hj := joinItems_eq items hok
    simp only [tupleExportInner, hj, ih hr]
    cases r with
    | nil => simp [joinSep, valText, exportText]
    | cons w r' => simp [joinSep, valText, exportText]

theorem getAll_tupleTexts (lib : Lib) (n : Nat) (vals : List J) (h : vals.all (valOk lib (.tuple n)) = true) :
    getAll lib (.tuple n) ((vals.map valText).map (fun t => J.str (String.ofList t))) = .ok vals := by
  induction vals with
  | nil => rfl
  | cons v r ih =>
    simp only [List.all_cons, Bool.and_eq_true] at h
    obtain ⟨hv, hr⟩ := h
    obtain ⟨items, rfl, hlen, hn, hok⟩ := arr_of_valOk hv
    have hg := tupleGet_exportText n items hlen hn hok
    simp only [List.map_cons, getAll, getVal, valText, hg, ih hr, Except.map]

/-- `_convert_value_input` on the bracketed text: the tuple texts, one string each. -/
theorem convertInput_bracket (ts : List (List Char)) (hne : ts ≠ [])
    (hc : ∀ a ∈ ts, ∀ c ∈ a, (c == ',') = false) (hs : ∀ a ∈ ts, strip a = a) :
    convertInput (.str (String.ofList ('[' :: joinSep ',' ts ++ [']']))) =
      some (ts.map (fun t => J.str (String.ofList t))) := by
  have hsm : ts.map strip = ts := by
    have : ∀ a ∈ ts, strip a = id a := hs
    rw [List.map_congr_left this, List.map_id]
  simp only [convertInput, String.toList_ofList, head_wrap, last_wrap, slice_wrap, beq_self_eq_true,
    Bool.and_self, if_true, splitOn_joinSep ',' ts hne hc]
  congr 1
  conv => rhs; rw [← hsm]
  simp [List.map_map]

end Dict
