/-
C11: what a successful run of `cloneLoop`, `cloneBody`, `cloneF`, `exportLoop` consists of, and case
principles for the operations with several branches: one per operation, for any property of the store.
-/
import OdmlModel.Proofs.CloneFrame
namespace Clone

theorem optErr_fst (r : H × Option Err) : (optErr r).1 = r.1 := by
  obtain ⟨h, o⟩ := r
  cases o <;> rfl

theorem dropOnErr_fst {P : H → Prop} {h : H} (r : H × Res) (hP : P h) (ok : ∀ h' c, r = (h', .ok c) → P h') :
    P (dropOnErr h r).1 := by
  obtain ⟨h', res⟩ := r
  cases res with
  | ok c => exact ok h' c rfl
  | err e => exact hP

/-- `if children: for …` is the loop over the children, or over nothing. -/
theorem loopOpt_eq (rec : H → Nat → H × Res) (h : H) (c : Nat) (ch : Bool) (l : List Nat) :
    (if ch = true then cloneLoop rec h c l else (h, none)) = cloneLoop rec h c (if ch = true then l else []) := by
  cases ch <;> rfl

theorem cloneLoop_nil {rec : H → Nat → H × Res} {h h' : H} {c : Nat} (hl : cloneLoop rec h c [] = (h', none)) :
    h' = h :=
  (Prod.mk.inj hl).1.symm

theorem cloneLoop_cons {rec : H → Nat → H × Res} {h h' : H} {c s : Nat} {rest : List Nat}
    (hl : cloneLoop rec h c (s :: rest) = (h', none)) :
    ∃ h1 sc h2, rec h s = (h1, .ok sc) ∧ attach h1 c sc = (h2, none) ∧ cloneLoop rec h2 c rest = (h', none) := by
  simp only [cloneLoop] at hl
  split at hl
  · cases hl
  · rename_i h1 sc hr
    split at hl
    · cases hl
    · rename_i h2 hat
      exact ⟨h1, sc, h2, hr, hat, hl⟩

/-- The store after the first three statements of `Sectionable.clone`: the shallow copy `h.nN` of
    `x`, detached and without sections. -/
def bodyStart (h : H) (x : Nat) : H :=
  updN (updN (allocN h (h.node x)).1 h.nN (fun n => { n with parent := none })) h.nN
    (fun n => { n with secs := [] })

theorem bodyStart_node (h x) : (bodyStart h x).node h.nN = { h.node x with parent := none, secs := [] } := by
  simp [bodyStart, allocN_node]
theorem ext_bodyStart (h x) : Ext h (bodyStart h x) :=
  ext_updN (ext_updN (ext_allocN h _) _ _ (Nat.le_refl _)) _ _ (Nat.le_refl _)

/-- `h4` after the loop over the Sections, `h5` after `new_id()`, `h6` with the Properties cleared. -/
theorem cloneBody_run {rec : H → Nat → H × Res} {h h' : H} {x c : Nat} {ch keep : Bool}
    (hb : cloneBody rec h x ch keep = (h', .ok c)) :
    c = h.nN ∧ ∃ h4, cloneLoop rec (bodyStart h x) h.nN (if ch = true then ((bodyStart h x).node x).secs else []) = (h4, none) ∧
      ∃ h5, h5 = (if keep = true then h4 else newId h4 h.nN) ∧
      if (h.node x).kind = .doc then h' = h5 else
        ∃ h6, h6 = updN h5 h.nN (fun n => { n with props := [] }) ∧
          cloneLoop rec h6 h.nN (if ch = true then (h6.node x).props else []) = (h', none) := by
  unfold cloneBody at hb
  simp only [allocN_ret, loopOpt_eq] at hb
  generalize hr4 : cloneLoop rec _ h.nN (if ch = true then _ else []) = r4 at hb
  obtain ⟨h4, o4⟩ := r4
  cases o4 with
  | some e => cases hb
  | none =>
    simp only at hb
    by_cases hd : (h.node x).kind = .doc
    · rw [if_pos hd] at hb
      exact ⟨(Res.ok.inj (Prod.mk.inj hb).2).symm, h4, hr4, _, rfl, by rw [if_pos hd]; exact (Prod.mk.inj hb).1.symm⟩
    · rw [if_neg hd] at hb
      generalize hr7 : cloneLoop rec _ h.nN (if ch = true then _ else []) = r7 at hb
      obtain ⟨h7, o7⟩ := r7
      cases o7 with
      | some e => cases hb
      | none =>
        exact ⟨(Res.ok.inj (Prod.mk.inj hb).2).symm, h4, hr4, _, rfl, by
          rw [if_neg hd]; exact ⟨_, rfl, by rw [hr7, (Prod.mk.inj hb).1]⟩⟩

theorem cloneF_ok {f : Nat} {h h' : H} {x c : Nat} {ch keep : Bool} (hc : cloneF (f + 1) h x ch keep = (h', .ok c)) :
    if (h.node x).kind = .prop then cloneProp h x keep = (h', c)
    else cloneBody (fun h s => cloneF f h s true keep) h x ch keep = (h', .ok c) := by
  simp only [cloneF] at hc
  split
  · rename_i hk
    rw [if_pos hk] at hc
    exact Prod.ext (Prod.mk.inj hc).1 (Res.ok.inj (Prod.mk.inj hc).2)
  · rename_i hk
    rwa [if_neg hk] at hc

theorem parentOf_some {h : H} {x q : Nat} (hq : parentOf h x = some q) :
    (h.node x).kind ≠ .doc ∧ (h.node x).parent = some q := by
  unfold parentOf at hq
  split at hq
  · cases hq
  · rename_i hnd; exact ⟨hnd, hq⟩

/-- One round of the loop of `export_leaf`: `h1` after `curr.clone(children=False, keep_id=True)`, `h2` after
    `par.append(child)`, `h3` after the Properties of `curr` have been cloned; then the loop ends or goes on
    with the parent. -/
theorem exportLoop_ok {fuel : Nat} {h h' : H} {self curr child r : Nat}
    (he : exportLoop (fuel + 1) h self curr child = (h', .ok r)) :
    ∃ h1 par h2 h3, cloneF 1 h curr false true = (h1, .ok par) ∧
      (if curr ≠ self then attach h1 par child else (h1, none)) = (h2, none) ∧
      cloneLoop (fun h p => cloneF 1 h p true true) h2 par
        (if (h2.node curr).kind = .sec then (h2.node curr).props else []) = (h3, none) ∧
      match parentOf h3 curr with
      | none => h' = h3 ∧ r = par
      | some q => exportLoop fuel h3 self q par = (h', .ok r) := by
  simp only [exportLoop] at he
  split at he
  · cases he
  · rename_i h1 par hcl
    split at he
    · cases he
    · rename_i h2 hr2
      split at he
      · cases he
      · rename_i h3 hr3
        refine ⟨h1, par, h2, h3, hcl, hr2, ?_, ?_⟩
        · rw [← hr3]; split <;> rfl
        · split at he
          · rename_i hq; rw [hq]; exact ⟨(Prod.mk.inj he).1.symm, (Res.ok.inj (Prod.mk.inj he).2).symm⟩
          · rename_i q hq; rw [hq]; exact he

theorem ite_fst {α : Type} {P : H → Prop} {c : Prop} [Decidable c] {a b : H × α} (ha : P a.1) (hb : P b.1) :
    P (if c then a else b).1 := by
  split <;> assumption

theorem appendValue_cases {P : H → Prop} {h : H} {p : Nat} {v : Lit} (h0 : P h) (h1 : P (setValuesLits h p [v]))
    (h2 : ∀ c, (h.node p).vals = some c → P (updV (litItems h [v]).1 c (fun l => l ++ (litItems h [v]).2))) :
    P (appendValue h p v) := by
  unfold appendValue
  split
  · exact h0
  · next c hv =>
    split
    · exact h1
    · exact h2 c hv

theorem setValueAt_cases {P : H → Prop} {h : H} {p i : Nat} {v : Lit} (h0 : P h)
    (h1 : ∀ c, (h.node p).vals = some c → P (updV (litItems h [v]).1 c
      (fun l => match (litItems h [v]).2 with | it :: _ => l.set i it | [] => l))) :
    P (setValueAt h p i v).1 := by
  unfold setValueAt
  split
  · exact h0
  · next c hv => exact ite_fst h0 (h1 c hv)

theorem listInnerSet_cases {P : H → Prop} {h : H} {c i j : Nat} {s : String} (h0 : P h)
    (h1 : ∀ t, (h.vcell c)[i]? = some (.ref t) → P (updT h t (fun l => l.set j s))) :
    P (listInnerSet h c i j s).1 := by
  unfold listInnerSet
  split
  · next t hget => exact ite_fst h0 (h1 t hget)
  · exact h0
  · exact h0

theorem valueInnerSet_cases {P : H → Prop} {h : H} {p i j : Nat} {s : String} (h0 : P h)
    (h1 : ∀ c, (h.node p).vals = some c → ¬ c ≥ h.nV → P (listInnerSet h c i j s).1) :
    P (valueInnerSet h p i j s).1 := by
  unfold valueInnerSet
  split
  · exact h0
  · next c hv =>
    split
    · exact h0
    · next hlt => exact h1 c hv hlt

theorem rename_cases {P : H → Prop} {h : H} {x : Nat} {new : String} (h0 : P h)
    (h1 : P (updN h x (fun n => { n with name := new }))) : P (rename h x new).1 :=
  ite_fst h0 (ite_fst h0 (ite_fst h0 h1))

theorem mergeOp_cases {P : H → Prop} {h : H} {x t : Nat} {record : Bool} (h0 : P h)
    (h1 : P (mergeAttrs h x t record)) : P (mergeOp h x t record).1 :=
  ite_fst h0 h1

theorem unmergeOp_cases {P : H → Prop} {h : H} {x : Nat} (h0 : P h) (h1 : P (unmergeAttrs h x)) :
    P (unmergeOp h x).1 :=
  ite_fst h0 h1

theorem removeChild_ok {h h' : H} {q x : Nat} (hr : removeChild h q x = some h') :
    ∃ i, h' = updN (setChildList h q ((h.node x).kind != .prop) (fun l => l.eraseIdx i)) x
      (fun n => { n with parent := none }) := by
  unfold removeChild at hr
  split at hr
  · cases hr
  · split at hr
    · cases hr
    · simp only at hr
      split at hr
      · cases hr
      · exact ⟨_, (Option.some.inj hr).symm⟩

theorem remove_cases {P : H → Prop} {h : H} {p x : Nat} (h0 : P h)
    (h1 : ∀ h1, removeChild h p x = some h1 → P h1) : P (remove h p x).1 := by
  unfold remove
  refine ite_fst h0 ?_
  split
  · rename_i h2 hr; exact h1 h2 hr
  · exact h0

/-- What `append` / `_adopt` check before listing `x` under `p` (kinds of parent and child). -/
def AttachOk (kp kx : Kind) : Prop := kx ≠ .doc ∧ kp ≠ .prop ∧ (kx = .prop → kp = .sec)

/-- `append` refuses and leaves the store as it was, or the kinds fit and `x` is listed under `p`
    (store `h1`) and then adopted: its parent is set, after it has been taken out of the child list of
    its old parent `q`; when that removal fails the store is left as `h1`. -/
theorem append_cases {P : H → Prop} {h : H} {p x : Nat} (h0 : P h)
    (hs : AttachOk (h.node p).kind (h.node x).kind →
      ∀ h1, h1 = setChildList h p ((h.node x).kind != .prop) (fun l => l ++ [x]) →
        P h1 ∧ P (updN h1 x (fun n => { n with parent := some p })) ∧
        ∀ q h2, (h1.node x).parent = some q → removeChild h1 q x = some h2 →
          P (updN h2 x (fun n => { n with parent := some p }))) :
    P (append h p x).1 := by
  unfold append
  split
  · exact h0
  · exact h0
  · exact h0
  · rename_i k h1 h2 h3
    have hk : AttachOk (h.node p).kind (h.node x).kind := by
      refine ⟨fun e => h2 e, fun e => h1 e, fun e => ?_⟩
      cases hkp : (h.node p).kind with
      | doc => exact (h3 hkp e).elim
      | sec => rfl
      | prop => exact (h1 hkp).elim
    obtain ⟨a, b, c⟩ := hs hk _ rfl
    refine ite_fst h0 (ite_fst h0 ?_)
    simp only
    split
    · exact b
    · rename_i q hpar
      refine ite_fst b ?_
      split
      · exact a
      · rename_i h2' hrm
        exact c q h2' hpar hrm

/-- Everything the specification of a successful clone call says. -/
structure CloneOk (h h' : H) (x c : Nat) : Prop where
  ext : Ext h h'
  closed : Closed h' (rng h h')
  c_eq : c = h.nN
  lt : h.nN < h'.nN
  parent : (h'.node c).parent = none
  kind : (h'.node c).kind = (h.node x).kind

/-- Every successful (recursive) clone call satisfies `CloneOk`. -/
def RecOk (rec : H → Nat → H × Res) : Prop :=
  ∀ h s h1 sc, rec h s = (h1, .ok sc) → CloneOk h h1 s sc

theorem attach_ok {h h' : H} {c child : Nat} (ha : attach h c child = (h', none)) :
    h' = updN (setChildList h c ((h.node child).kind != .prop) (fun l => l ++ [child])) child
          (fun n => { n with parent := some c }) := by
  unfold attach at ha
  simp only at ha
  split at ha
  · simp at ha
  · simp only [Prod.mk.injEq, and_true] at ha
    exact ha.symm

theorem setChildList_keeps {α} (π : Node → α) (hs : ∀ n l, π { n with secs := l } = π n)
    (hp : ∀ n l, π { n with props := l } = π n) (h p b f a) :
    π ((setChildList h p b f).node a) = π (h.node a) :=
  updN_keeps π (fun n => by split; exact hs ..; exact hp ..) ..

theorem setChildList_kind (h p b f a) : ((setChildList h p b f).node a).kind = (h.node a).kind :=
  setChildList_keeps Node.kind (fun _ _ => rfl) (fun _ _ => rfl) ..

theorem attach_self {h h' : H} {c child : Nat} (ha : attach h c child = (h', none)) (hne : c ≠ child) :
    h'.node c = if ((h.node child).kind != .prop) = true then { h.node c with secs := (h.node c).secs ++ [child] }
      else { h.node c with props := (h.node c).props ++ [child] } := by
  rw [attach_ok ha, updN_other _ _ _ _ hne]; exact updN_same ..

theorem attach_childList {h h' : H} {c child : Nat} (ha : attach h c child = (h', none)) (hne : c ≠ child) :
    childList h' c ((h.node child).kind != .prop) = childList h c ((h.node child).kind != .prop) ++ [child] ∧
    childList h' c (!((h.node child).kind != .prop)) = childList h c (!((h.node child).kind != .prop)) := by
  unfold childList
  rw [attach_self ha hne]
  cases ((h.node child).kind != .prop) <;> simp

theorem attach_id {h h' : H} {c child : Nat} (ha : attach h c child = (h', none)) (a : Nat) :
    (h'.node a).id = (h.node a).id := by
  rw [attach_ok ha]
  exact (updN_keeps Node.id (f := fun n => { n with parent := some c }) (fun _ => rfl) ..).trans
    (setChildList_keeps Node.id (fun _ _ => rfl) (fun _ _ => rfl) ..)

theorem attach_kind {h h' : H} {c child : Nat} (ha : attach h c child = (h', none)) (a : Nat) :
    (h'.node a).kind = (h.node a).kind := by
  rw [attach_ok ha, updN_node]
  split
  · simp only; rw [setChildList_kind]
  · rw [setChildList_kind]

theorem attach_vcell {h h' : H} {c child : Nat} (ha : attach h c child = (h', none)) : h'.vcell = h.vcell := by
  rw [attach_ok ha]; rfl

theorem attach_tcell {h h' : H} {c child : Nat} (ha : attach h c child = (h', none)) : h'.tcell = h.tcell := by
  rw [attach_ok ha]; rfl

theorem attach_mono {h h' : H} {c child : Nat} (ha : attach h c child = (h', none)) : Mono h h' := by
  rw [attach_ok ha]; exact Mono.refl h

theorem attach_other {h h' : H} {c child : Nat} (ha : attach h c child = (h', none)) (a : Nat)
    (h1 : a ≠ c) (h2 : a ≠ child) : h'.node a = h.node a := by
  rw [attach_ok ha, updN_other _ _ _ _ h2]
  simp only [setChildList]
  rw [updN_other _ _ _ _ h1]

theorem ext_attach {b h h' : H} {c child : Nat} (e : Ext b h) (ha : attach h c child = (h', none))
    (hc : b.nN ≤ c) (hch : b.nN ≤ child) : Ext b h' := by
  rw [attach_ok ha]
  exact ext_updN (ext_updN e _ _ hc) _ _ hch

end Clone
