/-
The queue loop of `itersections` visits the tree level by level; what `find` lists.
-/
import OdmlModel.Proofs.Path

namespace Path
open PathTree

/-- a walk with a running index (`kidsFrom`, `findAllIn`, `propsOf`, `preList`): `x` comes from
    the element at offset `j`, visited with index `i + j` -/
theorem mem_walk {α β : Type} {g : Nat → List α → List β} {h : Nat → α → List β}
    (hnil : ∀ i, g i [] = []) (hcons : ∀ i s r, g i (s :: r) = h i s ++ g (i + 1) r)
    (i : Nat) (l : List α) (x : β) :
    x ∈ g i l ↔ ∃ j s, l[j]? = some s ∧ x ∈ h (i + j) s := by
  induction l generalizing i with
  | nil => simp [hnil]
  | cons c r ih =>
    rw [hcons, List.mem_append, ih]
    constructor
    · rintro (hx | ⟨j, s, hj, hx⟩)
      · exact ⟨0, c, rfl, hx⟩
      · exact ⟨j + 1, s, hj, by rwa [Nat.add_assoc, Nat.add_comm 1] at hx⟩
    · rintro ⟨j, s, hj, hx⟩
      cases j with
      | zero => obtain rfl : c = s := by simpa using hj
                exact .inl hx
      | succ j => exact .inr ⟨j, s, hj, by rwa [Nat.add_assoc, Nat.add_comm 1]⟩

theorem pairwise_walk {α β : Type} {R : β → β → Prop} {g : Nat → List α → List β}
    {h : Nat → α → List β} (hnil : ∀ i, g i [] = [])
    (hcons : ∀ i s r, g i (s :: r) = h i s ++ g (i + 1) r) (h1 : ∀ i s, (h i s).Pairwise R)
    (h2 : ∀ i j s t, i < j → ∀ a ∈ h i s, ∀ b ∈ h j t, R a b) (i : Nat) (l : List α) :
    (g i l).Pairwise R := by
  induction l generalizing i with
  | nil => simp [hnil]
  | cons c r ih =>
    rw [hcons, List.pairwise_append]
    refine ⟨h1 i c, ih _, fun a ha b hb => ?_⟩
    obtain ⟨j, t, _, hb⟩ := (mem_walk hnil hcons _ _ _).1 hb
    exact h2 i _ c t (by omega) a ha b hb

theorem mem_kidsFrom (p : Pos) (lvl i : Nat) (l : List Sec) (e : Entry) :
    e ∈ kidsFrom p lvl i l ↔ ∃ j s, l[j]? = some s ∧ e = (p ++ [i + j], s, lvl) := by
  rw [mem_walk (g := kidsFrom p lvl) (h := fun i s => [(p ++ [i], s, lvl)])
    (fun _ => rfl) (fun _ _ _ => rfl)]
  simp only [List.mem_singleton]

theorem mem_pushed (md : Option Int) (x e : Entry) :
    e ∈ pushed md x ↔ expands md x.2.2 = true ∧
      ∃ j s, x.2.1.subs[j]? = some s ∧ e = (x.1 ++ [j], s, x.2.2 + 1) := by
  unfold pushed
  by_cases h : expands md x.2.2 = true
  · rw [if_pos h, mem_kidsFrom]
    simp only [h, true_and, Nat.zero_add]
  · rw [if_neg h]
    exact ⟨nofun, fun h' => absurd h'.1 h⟩

theorem kidsFrom_pairwise_ne (p : Pos) (lvl i : Nat) (l : List Sec) :
    (kidsFrom p lvl i l).Pairwise (fun a b => a.1 ≠ b.1) := by
  refine pairwise_walk (g := kidsFrom p lvl) (h := fun i s => [(p ++ [i], s, lvl)])
    (fun _ => rfl) (fun _ _ _ => rfl) (fun _ _ => List.pairwise_singleton ..) ?_ i l
  intro i j s t hij a ha b hb
  obtain rfl := List.mem_singleton.1 ha
  obtain rfl := List.mem_singleton.1 hb
  simp; omega

theorem bfs_nil (md : Option Int) : bfs md [] = [] := by rw [bfs]

theorem bfs_cons (md : Option Int) (e : Entry) (q : List Entry) :
    bfs md (e :: q) = e :: bfs md (q ++ pushed md e) := by rw [bfs]

theorem bfs_append (md : Option Int) (xs ys : List Entry) :
    bfs md (xs ++ ys) = xs ++ bfs md (ys ++ xs.flatMap (pushed md)) := by
  induction xs generalizing ys with
  | nil => simp
  | cons e xs ih =>
    rw [List.cons_append, bfs_cons, List.append_assoc, ih]
    simp [List.flatMap_cons, List.append_assoc]

theorem bfs_level (md : Option Int) (xs : List Entry) :
    bfs md xs = xs ++ bfs md (xs.flatMap (pushed md)) := by
  simpa using bfs_append md xs []

/-- the first `n` levels below `xs`: `xs`, then the children of those of `xs` that may expand, … -/
def levelsUpTo (md : Option Int) (xs : List Entry) : Nat → List Entry
  | 0 => []
  | n + 1 => xs ++ levelsUpTo md (xs.flatMap (pushed md)) n

theorem levelsUpTo_nil (md : Option Int) (n : Nat) : levelsUpTo md [] n = [] := by
  induction n with
  | zero => rfl
  | succ n ih => simp [levelsUpTo, ih]

theorem qsize_nil : qsize [] = 0 := rfl

theorem qsize_cons (e : Entry) (q : List Entry) : qsize (e :: q) = e.2.1.size + qsize q := by
  simp [qsize]

theorem qsize_append (a b : List Entry) : qsize (a ++ b) = qsize a + qsize b := by
  simp [qsize, sizeList_append]

theorem qsize_pushed_lt (md : Option Int) (e : Entry) : qsize (pushed md e) < e.2.1.size := by
  simpa [qsize_cons, qsize_nil] using qsize_step md e []

theorem qsize_next_lt (md : Option Int) (xs : List Entry) (h : xs ≠ []) :
    qsize (xs.flatMap (pushed md)) < qsize xs := by
  induction xs with
  | nil => exact absurd rfl h
  | cons e r ih =>
    rw [List.flatMap_cons, qsize_append, qsize_cons]
    have h1 := qsize_pushed_lt md e
    by_cases hr : r = []
    · subst hr; simp [qsize_nil]; omega
    · have := ih hr; omega

/-- **Breadth first**: the visiting order of the queue loop is level 0, then level 1, … -/
theorem bfs_eq_levels (md : Option Int) (n : Nat) (xs : List Entry) (hn : qsize xs < n) :
    bfs md xs = levelsUpTo md xs n := by
  induction n generalizing xs with
  | zero => omega
  | succ n ih =>
    rw [bfs_level, levelsUpTo]
    by_cases hx : xs = []
    · subst hx; simp [bfs_nil, levelsUpTo_nil]
    · have := qsize_next_lt md xs hx
      rw [ih _ (by omega)]

/-- a level: all entries on level `lvl`, at positions of length `base + lvl`, pairwise different -/
structure LevelOk (base lvl : Nat) (xs : List Entry) : Prop where
  eq : ∀ e ∈ xs, e.2.2 = lvl ∧ e.1.length = base + lvl
  ne : xs.Pairwise (fun a b => a.1 ≠ b.1)

theorem LevelOk.next {base lvl : Nat} {xs : List Entry} (md : Option Int) (h : LevelOk base lvl xs) :
    LevelOk base (lvl + 1) (xs.flatMap (pushed md)) := by
  refine ⟨?_, List.pairwise_flatMap.2 ⟨?_, ?_⟩⟩
  · intro e he
    obtain ⟨x, hx, he⟩ := List.mem_flatMap.1 he
    obtain ⟨_, j, s, _, rfl⟩ := (mem_pushed ..).1 he
    simp [h.eq x hx]; omega
  · intro x _
    unfold pushed
    split
    · exact kidsFrom_pairwise_ne ..
    · simp
  · refine h.ne.imp_of_mem ?_
    intro x y hx hy hxy a ha b hb
    obtain ⟨_, j, s, _, rfl⟩ := (mem_pushed ..).1 ha
    obtain ⟨_, j', s', _, rfl⟩ := (mem_pushed ..).1 hb
    -- children of different parents of equal depth differ already in the parent's part
    intro heq
    exact hxy (List.append_inj_left heq (by rw [(h.eq x hx).2, (h.eq y hy).2]))

theorem levels_sorted_nodup (md : Option Int) (base : Nat) (n lvl : Nat) (xs : List Entry)
    (h : LevelOk base lvl xs) :
    (levelsUpTo md xs n).Pairwise (fun a b => a.2.2 ≤ b.2.2 ∧ a.1 ≠ b.1) ∧
    (∀ e ∈ levelsUpTo md xs n, lvl ≤ e.2.2 ∧ e.1.length = base + e.2.2) := by
  induction n generalizing lvl xs with
  | zero => simp [levelsUpTo]
  | succ n ih =>
    obtain ⟨ih1, ih2⟩ := ih (lvl + 1) _ (h.next md)
    simp only [levelsUpTo]
    refine ⟨List.pairwise_append.2 ⟨?_, ih1, ?_⟩, ?_⟩
    · refine h.ne.imp_of_mem ?_
      intro a b ha hb hab
      exact ⟨by rw [(h.eq a ha).1, (h.eq b hb).1]; exact Nat.le_refl _, hab⟩
    · intro a ha b hb
      obtain ⟨hb1, hb2⟩ := ih2 b hb
      obtain ⟨ha1, ha2⟩ := h.eq a ha
      refine ⟨ha1 ▸ Nat.le_of_succ_le hb1, fun heq => ?_⟩
      -- equal positions have equal length, so `b` would be on level `lvl` too
      rw [heq, hb2, Nat.add_left_cancel_iff] at ha2
      exact Nat.not_succ_le_self lvl (ha2 ▸ hb1)
    · intro e he
      rcases List.mem_append.1 he with he | he
      · obtain ⟨h1, h2⟩ := h.eq e he
        exact ⟨h1 ▸ Nat.le_refl _, h1.symm ▸ h2⟩
      · exact ⟨Nat.le_of_succ_le (ih2 e he).1, (ih2 e he).2⟩

/-- the Document as a queue entry on level 0 that is expanded but not visited -/
def docEntry (d : Doc) : Entry := ([], .mk [] [] [] d.secs, 0)

theorem initialQueue_document (d : Doc) (md : Option Int) :
    initialQueue d [] md = pushed md (docEntry d) := by
  cases md <;> rfl

theorem initialQueue_levelOk (d : Doc) (start : Pos) (md : Option Int) :
    ∃ lvl, LevelOk start.length lvl (initialQueue d start md) := by
  have one : ∀ s, LevelOk start.length 0 [(start, s, 0)] := fun s => ⟨by simp, by simp⟩
  cases start with
  | nil =>
    rw [initialQueue_document]
    exact ⟨1, by simpa [docEntry] using (one _).next md⟩
  | cons i r =>
    refine ⟨0, ?_⟩
    simp only [initialQueue]
    cases secAt d.secs (i :: r) with
    | some s => exact one s
    | none => exact ⟨by simp, by simp⟩

theorem bfs_initialQueue_pairwise (d : Doc) (start : Pos) (md : Option Int) :
    (bfs md (initialQueue d start md)).Pairwise
      (fun a b => a.1.length ≤ b.1.length ∧ a.1 ≠ b.1) := by
  rw [bfs_eq_levels md _ _ (Nat.lt_succ_self _)]
  obtain ⟨lvl, hl⟩ := initialQueue_levelOk d start md
  obtain ⟨h1, h2⟩ := levels_sorted_nodup md start.length
    (qsize (initialQueue d start md) + 1) lvl _ hl
  refine h1.imp_of_mem ?_
  intro a b ha hb hab
  refine ⟨?_, hab.2⟩
  rw [(h2 a ha).2, (h2 b hb).2]
  omega

theorem lowerReq_some (lw : Str → Str) (h0 : lw [] = []) (t : Str) :
    lowerReq lw (some t) = some (lw t) := by
  unfold lowerReq
  by_cases ht : t = []
  · subst ht; simp [h0]
  · simp [ht]

theorem lowerReq_idem (lw : Str → Str) (h0 : lw [] = []) (hid : ∀ x, lw (lw x) = lw x)
    (ty : Option Str) : lowerReq lw (lowerReq lw ty) = lowerReq lw ty := by
  cases ty with
  | none => rfl
  | some t => rw [lowerReq_some lw h0, lowerReq_some lw h0, hid]

theorem mem_findAllIn (lw : Str → Str) (p : Pos) (key otype : Option Str) (sub : Bool) (i : Nat) (l : List Sec)
    (q : Pos) :
    q ∈ findAllIn lw p key otype sub i l ↔
      ∃ j s, l[j]? = some s ∧ q = p ++ [i + j] ∧ matchesObj lw (some s) key otype sub = true := by
  rw [mem_walk (g := findAllIn lw p key otype sub)
    (h := fun i s => if matchesObj lw (some s) key otype sub then [p ++ [i]] else [])
    (fun _ => rfl) (fun _ _ _ => rfl)]
  simp only [List.mem_ite_nil_right, List.mem_singleton]
  exact exists_congr fun j => exists_congr fun s => and_congr_right fun _ => and_comm

theorem ofList_eq_one {all : Bool} {l : List Pos} {q : Pos} :
    Found.ofList all l = .one q ↔ all = false ∧ l.head? = some q := by
  cases all <;> cases l <;> simp [Found.ofList]

theorem ofList_eq_many {all : Bool} {l qs : List Pos} :
    Found.ofList all l = .many qs ↔ all = true ∧ l ≠ [] ∧ l = qs := by
  cases all <;> cases l <;> simp [Found.ofList]

theorem ofList_eq_none {all : Bool} {l : List Pos} : Found.ofList all l = .none ↔ l = [] := by
  cases all <;> cases l <;> simp [Found.ofList]

end Path
