/-
Helper lemmas for C02: the reader's key loops against look-up (`denote`).
-/
import OdmlModel.Proofs.Dict

namespace Dict
open Py

theorem assocSet_not_mem {k : String} {l : List (String × J)} (v : J) (h : k ∉ keysOf l) :
    assocSet l k v = l ++ [(k, v)] := by
  induction l with
  | nil => rfl
  | cons kv r ih =>
    obtain ⟨k', v'⟩ := kv
    simp only [keysOf_cons, List.mem_cons, not_or] at h
    have : (k' == k) = false := by simpa using fun e => h.1 e.symm
    simp [assocSet, this, ih h.2]

theorem foldl_assocSet_nodup (l acc : List (String × J)) (h : (keysOf (acc ++ l)).Nodup) :
    l.foldl (fun a kv => assocSet a kv.1 kv.2) acc = acc ++ l := by
  induction l generalizing acc with
  | nil => simp
  | cons kv r ih =>
    obtain ⟨k, v⟩ := kv
    have hk : k ∉ keysOf acc := by
      simp only [keysOf_append, keysOf_cons, List.nodup_append, List.nodup_cons] at h
      intro hm
      exact h.2.2 k hm k (by simp) rfl
    simp only [List.foldl_cons, assocSet_not_mem v hk]
    rw [ih]
    · simp
    · simpa using h

theorem mem_of_find {k : String} {v : J} {l : List (String × J)} (h : find k l = some v) :
    (k, v) ∈ l := by
  induction l with
  | nil => cases h
  | cons a r ih =>
    obtain ⟨k', v'⟩ := a
    rw [find_cons] at h
    split at h
    · next e => cases h; exact beq_iff_eq.1 e ▸ List.mem_cons_self ..
    · exact List.mem_cons_of_mem _ (ih h)

theorem find_perm {l₁ l₂ : List (String × J)} (hp : l₁.Perm l₂) (hn : (keysOf l₁).Nodup) (k : String) :
    find k l₁ = find k l₂ :=
  Option.ext fun _ =>
    ⟨fun h => find_of_mem ((hp.map _).nodup_iff.1 hn) (hp.subset (mem_of_find h)),
     fun h => find_of_mem hn (hp.symm.subset (mem_of_find h))⟩

theorem hasDupNames_append (a b : List J) :
    hasDupNames (a ++ b) = (hasDupNames a || a.any (fun x => b.any (nameEq x)) || hasDupNames b) := by
  induction a with
  | nil => simp [hasDupNames]
  | cons x r ih =>
    simp only [List.cons_append, hasDupNames, ih, List.any_append, List.any_cons]
    ac_rfl

/-- Children whose names are pairwise different are all appended, in order, without a warning. -/
theorem appendAll_nodup {α : Type} (m : Mode) (nameOf : α → J) (new kept : List α) (ws : List Warn)
    (h : hasDupNames ((kept ++ new).map nameOf) = false) :
    appendAll m nameOf kept new ws = .ok (kept ++ new, ws) := by
  induction new generalizing kept with
  | nil => simp [appendAll]
  | cons c r ih =>
    have hk : kept.any (fun k => nameEq (nameOf k) (nameOf c)) = false := by
      simp [hasDupNames_append, List.any_eq_false] at h ⊢
      exact fun k hk => (h.1.2 k hk).1
    simp only [appendAll, hk, Bool.false_eq_true, if_false]
    rw [ih (kept ++ [c]) (by simpa using h)]
    simp

theorem appendAll_fresh {α : Type} (m : Mode) (nameOf : α → J) {new : List α} (ws : List Warn)
    (h : hasDupNames (new.map nameOf) = false) : appendAll m nameOf [] new ws = .ok (new, ws) :=
  appendAll_nodup m nameOf new [] ws h

/-- The pairs the reader hands to the constructor: keys mapped to python names. -/
def mapped (pm : KMap) (kvs : List (String × J)) : List (String × J) :=
  kvs.map (fun kv => (mapKey pm kv.1, kv.2))

/-- The key translation of one format class, read off the regenerated tables: `mapKey` takes the
    file keys `L` to the constructor keywords `K`, `odmlName` takes them back, in order. -/
structure FormatFacts (pm : KMap) (L K : List String) : Prop where
  toPy : L.map (mapKey pm) = K
  toFile : K.map (odmlName pm) = L

namespace FormatFacts
variable {pm : KMap} {L K : List String} (ff : FormatFacts pm L K)
include ff

theorem kw : ∀ k ∈ L, mapKey pm k ∈ K := fun _ hk => ff.toPy ▸ List.mem_map_of_mem hk

theorem file : ∀ py ∈ K, odmlName pm py ∈ L := fun _ h => ff.toFile ▸ List.mem_map_of_mem h

theorem odmlName_mapKey : ∀ k ∈ L, odmlName pm (mapKey pm k) = k :=
  List.map_inj_left (f := odmlName pm ∘ mapKey pm) (g := id).1
    (by rw [List.map_id, ← List.map_map, ff.toPy, ff.toFile])

theorem mapKey_odmlName : ∀ py ∈ K, mapKey pm (odmlName pm py) = py :=
  List.map_inj_left (f := mapKey pm ∘ odmlName pm) (g := id).1
    (by rw [List.map_id, ← List.map_map, ff.toFile, ff.toPy])

end FormatFacts

theorem propFacts : FormatFacts Gen.Format.propertyMap propLayoutKeys propKwargs :=
  ⟨by decide +kernel, by decide +kernel⟩

theorem find_mapped {pm : KMap} {L K : List String} (ff : FormatFacts pm L K)
    {kvs : List (String × J)} (hL : ∀ kv ∈ kvs, kv.1 ∈ L) {py : String} (hpy : py ∈ K) :
    find py (mapped pm kvs) = find (odmlName pm py) kvs := by
  induction kvs with
  | nil => rfl
  | cons kv r ih =>
    obtain ⟨hk, hL'⟩ := List.forall_mem_cons.1 hL
    have back : (mapKey pm kv.1 == py) = (kv.1 == odmlName pm py) :=
      Bool.eq_iff_iff.2 (by
        simp only [beq_iff_eq]
        exact ⟨fun e => e ▸ (ff.odmlName_mapKey _ hk).symm, fun e => e ▸ ff.mapKey_odmlName py hpy⟩)
    simp only [mapped, List.map_cons, find_cons, back]
    rw [← mapped, ih hL']
    rfl

theorem nodup_mapped {pm : KMap} {L K : List String} (ff : FormatFacts pm L K)
    {kvs : List (String × J)} (hL : ∀ kv ∈ kvs, kv.1 ∈ L) (hn : (keysOf kvs).Nodup) :
    (keysOf (mapped pm kvs)).Nodup := by
  -- `odmlName` undoes `mapKey` on `L`, so the mapped keys are as distinct as the keys
  refine List.Pairwise.of_map (S := (· ≠ ·)) (odmlName pm) (fun _ _ h e => h (congrArg _ e)) ?_
  show (((kvs.map _).map Prod.fst).map (odmlName pm)).Nodup
  rw [List.map_map, List.map_map, List.map_congr_left (g := Prod.fst)]
  · exact hn
  · exact fun kv hkv => ff.odmlName_mapKey _ (hL kv hkv)

theorem mapped_keys_in {pm : KMap} {L K : List String} (ff : FormatFacts pm L K)
    {kvs : List (String × J)} (hL : ∀ kv ∈ kvs, kv.1 ∈ L) :
    (mapped pm kvs).all (fun kv => K.contains kv.1) = true := by
  simp only [mapped, List.all_map, List.all_eq_true]
  intro kv hkv
  simpa using ff.kw kv.1 (hL kv hkv)

/-- What the assignments `attrs[fmt.map(k)] = v` of a key loop build from an empty dict. -/
theorem foldl_assocSet_mapped {pm : KMap} {L K : List String}
    (ff : FormatFacts pm L K) {kvs : List (String × J)} (hL : ∀ kv ∈ kvs, kv.1 ∈ L)
    (hn : (keysOf kvs).Nodup) :
    kvs.foldl (fun a kv => assocSet a (mapKey pm kv.1) kv.2) [] = mapped pm kvs := by
  have := foldl_assocSet_nodup (mapped pm kvs) [] (by simpa using nodup_mapped ff hL hn)
  simpa [mapped, List.foldl_map] using this

theorem scanPropKeys_valid (m : Mode) (kvs attrs : List (String × J)) (ws : List Warn)
    (h : ∀ kv ∈ kvs, isValidAttr Gen.Format.propertyArgs Gen.Format.propertyMap kv.1 = true) :
    scanPropKeys m kvs attrs ws =
      .ok (kvs.foldl (fun a kv => assocSet a (mapKey Gen.Format.propertyMap kv.1) kv.2) attrs, ws) := by
  induction kvs generalizing attrs with
  | nil => rfl
  | cons kv r ih =>
    obtain ⟨k, v⟩ := kv
    have hk := h (k, v) (by simp)
    simp only [scanPropKeys, hk, if_true, List.foldl_cons]
    exact ih _ (fun kv hkv => h kv (by simp [hkv]))

theorem propArgsOf_congr {g₁ g₂ : String → Option J} (h : ∀ py ∈ propKwargs, g₁ py = g₂ py) :
    propArgsOf g₁ = propArgsOf g₂ := by
  simp only [propKwargs, List.forall_mem_cons] at h
  simp only [propArgsOf, h]

/-- A property dictionary in the layout is read as the Property it denotes, without warnings,
    by the strict and by the lenient reader. -/
theorem parseProp_denote (lib : Lib) (m : Mode) (j : J) (p : Prp) (ws : List Warn)
    (h : denoteProp lib j = some p) : parseProp lib m j ws = .ok (some p, ws) := by
  cases j with
  | obj kvs =>
    simp only [denoteProp] at h
    split at h <;> try cases h
    rename_i hc
    simp only [Bool.and_eq_true, List.all_eq_true, List.contains_iff_mem, nodupKeys_iff] at hc
    split at h <;> cases h
    rename_i hx
    simp only [parseProp, foldl_assocSet_mapped propFacts hc.1 hc.2, mapped_keys_in propFacts hc.1,
      scanPropKeys_valid m kvs [] ws fun kv hkv => propLayout_valid kv.1 (hc.1 kv hkv),
      propArgsOf_congr fun _ hpy => find_mapped propFacts hc.1 hpy, hx]
    rfl
  | _ => simp [denoteProp] at h

theorem parsePropList_denote (lib : Lib) (m : Mode) (xs : List J) (ps : List Prp) (ws : List Warn)
    (h : denotePropList lib xs = some ps) : parsePropList lib m xs ws = .ok (ps, ws) := by
  induction xs generalizing ps with
  | nil => simp only [denotePropList] at h; cases h; rfl
  | cons x r ih =>
    simp only [denotePropList] at h
    split at h
    · rename_i p ps' hp hps
      cases h
      simp [parsePropList, parseProp_denote lib m x p ws hp, ih ps' hps]
    · cases h

theorem parseProps_denote (lib : Lib) (m : Mode) (v : J) (ps : List Prp) (ws : List Warn)
    (h : denoteProps lib v = some ps) : parseProps lib m v ws = .ok (ps, ws) := by
  cases v with
  | arr xs => exact parsePropList_denote lib m xs ps ws h
  | _ => simp [denoteProps] at h

/-- The attribute pairs of a section / document dictionary (everything but the child lists). -/
def attrKvs (kvs : List (String × J)) : List (String × J) :=
  kvs.filter (fun kv => kv.1 != "properties" && kv.1 != "sections")

def secAttrKeys : List String := secLayoutKeys.filter (fun k => k != "properties" && k != "sections")
def docAttrKeys : List String := docLayoutKeys.filter (fun k => k != "properties" && k != "sections")

theorem secFacts : FormatFacts Gen.Format.sectionMap secAttrKeys secKwargs :=
  ⟨by decide +kernel, by decide +kernel⟩

theorem docFacts : FormatFacts Gen.Format.documentMap docAttrKeys docKwargs :=
  ⟨by decide +kernel, by decide +kernel⟩

theorem find_attrKvs {k : String} (kvs : List (String × J))
    (hk : (k != "properties" && k != "sections") = true) : find k (attrKvs kvs) = find k kvs := by
  induction kvs with
  | nil => rfl
  | cons kv r ih =>
    obtain ⟨k', v⟩ := kv
    unfold attrKvs at ih ⊢
    by_cases h : (k' != "properties" && k' != "sections") = true
    · simp only [List.filter_cons, h, if_true, find_cons, ih]
    · have : (k' == k) = false := beq_eq_false_iff_ne.2 fun e => h (e ▸ hk)
      simp [h, find_cons, this, ih]

theorem attrKvs_keys {L : List String} {kvs : List (String × J)} (hL : ∀ kv ∈ kvs, kv.1 ∈ L) :
    ∀ kv ∈ attrKvs kvs, kv.1 ∈ L.filter (fun k => k != "properties" && k != "sections") := by
  intro kv hkv
  simp only [attrKvs, List.mem_filter] at hkv
  simp only [List.mem_filter]
  exact ⟨hL kv hkv.1, hkv.2⟩

theorem attrKvs_nodup {kvs : List (String × J)} (hn : (keysOf kvs).Nodup) :
    (keysOf (attrKvs kvs)).Nodup := by
  have : (keysOf (attrKvs kvs)).Sublist (keysOf kvs) := by
    simp only [keysOf, attrKvs]
    exact (List.filter_sublist).map _
  exact hn.sublist this

theorem propsOfKvs_find (lib : Lib) (kvs : List (String × J)) :
    propsOfKvs lib kvs = match find "properties" kvs with
      | some v => denoteProps lib v
      | none => some [] := by
  induction kvs with
  | nil => rfl
  | cons kv r ih =>
    obtain ⟨k, v⟩ := kv
    simp only [propsOfKvs, find_cons]
    split <;> simp [ih]

theorem secsOfKvs_find (lib : Lib) (kvs : List (String × J)) :
    secsOfKvs lib kvs = match find "sections" kvs with
      | some v => denoteSecsJ lib v
      | none => some [] := by
  induction kvs with
  | nil => simp [secsOfKvs]
  | cons kv r ih =>
    obtain ⟨k, v⟩ := kv
    simp only [secsOfKvs, find_cons]
    split <;> simp [ih]

theorem propsOfKvs_absent (lib : Lib) {kvs : List (String × J)} (h : "properties" ∉ keysOf kvs) :
    propsOfKvs lib kvs = some [] := by
  rw [propsOfKvs_find, find_none_of_not_mem h]

theorem secsOfKvs_absent (lib : Lib) {kvs : List (String × J)} (h : "sections" ∉ keysOf kvs) :
    secsOfKvs lib kvs = some [] := by
  rw [secsOfKvs_find, find_none_of_not_mem h]

theorem find_mapped_attrKvs {pm : KMap} {L K : List String} {kvs : List (String × J)}
    (ff : FormatFacts pm (L.filter fun k => k != "properties" && k != "sections") K)
    (hL : ∀ kv ∈ kvs, kv.1 ∈ L) {py : String} (hpy : py ∈ K) :
    find py (mapped pm (attrKvs kvs)) = find (odmlName pm py) kvs :=
  (find_mapped ff (attrKvs_keys hL) hpy).trans
    (find_attrKvs _ (List.mem_filter.1 (ff.file py hpy)).2)

theorem secArgsOf_congr {g₁ g₂ : String → Option J} (h : ∀ py ∈ secKwargs, g₁ py = g₂ py) :
    secArgsOf g₁ = secArgsOf g₂ := by
  simp only [secKwargs, List.forall_mem_cons] at h
  simp only [secArgsOf, h]

theorem docArgsOf_congr {g₁ g₂ : String → Option J} (h : ∀ py ∈ docKwargs, g₁ py = g₂ py) :
    docArgsOf g₁ = docArgsOf g₂ := by
  simp only [docKwargs, List.forall_mem_cons] at h
  simp only [docArgsOf, h]

/-- The state the key loop of `parse_sections` reaches on a dictionary in the layout. -/
def scanSecSpec (kvs : List (String × J)) (ps : List Prp) (ss : List Sec) (acc : SecAcc) : SecAcc :=
  { attrs := (attrKvs kvs).foldl (fun a kv => assocSet a (mapKey Gen.Format.sectionMap kv.1) kv.2) acc.attrs,
    props := if "properties" ∈ keysOf kvs then ps else acc.props,
    secs := if "sections" ∈ keysOf kvs then ss else acc.secs }

theorem propsOfKvs_collected {lib : Lib} {kvs : List (String × J)} {ps : List Prp}
    (h : propsOfKvs lib kvs = some ps) : (if "properties" ∈ keysOf kvs then ps else []) = ps := by
  split
  · rfl
  · next hm => rw [propsOfKvs_absent lib hm] at h; exact Option.some.inj h

theorem secsOfKvs_collected {lib : Lib} {kvs : List (String × J)} {ss : List Sec}
    (h : secsOfKvs lib kvs = some ss) : (if "sections" ∈ keysOf kvs then ss else []) = ss := by
  split
  · rfl
  · next hm => rw [secsOfKvs_absent lib hm] at h; exact Option.some.inj h

theorem finishSec_denote (lib : Lib) (m : Mode) {kvs : List (String × J)} (ws : List Warn)
    (hL : ∀ kv ∈ kvs, kv.1 ∈ secLayoutKeys) (hn : (keysOf kvs).Nodup)
    {props x : List Prp} {secs y : List Sec} {id : String} {name type d r l rp inc : J}
    {sc pc : Card.Card} (hp : propsOfKvs lib kvs = some props) (hs : secsOfKvs lib kvs = some secs)
    (hc : createSec lib (secArgsOf fun py => find (odmlName Gen.Format.sectionMap py) kvs) =
      .ok (.mk id name type d r l rp inc sc pc x y))
    (hd : (hasDupNames (props.map (·.name)) || hasDupNames (secs.map Sec.name)) = false) :
    finishSec lib m (scanSecSpec kvs props secs { attrs := [], props := [], secs := [] }) ws =
      .ok (some (.mk id name type d r l rp inc sc pc props secs), ws) := by
  have hLa := attrKvs_keys hL
  simp only [Bool.or_eq_false_iff] at hd
  simp only [finishSec, scanSecSpec, foldl_assocSet_mapped secFacts hLa (attrKvs_nodup hn),
    mapped_keys_in secFacts hLa, secArgsOf_congr fun _ hpy => find_mapped_attrKvs secFacts hL hpy,
    hc, propsOfKvs_collected hp, secsOfKvs_collected hs, appendAll_fresh m _ _ hd.1,
    appendAll_fresh m _ _ hd.2, Bool.not_true, Bool.false_eq_true, if_false]

mutual
theorem parseSec_denote (lib : Lib) (m : Mode) : (j : J) → (s : Sec) → (ws : List Warn) →
    denoteSec lib j = some s → parseSec lib m j ws = .ok (some s, ws)
  | j, s, ws, h => by
    cases j with
    | obj kvs =>
      simp only [denoteSec] at h
      split at h <;> try cases h
      rename_i hl
      simp only [Bool.and_eq_true, List.all_eq_true, List.contains_iff_mem, nodupKeys_iff] at hl
      split at h <;> try cases h
      rename_i hc hp hs
      split at h <;> cases h
      rename_i hd
      simp only [parseSec, scanSecKeys_denote lib m kvs hl.1 hl.2 _ _ hp hs]
      exact finishSec_denote lib m ws hl.1 hl.2 hp hs hc (Bool.not_eq_true _ ▸ hd)
    | _ => simp [denoteSec] at h
theorem parseSecsJ_denote (lib : Lib) (m : Mode) : (j : J) → (ss : List Sec) → (ws : List Warn) →
    denoteSecsJ lib j = some ss → parseSecsJ lib m j ws = .ok (ss, ws)
  | j, ss, ws, h => by
    cases j with
    | arr xs =>
      simp only [denoteSecsJ] at h
      simp only [parseSecsJ]
      exact parseSecList_denote lib m xs ss ws h
    | _ => simp [denoteSecsJ] at h
theorem parseSecList_denote (lib : Lib) (m : Mode) : (xs : List J) → (ss : List Sec) →
    (ws : List Warn) → denoteSecList lib xs = some ss → parseSecList lib m xs ws = .ok (ss, ws)
  | [], ss, ws, h => by
    simp only [denoteSecList] at h; cases h; simp [parseSecList]
  | x :: r, ss, ws, h => by
    simp only [denoteSecList] at h
    split at h
    · rename_i s ss' hs hss
      cases h
      simp [parseSecList, parseSec_denote lib m x s ws hs, parseSecList_denote lib m r ss' ws hss]
    · cases h
theorem scanSecKeys_denote (lib : Lib) (m : Mode) : (kvs : List (String × J)) →
    (∀ kv ∈ kvs, kv.1 ∈ secLayoutKeys) → (keysOf kvs).Nodup →
    (ps : List Prp) → (ss : List Sec) → propsOfKvs lib kvs = some ps → secsOfKvs lib kvs = some ss →
    (acc : SecAcc) → (ws : List Warn) →
    scanSecKeys lib m kvs acc ws = .ok (scanSecSpec kvs ps ss acc, ws)
  | [], _, _, ps, ss, _, _, acc, ws => by
    simp [scanSecKeys, scanSecSpec, attrKvs, keysOf]
  | (k, v) :: r, hL, hn, ps, ss, hp, hs, acc, ws => by
    obtain ⟨hk, hL'⟩ := List.forall_mem_cons.1 hL
    have ⟨hnk, hn'⟩ : k ∉ keysOf r ∧ (keysOf r).Nodup := List.nodup_cons.1 hn
    have hv := secLayout_valid k hk
    by_cases h1 : k = "properties"
    · subst h1
      simp [propsOfKvs, secsOfKvs] at hp hs
      simp only [scanSecKeys, hv, parseProps_denote lib m v ps ws hp,
        scanSecKeys_denote lib m r hL' hn' [] ss (propsOfKvs_absent lib hnk) hs]
      simp [scanSecSpec, attrKvs, hnk]
    · by_cases h2 : k = "sections"
      · subst h2
        simp [propsOfKvs, secsOfKvs] at hp hs
        simp only [scanSecKeys, hv, parseSecsJ_denote lib m v ss ws hs,
          scanSecKeys_denote lib m r hL' hn' ps [] hp (secsOfKvs_absent lib hnk)]
        simp [scanSecSpec, attrKvs, hnk]
      · simp [propsOfKvs, secsOfKvs, h1, h2] at hp hs
        simp only [scanSecKeys, hv, scanSecKeys_denote lib m r hL' hn' ps ss hp hs]
        simp [scanSecSpec, attrKvs, h1, h2, Ne.symm h1, Ne.symm h2]
end

theorem scanDocKeys_denote (lib : Lib) (m : Mode) (kvs : List (String × J))
    (hL : ∀ kv ∈ kvs, kv.1 ∈ docLayoutKeys) (hn : (keysOf kvs).Nodup)
    (ss : List Sec) (hs : secsOfKvs lib kvs = some ss)
    (attrs : List (String × J)) (secs : List Sec) (ws : List Warn) :
    scanDocKeys lib m kvs attrs secs ws =
      .ok ((attrKvs kvs).foldl (fun a kv => assocSet a (mapKey Gen.Format.documentMap kv.1) kv.2) attrs,
           (if "sections" ∈ keysOf kvs then ss else secs), ws) := by
  induction kvs generalizing attrs secs ss with
  | nil => simp [scanDocKeys, attrKvs, keysOf]
  | cons kv r ih =>
    obtain ⟨k, v⟩ := kv
    obtain ⟨hk, hL'⟩ := List.forall_mem_cons.1 hL
    have ⟨hnk, hn'⟩ : k ∉ keysOf r ∧ (keysOf r).Nodup := List.nodup_cons.1 hn
    have hv := docLayout_valid k hk
    by_cases h2 : k = "sections"
    · subst h2
      simp [secsOfKvs] at hs
      simp only [scanDocKeys, hv, parseSecsJ_denote lib m v ss ws hs,
        ih hL' hn' [] (secsOfKvs_absent lib hnk)]
      simp [attrKvs, hnk]
    · have hnp : k ≠ "properties" := by
        rintro rfl
        simp [docLayoutKeys_eq] at hk
      simp [secsOfKvs, h2] at hs
      simp only [scanDocKeys, hv, ih hL' hn' ss hs]
      simp [attrKvs, h2, hnp, Ne.symm h2]

/-- A dictionary in the odML 1.1 layout is read as the document it denotes, without warnings,
    by the strict and by the lenient reader. -/
theorem readDict_denote (lib : Lib) (m : Mode) (j : J) (d : Doc) (h : denote lib j = some d) :
    readDict lib m j = .ok (d, []) := by
  cases j with
  | obj root =>
    simp only [denote] at h
    split at h <;> try cases h
    rename_i kvs v hD hV
    split at h <;> try cases h
    rename_i hl
    simp only [Bool.and_eq_true, List.all_eq_true, List.contains_iff_mem, nodupKeys_iff] at hl
    obtain ⟨⟨hver, hL⟩, hn⟩ := hl
    split at h <;> try cases h
    rename_i hc hs
    split at h <;> cases h
    rename_i hd
    have hLa := attrKvs_keys hL
    simp only [readDict, hD, hV, hver, scanDocKeys_denote lib m kvs hL hn _ hs,
      foldl_assocSet_mapped docFacts hLa (attrKvs_nodup hn), makeDoc, mapped_keys_in docFacts hLa,
      docArgsOf_congr fun _ hpy => find_mapped_attrKvs docFacts hL hpy, hc, secsOfKvs_collected hs,
      appendAll_fresh m _ _ (Bool.not_eq_true _ ▸ hd), Bool.not_true, Bool.false_eq_true, if_false]
  | _ => simp [denote] at h

end Dict
