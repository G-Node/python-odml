/-
C16 — specification of what the dictionary reader (`DictReader.to_odml`) returns, and the proof that
the model computes it: for every JSON-like value

* `dSections` / `dSecList` / `dDoc` — the valid parts: every dictionary entry of a `sections` list
  whose Section can be created becomes that Section, with the valid parts of its `properties` and
  `sections` attached unless an earlier kept sibling of the sort has the name; every dictionary entry
  of a `properties` list whose Property can be created becomes that Property; everything else is
  left out;
* `sectionsProblems` / … / `docProblems` — the number of problems (calls of `self.error`).

`readDoc_spec`: `readDoc g env m (.obj kvs) = outcome m (docProblems env kvs) (dDoc env kvs, docProblems env kvs)`
for guards with `DictOk`; mutual structural induction over `J` (`J.induct`).
-/
import OdmlModel.Proofs.ReaderSpec

namespace Reader

variable {g : Guards} {env : DEnv} {m : Mode}

theorem insertEach_eq (obj : Obj J) (cs : List (Obj J)) (w : Nat) :
    insertEach m obj cs w
      = outcome m (refusedCount J.pyEq obj cs) (keepValid J.pyEq obj cs, w + refusedCount J.pyEq obj cs) :=
  insertLoop_eq (fun _ _ => rfl) (fun _ _ _ _ _ h => by rw [insertEach, h])
    (fun _ _ _ _ _ h => by rw [insertEach, h]) obj cs w

theorem insertDocSecs_eq (hg : g.guardDocAppend = true) (obj : Obj J)
    (cs : List (Obj J)) (w : Nat) :
    insertDocSecs g m obj cs w
      = outcome m (refusedCount J.pyEq obj cs) (keepValid J.pyEq obj cs, w + refusedCount J.pyEq obj cs) :=
  insertLoop_eq (fun _ _ => rfl) (fun _ _ _ _ _ h => by rw [insertDocSecs, h])
    (fun _ _ _ _ _ h => by rw [insertDocSecs, h]; simp only [hg, if_true]) obj cs w

/-- `is_valid_attribute`: an argument of the format, or the mapped name of one -/
def validKey (kind : Kind) (k : Str) : Bool := isArgKey kind k || (revMap kind k).isSome

def keyProblem (kind : Kind) (k : Str) : Nat := if validKey kind k then 0 else 1

theorem validAttr_spec (kind : Kind) (k : Str) (w : Nat) :
    validAttr m kind (.str k) w
      = outcome m (keyProblem kind k)
          (if validKey kind k then some k else none, w + keyProblem kind k) := by
  simp only [validAttr, keyProblem, validKey]
  by_cases h : (isArgKey kind k || (revMap kind k).isSome) = true
  · simp only [h, if_true]
    exact pure_eq_outcome m _
  · simp only [h, Bool.false_eq_true, if_false]
    exact raiseOrWarn_pure m w (fun w' => (none, w'))

/-- the keyword arguments of one Property dictionary -/
def dPropArgs : List (Str × J) → DArgs → DArgs
  | [], a => a
  | (k, v) :: rest, a =>
    if validKey .prop k then dPropArgs rest (setAttr .prop k v a) else dPropArgs rest a

def pairsProblems (kind : Kind) : List (Str × J) → Nat
  | [] => 0
  | (k, _) :: rest => keyProblem kind k + pairsProblems kind rest

theorem propPairs_spec (kvs : List (Str × J)) (a : DArgs) (w : Nat) :
    propPairs m kvs a w
      = outcome m (pairsProblems .prop kvs) (dPropArgs kvs a, w + pairsProblems .prop kvs) := by
  induction kvs generalizing a w with
  | nil => exact pure_eq_outcome m _
  | cons p rest ih =>
    obtain ⟨k, v⟩ := p
    unfold propPairs dPropArgs pairsProblems
    rw [validAttr_spec]
    split <;> exact outcome_bind (ih _ _) rfl (by congr 1; omega)

/-- the Property an entry of a `properties` list stands for, if it is a dictionary the constructor
    accepts -/
def dProp (env : DEnv) : J → List (Obj J)
  | .obj kvs =>
    if env.createFails .prop (dPropArgs kvs []) then []
    else [Obj.mk .prop (dObjName env .prop (dPropArgs kvs [])) true [] []]
  | _ => []

def propProblems (env : DEnv) : J → Nat
  | .obj kvs => pairsProblems .prop kvs + (if env.createFails .prop (dPropArgs kvs []) then 1 else 0)
  | _ => 1

theorem parseProp_spec (hs : g.shapeChecks = true) (entry : J)
    (acc : List (Obj J)) (w : Nat) :
    parseProp g env m entry acc w
      = outcome m (propProblems env entry) (acc ++ dProp env entry, w + propProblems env entry) := by
  unfold parseProp
  cases entry with
  | obj kvs =>
    simp only [hs, J.isDict, Bool.not_true, Bool.and_false, Bool.false_eq_true, if_false, dProp,
      propProblems, propPairs_spec]
    refine outcome_bind ?_ rfl rfl
    split
    · simp only [List.append_nil]
      exact raiseOrWarn_pure m _ (fun w' => (acc, w'))
    · exact pure_eq_outcome m _
  | _ =>
    simp only [hs, J.isDict, Bool.not_false, Bool.and_true, if_true, dProp, propProblems,
      List.append_nil]
    exact raiseOrWarn_pure m w (fun w' => (acc, w'))

def dPropList (env : DEnv) : List J → List (Obj J)
  | [] => []
  | e :: rest => dProp env e ++ dPropList env rest

def propListProblems (env : DEnv) : List J → Nat
  | [] => 0
  | e :: rest => propProblems env e + propListProblems env rest

theorem parsePropList_spec (hs : g.shapeChecks = true)
    (l : List J) (acc : List (Obj J)) (w : Nat) :
    parsePropList g env m l acc w
      = outcome m (propListProblems env l) (acc ++ dPropList env l, w + propListProblems env l) := by
  induction l generalizing acc w with
  | nil =>
    simp only [parsePropList, dPropList, propListProblems, List.append_nil, Nat.add_zero]
    exact pure_eq_outcome m _
  | cons e rest ih =>
    unfold parsePropList dPropList propListProblems
    rw [parseProp_spec hs]
    refine outcome_bind (ih _ _) rfl ?_
    rw [List.append_assoc]
    congr 1
    omega

/-- the valid Properties of the value under `properties` -/
def dProps (env : DEnv) : J → List (Obj J)
  | .arr xs => dPropList env xs
  | _ => []

def propsProblems (env : DEnv) : J → Nat
  | .arr xs => propListProblems env xs
  | _ => 1

theorem parseProps_spec (hs : g.shapeChecks = true) (pl : J)
    (w : Nat) :
    parseProps g env m pl w = outcome m (propsProblems env pl) (dProps env pl, w + propsProblems env pl) := by
  unfold parseProps
  cases pl with
  | arr xs =>
    simp only [hs, J.isList, Bool.not_true, Bool.and_false, Bool.false_eq_true, if_false, pyIter,
      liftLeak, dProps, propsProblems]
    exact (parsePropList_spec hs xs [] w).trans (by rw [List.nil_append])
  | _ =>
    simp only [hs, J.isList, Bool.not_false, Bool.and_true, if_true, dProps, propsProblems]
    exact raiseOrWarn_pure m w (fun w' => ([], w'))

/-- the Section made from the collected parts, if the constructor accepts the arguments -/
def dSecObj (env : DEnv) (attrs : DArgs) (props secs : List (Obj J)) : List (Obj J) :=
  if env.createFails .sec attrs then []
  else [keepValid J.pyEq (Obj.mk .sec (dObjName env .sec attrs) true [] []) (props ++ secs)]

def secFinishProblems (env : DEnv) (attrs : DArgs) (props secs : List (Obj J)) : Nat :=
  if env.createFails .sec attrs then 1
  else refusedCount J.pyEq (Obj.mk .sec (dObjName env .sec attrs) true [] []) (props ++ secs)

theorem finishSec_spec (hp : g.perChildAppend = true)
    (attrs : DArgs) (props secs acc : List (Obj J)) (w : Nat) :
    finishSec g env m attrs props secs acc w
      = outcome m (secFinishProblems env attrs props secs)
          (acc ++ dSecObj env attrs props secs, w + secFinishProblems env attrs props secs) := by
  unfold finishSec dSecObj secFinishProblems
  split
  · rw [List.append_nil]
    exact raiseOrWarn_pure m w (fun w' => (acc, w'))
  · simp only [insertEach_eq]
    exact outcome_bind (pure_eq_outcome m _) rfl rfl

/-- what the attribute loop over one Section dictionary has collected -/
structure SecParts where
  attrs : DArgs
  props : List (Obj J)
  secs : List (Obj J)

mutual
/-- **The valid Sections of the value under `sections`.** -/
def dSections (env : DEnv) : J → List (Obj J)
  | .arr xs => dSecList env xs
  | _ => []
def dSecList (env : DEnv) : List J → List (Obj J)
  | [] => []
  | .obj kvs :: rest =>
    dSecObj env (dSecParts env kvs ⟨[], [], []⟩).attrs (dSecParts env kvs ⟨[], [], []⟩).props
      (dSecParts env kvs ⟨[], [], []⟩).secs ++ dSecList env rest
  | _ :: rest => dSecList env rest
/-- arguments, valid Properties and valid Subsections of one Section dictionary (a later
    `properties` / `sections` key replaces an earlier one, as in the code) -/
def dSecParts (env : DEnv) : List (Str × J) → SecParts → SecParts
  | [], st => st
  | (k, v) :: rest, st =>
    if validKey .sec k then
      if k == "properties".toList then dSecParts env rest { st with props := dProps env v }
      else if k == "sections".toList then dSecParts env rest { st with secs := dSections env v }
      else dSecParts env rest { st with attrs := setAttr .sec k v st.attrs }
    else dSecParts env rest st
end

mutual
/-- **The problems of the value under `sections`**, at every depth. -/
def sectionsProblems (env : DEnv) : J → Nat
  | .arr xs => secListProblems env xs
  | _ => 1
def secListProblems (env : DEnv) : List J → Nat
  | [] => 0
  | .obj kvs :: rest =>
    secPairsProblems env kvs
      + secFinishProblems env (dSecParts env kvs ⟨[], [], []⟩).attrs (dSecParts env kvs ⟨[], [], []⟩).props
          (dSecParts env kvs ⟨[], [], []⟩).secs
      + secListProblems env rest
  | _ :: rest => 1 + secListProblems env rest
def secPairsProblems (env : DEnv) : List (Str × J) → Nat
  | [] => 0
  | (k, v) :: rest =>
    (if validKey .sec k then
      if k == "properties".toList then propsProblems env v
      else if k == "sections".toList then sectionsProblems env v
      else 0
     else 1) + secPairsProblems env rest
end

/-- the state of the attribute loop of `parse_sections` after the pairs `kvs`, started in any state
    `st` (so that the induction hypothesis applies to the tail) -/
def secLoopAfter (env : DEnv) (kvs : List (Str × J)) (st : SecLoop) : SecLoop :=
  { attrs := (dSecParts env kvs ⟨st.attrs, st.props, st.secs⟩).attrs,
    props := (dSecParts env kvs ⟨st.attrs, st.props, st.secs⟩).props,
    secs := (dSecParts env kvs ⟨st.attrs, st.props, st.secs⟩).secs,
    w := st.w + secPairsProblems env kvs }

end Reader
