/-
Refusals of the compound operations (property C06): the link setter.

`x.link = <path of t>` cleans `x` (when a link is stored), merges `t` and, when that merge is
refused, resolves the previous link again if it had been resolved. When nothing is merged anywhere
(`clean()` finds nothing to undo) or `x` has no link yet, the refused assignment leaves the state
it found.
-/
import OdmlModel.Proofs.HeapExtRefuseAll

namespace Heap.Refuse

theorem liveLoop_noop {σ : Type} (lst : σ → List Nat) (body : σ → Nat → σ × XOut) (t : σ)
    (hb : ∀ o ∈ lst t, body t o = (t, .ok) ∨ body t o = (t, .fuel)) :
    ∀ (fuel i : Nat), liveLoop lst body fuel i t = (t, .ok) ∨ liveLoop lst body fuel i t = (t, .fuel) := by
  intro fuel
  induction fuel with
  | zero => intro i; exact Or.inr rfl
  | succ fuel ih =>
    intro i
    unfold liveLoop
    split
    · exact Or.inl rfl
    · rename_i obj hget
      rcases hb obj (List.mem_of_getElem? hget) with h | h
      · rw [h]; exact ih (i + 1)
      · rw [h]; exact Or.inr rfl

theorem cleanAux_noop (O : Oracle) (s : X) (w : WF s.h)
    (hm : ∀ i, i < s.h.size → s.merged i = none) :
    ∀ (fuel x : Nat), x < s.h.size →
      (cleanAux O fuel s x = (s, .ok) ∨ cleanAux O fuel s x = (s, .fuel)) := by
  intro fuel
  induction fuel with
  | zero => intro x _; exact Or.inr rfl
  | succ fuel ih =>
    intro x hx
    have hu : unmergeIfMerged O fuel s x = (s, .ok) := by
      unfold unmergeIfMerged
      rw [hm x hx]
      cases (s.h.node x).kind <;> rfl
    unfold cleanAux
    rw [hu]
    exact liveLoop_noop _ _ s
      (fun o ho => ih o (w.child_lt ((w.memS x o).mp ho).1)) fuel 0

/-- The link setter is all-or-nothing on a Section that has no link yet, and wherever no Section
    is merged: it answers `.ok`, `.fuel`, or the ValueError of the refused merge with the state it
    was given. -/
theorem setLinkAux_all_or_nothing (O : Oracle) (fuel : Nat) (s : X) (x t : Nat)
    (w : WF s.h) (hn : NoEmptyName s.h) (hx : x < s.h.size)
    (kx : (s.h.node x).kind = .sec) (kt : (s.h.node t).kind = .sec)
    (hap : apart s.h x t = true)
    (hclean : s.link x = false ∨ ∀ i, i < s.h.size → s.merged i = none) :
    (∃ s', setLinkAux O fuel s x (.path (some t)) = (s', .ok)) ∨
    (∃ s', setLinkAux O fuel s x (.path (some t)) = (s', .fuel)) ∨
    setLinkAux O fuel s x (.path (some t)) = (s, .raised .valueError) := by
  have hres : s.resolved x = false := by
    unfold X.resolved
    rcases hclean with h | h
    · rw [h, Bool.and_false]
    · rw [h x hx]; rfl
  have hcl : cleanIfLinked O fuel s x = (s, .ok) ∨ cleanIfLinked O fuel s x = (s, .fuel) := by
    unfold cleanIfLinked
    split
    · rename_i hl
      rcases hclean with h | h
      · rw [h] at hl; cases hl
      · exact cleanAux_noop O s w h fuel x hx
    · exact Or.inl rfl
  generalize hr : setLinkAux O fuel s x (.path (some t)) = r
  unfold setLinkAux at hr
  split at hr
  · exact Or.inl ⟨_, hr.symm⟩
  · rcases hcl with hc | hc <;> simp only [hc] at hr
    · rcases mergeAux_all_or_nothing O fuel s true x t w hn kx kt hap with
        ⟨s', h⟩ | ⟨s', h⟩ | h <;> simp only [h] at hr
      · exact Or.inl ⟨_, hr.symm⟩
      · exact Or.inr (Or.inl ⟨_, hr.symm⟩)
      · simp only [hres, Bool.false_eq_true, if_false] at hr
        exact Or.inr (Or.inr hr.symm)
    · exact Or.inr (Or.inl ⟨_, hr.symm⟩)

theorem link_unresolvable (fuel : Nat) (s : X) (O : Oracle) (x : Nat) :
    (∃ e, stepX fuel s O (.setLink x (.path none)) = (s.start, .raised e)) ∨
    ((s.h.node x).parent = none ∧ (stepX fuel s O (.setLink x (.path none))).2 = .ok) := by
  by_cases hok : (∀ i ∈ (XOp.setLink x (.path none)).handles, i < s.h.size) ∧
      (s.h.node x).kind = .sec
  · rw [stepX_setLink_eq hok]
    unfold setLinkAux
    split
    · rename_i hp; exact Or.inr ⟨hp, rfl⟩
    · exact Or.inl ⟨_, rfl⟩
  · exact Or.inl (stepX_setLink_bad_args hok)

end Heap.Refuse
