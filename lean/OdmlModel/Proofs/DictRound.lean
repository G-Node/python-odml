/-
C02, round trip: the written dictionary, after transport through text (`ScalarCodec`), denotes
the document it was written from. `slots_after_transport` turns every constructor keyword into
its slot; atoms are fixed by `apply_atom`, values go back through `setValues_transport`,
cardinalities through `readCard_cardJ` (C09).
-/
import OdmlModel.Proofs.DictRead
import OdmlModel.Proofs.DictTuple
import OdmlModel.Props.C09

namespace Dict
open Py

theorem apply_atom {t : Transport} (sc : ScalarCodec t) {v : J} (h : isAtom v = true) :
    t.apply v = v := by
  cases v <;> simp [isAtom] at h <;> simp [Transport.apply, sc.null, sc.bool, sc.int, sc.float, sc.str]

theorem apply_str {t : Transport} (sc : ScalarCodec t) (s : String) : t.apply (.str s) = .str s :=
  apply_atom sc rfl

theorem apply_optIntJ {t : Transport} (sc : ScalarCodec t) (a : Option Int) :
    t.apply (optIntJ a) = optIntJ a :=
  apply_atom sc (by cases a <;> rfl)

theorem apply_cardJ {t : Transport} (sc : ScalarCodec t) (c : Card.Card) :
    t.apply (cardJ c) = cardJ c := by
  cases c with
  | none => simp [cardJ, Transport.apply, sc.null]
  | some p =>
    obtain ⟨a, b⟩ := p
    simp [cardJ, Transport.apply, Transport.applyList, apply_optIntJ sc]

theorem isAtom_optStrJ (o : Option String) : isAtom (optStrJ o) = true := by cases o <;> rfl

theorem apply_optStrJ {t : Transport} (sc : ScalarCodec t) (o : Option String) :
    t.apply (optStrJ o) = optStrJ o :=
  apply_atom sc (isAtom_optStrJ o)

theorem applyKvs_eq_map (t : Transport) : (kvs : List (String × J)) →
    Transport.applyKvs t kvs = kvs.map fun kv => (kv.1, t.apply kv.2)
  | [] => rfl
  | (k, v) :: r => by rw [Transport.applyKvs, applyKvs_eq_map t r]; rfl

theorem applyKvs_append (t : Transport) (a b : List (String × J)) :
    Transport.applyKvs t (a ++ b) = Transport.applyKvs t a ++ Transport.applyKvs t b := by
  simp [applyKvs_eq_map]

theorem keysOf_applyKvs (t : Transport) (kvs : List (String × J)) :
    keysOf (Transport.applyKvs t kvs) = keysOf kvs := by
  simp [applyKvs_eq_map, keysOf, Function.comp_def]

theorem find_applyKvs (t : Transport) (k : String) (kvs : List (String × J)) :
    find k (Transport.applyKvs t kvs) = (find k kvs).map t.apply := by
  induction kvs with
  | nil => simp [Transport.applyKvs]
  | cons kv r ih =>
    obtain ⟨k', v⟩ := kv
    simp only [Transport.applyKvs, find_cons]
    split <;> simp [ih]

theorem find_transport {t : Transport} (sc : ScalarCodec t) (k : String) (kvs : List (String × J))
    (hn : (keysOf kvs).Nodup) :
    find k (t.order (Transport.applyKvs t kvs)) = (find k kvs).map t.apply := by
  rw [find_perm (sc.order _) _ k, find_applyKvs]
  exact ((sc.order _).map _).nodup_iff.2
    ((keysOf_applyKvs t kvs).symm ▸ hn : (keysOf (Transport.applyKvs t kvs)).Nodup)

theorem keys_transport {t : Transport} (sc : ScalarCodec t) (kvs : List (String × J)) :
    (keysOf (t.order (Transport.applyKvs t kvs))).Perm (keysOf kvs) :=
  keysOf_applyKvs t kvs ▸ (sc.order _).map _

theorem stored_of_cardOk {c : Card.Card} (h : cardOk c = true) : C09.Stored c := by
  cases c with
  | none => simp [C09.Stored, Card.Normal, Card.Strong]
  | some p =>
    obtain ⟨a, b⟩ := p
    cases a <;> cases b <;> simp [cardOk] at h <;>
      simp [C09.Stored, Card.Normal, Card.Strong] <;> omega

theorem toDIn_optIntJ (a : Option Int) : toDIn (optIntJ a) = Card.dinOfBound a := by
  cases a <;> rfl

theorem cardAsIn_eq (c : Card.Card) : cardAsIn c = C09.asIn c := by
  cases c with
  | none => rfl
  | some p => obtain ⟨a, b⟩ := p; rfl

theorem readCard_cardJ {t : Transport} (sc : ScalarCodec t) (c : Card.Card) (h : cardOk c = true) :
    readCard ((optOf (cardJ c)).map t.apply) = .ok c := by
  have hs := stored_of_cardOk h
  cases c with
  | none => rfl
  | some p =>
    obtain ⟨a, b⟩ := p
    have h1 : optOf (cardJ (some (a, b))) = some (cardJ (some (a, b))) := rfl
    rw [h1, Option.map_some, apply_cardJ sc]
    have hp : parseCard (cardJ (some (a, b))) = some (a, b) := by
      simp only [parseCard, cardJ, J.truthy, List.isEmpty_cons, Bool.not_false, Bool.not_true,
        Bool.false_eq_true, if_false, toDIn_optIntJ]
      exact C09.persist_list (a, b) hs
    simp only [readCard, hp, cardAsIn_eq, C09.stored_fixpoint _ hs]

theorem getVal_transport {t : Transport} (sc : ScalarCodec t) (lib : Lib) (k : DtKind) (v : J)
    (hk : notTupleKind k = true) (h : valOk lib k v = true) : getVal lib k (t.apply v) = .ok v := by
  unfold valOk at h
  split at h
  · rename_i s
    simp only [apply_str sc, getVal, strGet, isEmptyish, pyStr]
    by_cases hs : s = "" <;> simp [hs]
  · simp [Transport.apply, sc.int, getVal, intGet]
  · simp [Transport.apply, sc.float, getVal, floatGet]
  · simp [Transport.apply, sc.bool, getVal, boolGet, isEmptyish]
  · rename_i s
    simp only [Bool.and_eq_true, bne_iff_ne, ne_eq, beq_iff_eq] at h
    rcases sc.date s with h1 | h1 <;> simp [Transport.apply, h1, getVal, dateGet, h, ofOpt]
  · rename_i s
    simp only [Bool.and_eq_true, bne_iff_ne, ne_eq, beq_iff_eq] at h
    rcases sc.time s with h1 | h1 <;> simp [Transport.apply, h1, getVal, timeGet, h, ofOpt]
  · rename_i s
    simp only [Bool.and_eq_true, bne_iff_ne, ne_eq, beq_iff_eq] at h
    rcases sc.datetime s with h1 | h1 <;> simp [Transport.apply, h1, getVal, datetimeGet, h, ofOpt]
  · cases hk
  · cases h

theorem getAll_transport {t : Transport} (sc : ScalarCodec t) (lib : Lib) (k : DtKind) (vs : List J)
    (hk : notTupleKind k = true) (h : vs.all (valOk lib k) = true) :
    getAll lib k (Transport.applyList t vs) = .ok vs := by
  induction vs with
  | nil => rfl
  | cons v r ih =>
    simp only [List.all_cons, Bool.and_eq_true] at h
    simp [Transport.applyList, getAll, getVal_transport sc lib k v hk h.1, ih h.2, Except.map]

theorem strip_valText (lib : Lib) (n : Nat) (v : J) (h : valOk lib (.tuple n) v = true) :
    strip (valText v) = valText v := by
  obtain ⟨items, rfl, -⟩ := arr_of_valOk h
  exact strip_exportText _

/-- The bracketed text written for a non-empty list of n-tuples is read back to the same list. -/
theorem setValues_tuple {t : Transport} (sc : ScalarCodec t) (lib : Lib) (dt : String) (n : Nat)
    (v : J) (r : List J) (hne : (dt == "") = false) (hk : classify dt = .tuple n)
    (hvals : (v :: r).all (valOk lib (.tuple n)) = true) (hrep : (v :: r).all valRepr = true) :
    ∃ s, tupleExport (v :: r) = some s ∧
      setValues lib (some dt) (t.apply (J.str s)) = .ok (some dt, v :: r) := by
  have hok := List.all_eq_true.1 hvals
  have hconv := convertInput_bracket ((v :: r).map valText) (by simp)
    (List.forall_mem_map.2 fun x hx => valText_no_comma lib n x (hok x hx) (List.all_eq_true.1 hrep x hx))
    (List.forall_mem_map.2 fun x hx => strip_valText lib n x (hok x hx))
  have hall := getAll_tupleTexts lib n (v :: r) hvals
  have hexp : tupleExport (v :: r) =
      some (String.ofList ('[' :: joinSep ',' ((v :: r).map valText) ++ [']'])) := by
    simp [tupleExport, tupleExportInner_eq lib n (v :: r) hvals]
  refine ⟨_, hexp, ?_⟩
  have hnes : (String.ofList ('[' :: joinSep ',' ((v :: r).map valText) ++ [']']) == "") = false := by
    simp
  simp only [List.map_cons] at hall hconv hnes
  simp only [apply_str sc, setValues, List.map_cons, hnes, hconv, hne, Bool.false_eq_true, if_false, hk, hall]

/-- On a lower-case name the shorthands `str` and `bool` are the only ones normalisation changes,
    and neither they nor what they stand for is a tuple name. -/
theorem isTuple_normalize {dt : String} (hl : lowerStr dt = dt) :
    isTupleDtype (normalizeDtype dt) = isTupleDtype dt := by
  have hn : normalizeDtype dt = (Gen.DTypes.dtypeMap.lookup dt).getD dt :=
    congrArg (fun l => (Gen.DTypes.dtypeMap.lookup l).getD l) hl
  rw [hn]
  by_cases h1 : dt = "str"
  · subst h1; decide +kernel
  by_cases h2 : dt = "bool"
  · subst h2; decide +kernel
  simp [Gen.DTypes.dtypeMap, List.lookup, beq_eq_false_iff_ne.2 h1, beq_eq_false_iff_ne.2 h2]

theorem classify_tuple_of {dt : String} (hl : lowerStr dt = dt) (h : isTupleDtype dt = true) :
    ∃ n, classify dt = .tuple n :=
  ⟨_, by simp only [classify, isTuple_normalize hl, h, if_true]; rfl⟩

theorem classify_not_tuple_of {dt : String} (hl : lowerStr dt = dt) (h : isTupleDtype dt = false) :
    notTupleKind (classify dt) = true := by
  simp only [classify, isTuple_normalize hl, h, Bool.false_eq_true, if_false,
    apply_ite notTupleKind]
  simp only [notTupleKind, ite_self]

theorem setValues_transport {t : Transport} (sc : ScalarCodec t) (lib : Lib) (p : Prp)
    (hwf : (match p.dtype with
            | none => p.values.isEmpty
            | some dt => dt != "" && validType dt && lowerStr dt == dt &&
                p.values.all (valOk lib (classify dt))) = true)
    (hrep : p.values.all valRepr = true) :
    setValues lib p.dtype (t.apply (propValueJ p)) = .ok (p.dtype, p.values) := by
  cases hd : p.dtype with
  | none =>
    simp only [hd, List.isEmpty_iff] at hwf
    simp [propValueJ, hd, hwf, Transport.apply, Transport.applyList, setValues]
  | some dt =>
    simp only [hd, Bool.and_eq_true, beq_iff_eq] at hwf
    obtain ⟨⟨⟨hne, _⟩, hlow⟩, hvals⟩ := hwf
    have hne' : (dt == "") = false := by simpa [bne] using hne
    cases hv : p.values with
    | nil =>
      simp [propValueJ, hd, hv, Transport.apply, Transport.applyList, setValues]
    | cons v0 vs =>
      cases hnt : isTupleDtype dt with
      | true =>
        obtain ⟨n, hk⟩ := classify_tuple_of hlow hnt
        obtain ⟨s, hs, hset⟩ :=
          setValues_tuple sc lib dt n v0 vs hne' hk (hv ▸ hk ▸ hvals) (hv ▸ hrep)
        simpa [propValueJ, hd, hv, hnt, hne, hs] using hset
      | false =>
        have hall := getAll_transport sc lib (classify dt) (v0 :: vs)
          (classify_not_tuple_of hlow hnt) (hv ▸ hvals)
        simp only [propValueJ, hd, hv, hnt, Bool.and_false, Bool.false_and, Bool.false_eq_true,
          if_false, Transport.apply, Transport.applyList, setValues, List.isEmpty_cons, convertInput,
          hne'] at hall ⊢
        rw [hall]
        split <;> rfl

theorem orElse_none_right (o : Option J) : (o.orElse fun _ => none) = o := by cases o <;> rfl
theorem orElse_none_left (f : Unit → Option J) : ((none : Option J).orElse f) = f () := rfl
theorem orElse_some_left (v : J) (f : Unit → Option J) : ((some v).orElse f) = some v := rfl

theorem map_apply_optOf {t : Transport} (sc : ScalarCodec t) {v : J} (h : isAtom v = true) :
    (optOf v).map t.apply = optOf v := by
  unfold optOf; split <;> simp [apply_atom sc h]

theorem isAtom_of_isName {v : J} (h : isName v = true) : isAtom v = true := by
  cases v <;> first | rfl | cases h

theorem truthy_of_isName {v : J} (h : isName v = true) : v.truthy = true := by
  cases v <;> first | exact h | cases h

theorem slots_after_transport {t : Transport} (sc : ScalarCodec t) {S : List (String × Option J)}
    {L : List String} (hS : S.map (·.1) = L) (hL : L.Nodup) :
    ((t.order (Transport.applyKvs t (pairs S))).all (fun kv => L.contains kv.1) &&
      nodupKeys (keysOf (t.order (Transport.applyKvs t (pairs S))))) = true ∧
    ∀ s ∈ S, find s.1 (t.order (Transport.applyKvs t (pairs S))) = s.2.map t.apply := by
  have ⟨hk, hn⟩ := pairs_keys hS hL
  have hp := keys_transport sc (pairs S)
  simp only [Bool.and_eq_true, List.all_eq_true, List.contains_iff_mem, nodupKeys_iff]
  refine ⟨⟨fun kv hkv => ?_, hp.nodup_iff.2 hn⟩, fun s h => ?_⟩
  · obtain ⟨kv', hkv', he⟩ := List.mem_map.1 (hp.subset (List.mem_map_of_mem (f := (·.1)) hkv))
    exact he ▸ hk kv' hkv'
  · rw [find_transport sc _ _ hn, find_pairs (hS ▸ hL) h]

/-- Which file key feeds which argument of `Property.__init__`. -/
theorem propArgsOf_odmlName (g : String → Option J) :
    propArgsOf (fun py => g (odmlName Gen.Format.propertyMap py)) =
      ⟨g "id", g "name", g "value", g "unit", g "definition", g "dependency", g "dependencyvalue",
       g "uncertainty", g "reference", g "type", g "value_origin", g "val_cardinality"⟩ := by
  have h := propFacts.toFile
  simp only [propKwargs, propLayoutKeys, Gen.Format.propertyArgs, List.map_cons, List.map_nil,
    List.cons.injEq, and_true] at h
  simp only [propArgsOf, h]

theorem denoteProp_write {t : Transport} (sc : ScalarCodec t) (lib : Lib) (p : Prp)
    (hwf : wfProp lib p = true) (hr : reprProp p = true) :
    denoteProp lib (t.apply (writeProp p)) = some p := by
  have ⟨hc, hf⟩ := slots_after_transport sc (propSlots_keys p) propLayoutKeys_nodup
  simp only [writeProp_eq, Transport.apply]
  generalize t.order (Transport.applyKvs t (pairs (propSlots p))) = D at hc hf ⊢
  simp only [propSlots, List.forall_mem_cons] at hf
  simp only [wfProp, idOk, Bool.and_eq_true, beq_iff_eq] at hwf
  simp only [reprProp, Bool.and_eq_true] at hr
  have hdt : ctorDtype (optOf (optStrJ p.dtype)) = p.dtype := by
    cases hd : p.dtype with
    | none => rfl
    | some dt =>
      simp only [hd, Bool.and_eq_true, beq_iff_eq] at hwf
      simp [optStrJ, optOf_str, ctorDtype, hwf]
  simp only [
    denoteProp, hc, if_true, propArgsOf_odmlName (find · D), hf, Option.map_some,
    apply_str sc, map_apply_optOf sc, isAtom_of_isName, isAtom_optStrJ, hr, hwf,
    createProp, makeId, getD, Option.getD_some, getD_optOf, truthy_of_isName, hdt,
    setValues_transport sc lib p hwf.2 hr.2, readCard_cardJ sc]

theorem insertKey_perm (kv : String × J) (l : List (String × J)) : (insertKey kv l).Perm (kv :: l) := by
  induction l with
  | nil => exact List.Perm.refl _
  | cons x r ih =>
    simp only [insertKey]
    split
    · exact List.Perm.refl _
    · exact (List.Perm.cons x ih).trans (List.Perm.swap kv x r)

theorem sortKeys_perm (l : List (String × J)) : (sortKeys l).Perm l := by
  induction l with
  | nil => exact List.Perm.refl _
  | cons kv r ih => exact (insertKey_perm kv (sortKeys r)).trans (List.Perm.cons kv ih)

mutual
theorem apply_direct : (j : J) → Transport.direct.apply j = j
  | .arr xs => by simp only [Transport.apply, applyList_direct xs]
  | .obj kvs => by simp only [Transport.apply, applyKvs_direct kvs]; rfl
  | .null | .bool _ | .int _ | .float _ | .str _ | .date _ | .time _ | .datetime _ => rfl
theorem applyList_direct : (l : List J) → Transport.applyList .direct l = l
  | [] => rfl
  | x :: r => by simp only [Transport.applyList, apply_direct x, applyList_direct r]
theorem applyKvs_direct : (l : List (String × J)) → Transport.applyKvs .direct l = l
  | [] => rfl
  | (k, v) :: r => by simp only [Transport.applyKvs, apply_direct v, applyKvs_direct r]
end

theorem direct_codec : ScalarCodec Transport.direct :=
  ⟨rfl, fun _ => rfl, fun _ => rfl, fun _ => rfl, fun _ => rfl, fun _ => Or.inl rfl,
   fun _ => Or.inl rfl, fun _ => Or.inl rfl, fun _ => List.Perm.refl _⟩

theorem json_codec : ScalarCodec Transport.json :=
  ⟨rfl, fun _ => rfl, fun _ => rfl, fun _ => rfl, fun _ => rfl, fun _ => Or.inr rfl,
   fun _ => Or.inr rfl, fun _ => Or.inr rfl, fun _ => List.Perm.refl _⟩

theorem yaml_codec : ScalarCodec Transport.yaml :=
  ⟨rfl, fun _ => rfl, fun _ => rfl, fun _ => rfl, fun _ => rfl, fun _ => Or.inl rfl,
   fun _ => Or.inr rfl, fun _ => Or.inl rfl, sortKeys_perm⟩

theorem denotePropList_write {t : Transport} (sc : ScalarCodec t) (lib : Lib) (ps : List Prp)
    (hwf : ps.all (wfProp lib) = true) (hr : ps.all reprProp = true) :
    denotePropList lib (Transport.applyList t (ps.map writeProp)) = some ps := by
  induction ps with
  | nil => rfl
  | cons p r ih =>
    simp only [List.all_cons, Bool.and_eq_true] at hwf hr
    simp [Transport.applyList, denotePropList, denoteProp_write sc lib p hwf.1 hr.1,
      ih hwf.2 hr.2]

theorem secArgsOf_odmlName (g : String → Option J) :
    secArgsOf (fun py => g (odmlName Gen.Format.sectionMap py)) =
      ⟨g "id", g "name", g "type", g "definition", g "reference", g "link", g "repository",
       g "include", g "sec_cardinality", g "prop_cardinality"⟩ := by
  have h : secKwargs.map (odmlName Gen.Format.sectionMap) = ["id", "type", "name", "definition",
    "reference", "link", "repository", "include", "sec_cardinality", "prop_cardinality"] := by
    decide +kernel
  simp only [secKwargs, List.map_cons, List.map_nil, List.cons.injEq, and_true] at h
  simp only [secArgsOf, h]

theorem docArgsOf_odmlName (g : String → Option J) :
    docArgsOf (fun py => g (odmlName Gen.Format.documentMap py)) =
      ⟨g "id", g "version", g "author", g "date", g "repository"⟩ := by
  have h : docKwargs.map (odmlName Gen.Format.documentMap) =
    ["id", "version", "author", "date", "repository"] := by decide +kernel
  simp only [docKwargs, List.map_cons, List.map_nil, List.cons.injEq, and_true] at h
  simp only [docArgsOf, h]

mutual
theorem denoteSec_write {t : Transport} (sc : ScalarCodec t) (lib : Lib) : (s : Sec) →
    wfSec lib s = true → reprSec s = true →
    denoteSec lib (t.apply (writeSec s)) = some s
  | .mk id name type d r l rp inc scd pcd props secs, hwf, hr => by
    have ⟨hc, hf⟩ := slots_after_transport sc
      (secSlots_keys (.mk id name type d r l rp inc scd pcd props secs)) secLayoutKeys_nodup
    simp only [writeSec_eq, Transport.apply]
    generalize t.order (Transport.applyKvs t (pairs (secSlots _))) = D at hc hf ⊢
    simp only [secSlots, List.forall_mem_cons] at hf
    simp only [wfSec, idOk, Bool.and_eq_true, Bool.not_eq_true', beq_iff_eq] at hwf
    simp only [reprSec, Bool.and_eq_true] at hr
    simp only [
      denoteSec, hc, if_true, secArgsOf_odmlName (find · D), propsOfKvs_find, secsOfKvs_find, hf,
      Option.map_some, Transport.apply,
      sc.str, optOf_set, apply_atom sc, map_apply_optOf sc, isAtom_of_isName, hr, hwf,
      createSec, makeId, getD, Option.getD_some, getD_optOf, truthy_of_isName, readCard_cardJ sc,
      denoteProps, denotePropList_write sc lib props, denoteSecsJ, denoteSecList_write sc lib secs,
      Bool.or_self, Bool.false_eq_true, if_false]
theorem denoteSecList_write {t : Transport} (sc : ScalarCodec t) (lib : Lib) : (l : List Sec) →
    wfSecs lib l = true → reprSecs l = true →
    denoteSecList lib (Transport.applyList t (writeSecs l)) = some l
  | [], _, _ => rfl
  | s :: r, hwf, hr => by
    simp only [wfSecs, reprSecs, Bool.and_eq_true] at hwf hr
    simp only [writeSecs, Transport.applyList, denoteSecList, denoteSec_write sc lib s hwf.1 hr.1,
      denoteSecList_write sc lib r hwf.2 hr.2]
end

theorem denote_write {t : Transport} (sc : ScalarCodec t) (lib : Lib) (d : Doc)
    (hwf : wfDoc lib d = true) (hr : dictRepr d = true) :
    denote lib (t.apply (wrap (writeDoc d))) = some d := by
  have ⟨hc, hf⟩ := slots_after_transport sc (docSlots_keys d) docLayoutKeys_nodup
  have hroot := (slots_after_transport sc (S := [("Document", some (.obj (pairs (docSlots d)))),
    ("odml-version", some (.str Gen.Format.formatVersion))]) rfl
    (show ["Document", "odml-version"].Nodup by decide)).2
  simp only [List.forall_mem_cons, Option.map_some, Transport.apply, sc.str, pairs] at hroot
  simp only [writeDoc_eq, wrap, Transport.apply, denote, hroot]
  generalize t.order (Transport.applyKvs t (pairs (docSlots d))) = D at hc hf ⊢
  simp only [docSlots, List.forall_mem_cons] at hf
  simp only [wfDoc, idOk, Bool.and_eq_true, Bool.not_eq_true', beq_iff_eq] at hwf
  obtain ⟨⟨⟨hid, hdate⟩, hsw⟩, hsd⟩ := hwf
  simp only [dictRepr, Bool.and_eq_true] at hr
  simp only [
    beq_self_eq_true, Bool.true_and, hc, if_true, docArgsOf_odmlName (find · D), secsOfKvs_find,
    hf, Option.map_some, Transport.apply,
    sc.str, map_apply_optOf sc, hr,
    createDoc, makeId, hid, getD, Option.getD_some, getD_optOf,
    denoteSecsJ, denoteSecList_write sc lib _ hsw hr.2]
  -- the date is unset, or a date that comes back as itself or as its text
  obtain ⟨id, version, author, date, repository, secs⟩ := d
  cases date <;> try cases hdate
  · simp [optOf, J.isSet, J.truthy, hsd]
  · rename_i s
    simp only [Bool.and_eq_true, bne_iff_ne, ne_eq, beq_iff_eq] at hdate
    rcases sc.date s with h1 | h1 <;>
      simp [optOf, J.isSet, J.truthy, Transport.apply, h1, hsd, hdate.1, hdate.2]

end Dict
