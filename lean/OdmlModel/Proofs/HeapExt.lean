/-
Helper lemmas for the extended operations (`Model/HeapExt.lean`). Every compound operation is a
chain of steps, each carried on only after an `.ok`: `andThen` names the shape, every recursion gets
the equation of its successor case as such a chain, and the rest is proved through these.
The heap component only changes through `X.prim`, so what each `Heap.step` keeps (`WF`; `Reach h₀`,
the refinement statement) is kept by every operation and by whole histories.
-/
import OdmlModel.Model.HeapExt
import OdmlModel.Proofs.HeapStep

namespace Heap

theorem prim_h (s : X) (op : Op) : (s.prim op).1.h = (step s.h op).1 := rfl
theorem prim_merged (s : X) (op : Op) : (s.prim op).1.merged = s.merged := rfl
theorem prim_link (s : X) (op : Op) : (s.prim op).1.link = s.link := rfl
theorem prim_orig (s : X) (op : Op) : (s.prim op).1.orig = s.orig := rfl
@[simp] theorem setMerged_h (s : X) (i v) : (s.setMerged i v).h = s.h := rfl
@[simp] theorem setLink_h (s : X) (i v) : (s.setLink i v).h = s.h := rfl

theorem markCopy_h (t : X) (c obj : Nat) (mm : Option Bool) : (t.markCopy c obj mm).h = t.h := by
  cases mm <;> rfl

theorem containsS_mem {O : Oracle} {s : X} {dest obj mine : Nat}
    (h : containsS O s dest obj = some mine) :
    mine ∈ (s.h.node dest).secs ∧ (s.h.node obj).name = (s.h.node mine).name := by
  unfold containsS at h
  refine ⟨List.mem_of_find?_eq_some h, ?_⟩
  have := List.find?_some h
  simp only [Bool.and_eq_true, beq_iff_eq] at this
  exact this.1

theorem containsP_mem {s : X} {dest obj mine : Nat}
    (h : containsP s dest obj = some mine) :
    mine ∈ (s.h.node dest).props ∧ (s.h.node obj).name = (s.h.node mine).name := by
  unfold containsP at h
  refine ⟨List.mem_of_find?_eq_some h, ?_⟩
  have := List.find?_some h
  simpa using this

theorem prim_no_fuel (s : X) (op : Op) : (s.prim op).2 ≠ .fuel := by
  unfold X.prim XOut.ofOutcome
  split <;> exact nofun

theorem step_construct_none (h : H) (k : Kind) (name id : String) :
    step h (.construct k name id none true) = ((alloc h k name id).1, .ok) := by
  unfold step
  simp only [Op.handles, Option.toList, List.any_nil, Bool.false_eq_true, if_false]
  unfold construct
  cases k <;> simp

theorem alloc_size (h : H) (k : Kind) (name id : String) : (alloc h k name id).1.size = h.size + 1 := rfl

theorem alloc_other (h : H) (k : Kind) (name id : String) {j : Nat} (hj : j ≠ h.size) :
    (alloc h k name id).1.node j = h.node j := by
  simp [alloc, hj]

theorem alloc_new_parent (h : H) (k : Kind) (name id : String) :
    ((alloc h k name id).1.node h.size).parent = none := by
  simp [alloc]

theorem alloc_new_kind (h : H) (k : Kind) (name id : String) :
    ((alloc h k name id).1.node h.size).kind = k := by
  simp [alloc]

theorem step_newId (h : H) (c : Nat) (t : String) (hc : c < h.size) :
    step h (.newId c (some t)) = (upd h c (fun n => { n with id := t }), .ok) := by
  unfold step
  have : ¬ (c ≥ h.size) := by omega
  simp [Op.handles, this, newId]

theorem copyObj_spec (s : X) (x : Nat) :
    (copyObj s x).2.1 = s.h.size ∧ (copyObj s x).2.2 = .ok ∧
    (copyObj s x).1.h = (alloc s.h (s.h.node x).kind (s.h.node x).name (s.h.node x).id).1 := by
  unfold copyObj X.prim
  simp [step_construct_none, XOut.ofOutcome]

/-! ## Sequencing, and the successor case of each recursion -/

/-- Go on with `k` after an `.ok`, otherwise hand the outcome on (`g` adapts the state's type). -/
def andThen {α β : Type} (a : α × XOut) (k : α → β × XOut) (g : α → β) : β × XOut :=
  match a with
  | (s, .ok) => k s
  | (s, o) => (g s, o)

theorem andThen_cases {α β : Type} {R : β × XOut → Prop} {a : α × XOut} {k : α → β × XOut}
    {g : α → β} (hk : a.2 = .ok → R (k a.1)) (hg : a.2 ≠ .ok → R (g a.1, a.2)) :
    R (andThen a k g) := by
  obtain ⟨s, o⟩ := a
  cases o
  · exact hk rfl
  all_goals exact hg nofun

theorem andThen_keep {α β : Type} {Q : β → Prop} {a : α × XOut} {k : α → β × XOut} {g : α → β}
    (hk : a.2 = .ok → Q (k a.1).1) (hg : Q (g a.1)) : Q (andThen a k g).1 :=
  andThen_cases (R := fun r => Q r.1) hk fun _ => hg

theorem andThen_no_fuel {α β : Type} {a : α × XOut} {k : α → β × XOut} {g : α → β}
    (ha : a.2 ≠ .fuel) (hk : a.2 = .ok → (k a.1).2 ≠ .fuel) : (andThen a k g).2 ≠ .fuel :=
  andThen_cases (R := fun r => r.2 ≠ .fuel) hk fun _ => ha

/-- `split` on an `if` in these terms is slow (it simplifies both branches); this avoids it. -/
theorem ite_keep {β : Type} {Q : β → Prop} {c : Prop} [Decidable c] {a b : β × XOut}
    (ha : c → Q a.1) (hb : ¬ c → Q b.1) : Q (if c then a else b).1 :=
  ite_ind (fun r : β × XOut => Q r.1) ha hb

theorem ite_no_fuel {β : Type} {c : Prop} [Decidable c] {a b : β × XOut}
    (ha : c → a.2 ≠ .fuel) (hb : ¬ c → b.2 ≠ .fuel) : (if c then a else b).2 ≠ .fuel :=
  ite_ind (fun r : β × XOut => r.2 ≠ .fuel) ha hb

theorem andThen_of_ok {α β : Type} {a : α × XOut} {k : α → β × XOut} {g : α → β}
    (h : a.2 = .ok) : andThen a k g = k a.1 :=
  andThen_cases (R := fun r => r = k a.1) (fun _ => rfl) fun hne => absurd h hne

theorem andThen_ok {α β : Type} {a : α × XOut} {k : α → β × XOut} {g : α → β}
    (h : (andThen a k g).2 = .ok) : a.2 = .ok :=
  andThen_cases (R := fun r => r.2 = .ok → a.2 = .ok) (fun h _ => h) (fun _ h => h) h

theorem removeAll_cons (self o : Nat) (os : List Nat) (s : X) :
    removeAll self (o :: os) s = andThen (s.prim (.remove self o)) (removeAll self os) id := by
  rw [removeAll]; rcases s.prim (.remove self o) with ⟨s1, o⟩; cases o <;> rfl

theorem liveLoop_succ {σ : Type} (lst : σ → List Nat) (body : σ → Nat → σ × XOut) (f i : Nat) (t : σ) :
    liveLoop lst body (f + 1) i t =
      match (lst t)[i]? with
      | none => (t, .ok)
      | some obj => andThen (body t obj) (liveLoop lst body f (i + 1)) id := by
  rw [liveLoop]
  cases (lst t)[i]? with
  | none => rfl
  | some obj => simp only; rcases body t obj with ⟨t1, o⟩; cases o <;> rfl

theorem kidsLoop_cons (rec : X → Nat → X × Nat × XOut) (c k : Nat) (ks : List Nat) (s : X) :
    kidsLoop rec c (k :: ks) s =
      andThen ((rec s k).1, (rec s k).2.2)
        (fun s1 => andThen (s1.prim (.append c (rec s k).2.1)) (kidsLoop rec c ks) id) id := by
  rw [kidsLoop]; rcases rec s k with ⟨s1, ck, o⟩; cases o
  · simp only [andThen]; rcases s1.prim (.append c ck) with ⟨s2, o2⟩; cases o2 <;> rfl
  all_goals rfl

def cloneBody (O : Oracle) (f : Nat) (s : X) (x : Nat) (ch kid : Bool) : X × XOut :=
  if (s.h.node x).kind = .prop then newIdUnless kid O (copyObj s x).1 s.h.size
  else
    andThen (kidsIf ch (fun t k => cloneAux O f t k true kid) s.h.size (s.h.node x).secs (copyObj s x).1)
      (fun s2 => andThen (newIdUnless kid O s2 s.h.size)
        (fun s3 =>
          if (s.h.node x).kind = .sec ∧ ch then
            kidsLoop (fun t k => cloneAux O f t k true kid) s.h.size (s.h.node x).props s3
          else (s3, .ok)) id) id

theorem cloneAux_succ (O : Oracle) (f : Nat) (s : X) (x : Nat) (ch kid : Bool) :
    cloneAux O (f + 1) s x ch kid =
      ((cloneBody O f s x ch kid).1, s.h.size, (cloneBody O f s x ch kid).2) := by
  have hc := (copyObj_spec s x).1
  have hok := (copyObj_spec s x).2.1
  rw [cloneAux]; unfold cloneBody
  revert hc hok
  rcases copyObj s x with ⟨s1, c, o⟩
  intro hc hok
  simp only at hc hok
  subst hc hok
  simp only
  by_cases hk : (s.h.node x).kind = .prop
  · rw [if_pos hk, if_pos hk]
  · rw [if_neg hk, if_neg hk]
    rcases kidsIf ch (fun t k => cloneAux O f t k true kid) s.h.size (s.h.node x).secs s1 with ⟨s2, o2⟩
    cases o2
    · simp only [andThen]
      rcases newIdUnless kid O s2 s.h.size with ⟨s3, o3⟩
      cases o3
      · by_cases hk2 : (s.h.node x).kind = .sec ∧ ch = true
        · simp only [if_pos hk2]
        · simp only [if_neg hk2]
      all_goals rfl
    all_goals rfl

theorem cleanAux_succ (O : Oracle) (f : Nat) (s : X) (x : Nat) :
    cleanAux O (f + 1) s x = andThen (unmergeIfMerged O f s x)
      (liveLoop (fun t => (t.h.node x).secs) (fun t i => cleanAux O f t i) f 0) id := by
  rw [cleanAux]; rcases unmergeIfMerged O f s x with ⟨s1, o⟩; cases o <;> rfl

theorem unmergeAux_succ (O : Oracle) (f : Nat) (s : X) (self target : Nat) :
    unmergeAux O (f + 1) s self target =
      if O.eq (s.orig self) (s.orig target) then (s, .runtime)
      else andThen (liveLoop (fun t => (t.1.h.node target).secs)
          (unmergeSecBody O (unmergeAux O f) self) f 0 (s, []))
        (fun t1 => andThen (liveLoop (fun t => (t.1.h.node target).props) (unmergePropBody O self) f 0 t1)
          (fun t2 => andThen (removeAll self t2.2 t2.1)
            (fun s3 => if s3.link self && !O.relOk (s3.orig self) (s3.orig target)
              then (s3, .raised .valueError) else (s3.setMerged self none, .ok)) id)
          (·.1)) (·.1) := by
  rw [unmergeAux]
  by_cases he : O.eq (s.orig self) (s.orig target) = true
  · rw [if_pos he, if_pos he]
  · rw [if_neg he, if_neg he]
    rcases liveLoop (fun t : X × List Nat => (t.1.h.node target).secs)
        (unmergeSecBody O (unmergeAux O f) self) f 0 (s, []) with ⟨t1, o1⟩
    cases o1
    · simp only [andThen]
      rcases liveLoop (fun t : X × List Nat => (t.1.h.node target).props)
          (unmergePropBody O self) f 0 t1 with ⟨t2, o2⟩
      cases o2
      · simp only
        rcases removeAll self t2.2 t2.1 with ⟨s3, o3⟩
        cases o3 <;> rfl
      all_goals rfl
    all_goals rfl

theorem mergeAux_succ (O : Oracle) (f : Nat) (s : X) (record : Bool) (dest src : Nat) :
    mergeAux O (f + 1) s record dest src =
      match mergeCheck O f s dest src with
      | none => (s, .fuel)
      | some false => (s, .raised .valueError)
      | some true =>
        match nameCheck O f s dest src with
        | none => (s, .fuel)
        | some false => (s, .raised .valueError)
        | some true =>
          andThen (liveLoop (fun t => (t.h.node src).secs)
              (mergeSecBody O f (mergeAux O f) record dest) f 0 s)
            (fun s1 => andThen (liveLoop (fun t => (t.h.node src).props) (mergePropBody O f dest) f 0 s1)
              (fun s2 => (if record then s2.setMerged dest (some src) else s2, .ok)) id) id := by
  rw [mergeAux]
  rcases mergeCheck O f s dest src with _ | _ | _ <;> try rfl
  rcases nameCheck O f s dest src with _ | _ | _ <;> try rfl
  simp only
  rcases liveLoop (fun t : X => (t.h.node src).secs)
      (mergeSecBody O f (mergeAux O f) record dest) f 0 s with ⟨s1, o1⟩
  cases o1
  · simp only [andThen]
    rcases liveLoop (fun t : X => (t.h.node src).props) (mergePropBody O f dest) f 0 s1 with ⟨s2, o2⟩
    cases o2 <;> rfl
  all_goals rfl

/-- What the link setter (`done` stores the link) and its `except` branch (`done = id`) share:
    `clean()`, the merge of `t`, and after a refusal of a resolved link the `except` branch `again`. -/
def tryLink (O : Oracle) (f : Nat) (again : X → X × XOut) (done : X → X) (s : X) (x t : Nat) :
    X × XOut :=
  andThen (cleanIfLinked O f s x)
    (fun s1 =>
      match mergeAux O f s1 true x t with
      | (s2, .ok) => (done s2, .ok)
      | (s2, .fuel) => (s2, .fuel)
      | (s2, out) => if s.resolved x then andThen (again s2) (fun s3 => (s3, out)) id else (s2, out))
    id

theorem relinkAux_succ (O : Oracle) (f : Nat) (s : X) (x : Nat) :
    relinkAux O (f + 1) s x =
      match O.oldLink x with
      | none => (s, .raised .valueError)
      | some t0 => tryLink O f (relinkAux O f · x) id s x t0 := by
  rw [relinkAux]; unfold tryLink
  cases O.oldLink x with
  | none => rfl
  | some t0 =>
    simp only
    rcases cleanIfLinked O f s x with ⟨s1, o1⟩
    cases o1
    · simp only [andThen]
      rcases mergeAux O f s1 true x t0 with ⟨s2, o2⟩
      cases s.resolved x
      · cases o2 <;> rfl
      · cases o2 <;> try rfl
        all_goals simp only; rcases relinkAux O f s2 x with ⟨s3, o3⟩; cases o3 <;> rfl
    all_goals rfl

theorem setLinkAux_path (O : Oracle) (f : Nat) (s : X) (x t : Nat) :
    setLinkAux O f s x (.path (some t)) =
      match (s.h.node x).parent with
      | none => (s.setLink x true, .ok)
      | some _ => tryLink O f (relinkAux O f · x) (·.setLink x true) s x t := by
  unfold setLinkAux tryLink
  cases (s.h.node x).parent with
  | none => rfl
  | some p =>
    simp only
    rcases cleanIfLinked O f s x with ⟨s1, o1⟩
    cases o1
    · simp only [andThen]
      rcases mergeAux O f s1 true x t with ⟨s2, o2⟩
      cases s.resolved x
      · cases o2 <;> rfl
      · cases o2 <;> try rfl
        all_goals simp only; rcases relinkAux O f s2 x with ⟨s3, o3⟩; cases o3 <;> rfl
    all_goals rfl

theorem stepX_prim (f : Nat) (s : X) (O : Oracle) (p : Op) :
    stepX f s O (.prim p) =
      if p.handles.any (fun i => i ≥ s.h.size) then ({ s with orig := id }, .raised .typeError)
      else X.prim { s with orig := id } p := rfl

theorem stepX_clone (f : Nat) (s : X) (O : Oracle) (x : Nat) (ch kid : Bool) :
    stepX f s O (.clone x ch kid) =
      if [x].any (fun i => i ≥ s.h.size) then ({ s with orig := id }, .raised .typeError)
      else ((cloneAux O f { s with orig := id } x ch kid).1,
        (cloneAux O f { s with orig := id } x ch kid).2.2) := rfl

theorem stepX_merge (f : Nat) (s : X) (O : Oracle) (dest src : Nat) :
    stepX f s O (.merge dest src) =
      if [dest, src].any (fun i => i ≥ s.h.size) then ({ s with orig := id }, .raised .typeError)
      else if (s.h.node dest).kind ≠ .sec ∨ (s.h.node src).kind ≠ .sec then
        ({ s with orig := id }, .raised .attributeError)
      else mergeAux O f { s with orig := id } (!s.resolved dest) dest src := rfl

theorem stepX_setLink (f : Nat) (s : X) (O : Oracle) (x : Nat) (v : LinkVal) :
    stepX f s O (.setLink x v) =
      if (XOp.setLink x v).handles.any (fun i => i ≥ s.h.size) then
        ({ s with orig := id }, .raised .typeError)
      else if (s.h.node x).kind ≠ .sec then ({ s with orig := id }, .raised .attributeError)
      else setLinkAux O f { s with orig := id } x v := rfl

theorem stepX_clean (f : Nat) (s : X) (O : Oracle) (x : Nat) :
    stepX f s O (.clean x) =
      if [x].any (fun i => i ≥ s.h.size) then ({ s with orig := id }, .raised .typeError)
      else if (s.h.node x).kind = .prop then ({ s with orig := id }, .ok)
      else cleanAux O f { s with orig := id } x := rfl
theorem lt_of_not_any {l : List Nat} {n : Nat} (h : ¬ l.any (fun i => i ≥ n) = true) {i : Nat}
    (hi : i ∈ l) : i < n := by
  rcases Nat.lt_or_ge i n with h1 | h1
  · exact h1
  · exact absurd (List.any_eq_true.mpr ⟨i, hi, by simpa using h1⟩) h

theorem setLink_handles (x : Nat) (v : LinkVal) : x ∈ (XOp.setLink x v).handles := by
  rcases v with _ | _ | _ | t <;> simp [XOp.handles]

theorem stepX_clone_ok (fuel : Nat) (s : X) (O : Oracle) (x : Nat) (ch kid : Bool)
    (hok : (stepX fuel s O (.clone x ch kid)).2 = .ok) :
    stepX fuel s O (.clone x ch kid) =
      ((cloneAux O fuel { s with orig := id } x ch kid).1,
       (cloneAux O fuel { s with orig := id } x ch kid).2.2) := by
  rw [stepX_clone] at hok ⊢
  split
  · rename_i hg; rw [if_pos hg] at hok; cases hok
  · rfl

theorem setLink_refused (fuel : Nat) (s : X) (O : Oracle) (x : Nat) (v : LinkVal)
    (hk : (s.h.node x).kind ≠ .sec) : (stepX fuel s O (.setLink x v)).2 ≠ .fuel := by
  rw [stepX_setLink]
  exact ite_no_fuel (fun _ => nofun) (fun _ => ite_no_fuel (fun _ => nofun) (fun h => absurd hk h))

/-! ## What every `Heap.step` keeps, every operation keeps -/

theorem liveLoop_idx {σ : Type} (lst : σ → List Nat) (body : σ → Nat → σ × XOut)
    (Inv : Nat → σ → Prop)
    (hb : ∀ i t o, Inv i t → (lst t)[i]? = some o → Inv (i + 1) (body t o).1) :
    ∀ (fuel i : Nat) (t : σ), Inv i t → ∃ j, Inv j (liveLoop lst body fuel i t).1 := by
  intro fuel
  induction fuel with
  | zero => intro i t h; exact ⟨i, h⟩
  | succ f ih =>
    intro i t h
    rw [liveLoop_succ]
    cases hg : (lst t)[i]? with
    | none => exact ⟨i, h⟩
    | some obj =>
      have h1 := hb i t obj h hg
      exact andThen_keep (Q := fun r => ∃ j, Inv j r) (fun _ => ih (i + 1) _ h1) ⟨i + 1, h1⟩

theorem liveLoop_keep {σ : Type} (lst : σ → List Nat) (body : σ → Nat → σ × XOut) (Inv : σ → Prop)
    (hb : ∀ t o, Inv t → o ∈ lst t → Inv (body t o).1) (fuel i : Nat) (t : σ) (h : Inv t) :
    Inv (liveLoop lst body fuel i t).1 :=
  (liveLoop_idx lst body (fun _ => Inv) (fun _ t o ht hg => hb t o ht (List.mem_of_getElem? hg))
    fuel i t h).elim fun _ hj => hj

section remove
variable {P : X → Prop} (hR : ∀ s p x, P s → P (s.prim (.remove p x)).1)
  (hM : ∀ s i, P s → P (s.setMerged i none))
include hR

theorem removeAll_inv (self : Nat) : ∀ (l : List Nat) (s : X), P s → P (removeAll self l s).1 := by
  intro l
  induction l with
  | nil => intro s h; exact h
  | cons o os ih =>
    intro s h
    rw [removeAll_cons]
    exact andThen_keep (fun _ => ih _ (hR s self o h)) (hR s self o h)

omit hR in
theorem unmergeSecBody_inv (O : Oracle) {rec : X → Nat → Nat → X × XOut}
    (hrec : ∀ t a b, P t → P (rec t a b).1) (self : Nat) (t : X × List Nat) (obj : Nat)
    (h : P t.1) : P (unmergeSecBody O rec self t obj).1.1 := by
  unfold unmergeSecBody
  split
  · exact h
  · split
    · exact h
    · exact hrec _ _ _ h

omit hR in
theorem unmergePropBody_inv (O : Oracle) (self : Nat) (t : X × List Nat) (obj : Nat)
    (h : P t.1) : P (unmergePropBody O self t obj).1.1 := by
  unfold unmergePropBody
  split
  · exact h
  · split <;> exact h

include hM

theorem unmergeAux_inv (O : Oracle) : ∀ (fuel : Nat) (s : X) (self target : Nat),
    P s → P (unmergeAux O fuel s self target).1 := by
  intro fuel
  induction fuel with
  | zero => intro s self target h; exact h
  | succ f ih =>
    intro s self target h
    rw [unmergeAux_succ]
    refine ite_keep (Q := P) (fun _ => h) (fun _ => ?_)
    · have h1 := liveLoop_keep (fun t : X × List Nat => (t.1.h.node target).secs) _ (fun t => P t.1)
        (fun t o ht _ => unmergeSecBody_inv O ih self t o ht) f 0 (s, []) h
      refine andThen_keep (Q := P) (fun _ => ?_) h1
      have h2 := liveLoop_keep (fun t : X × List Nat => (t.1.h.node target).props) _ (fun t => P t.1)
        (fun t o ht _ => unmergePropBody_inv O self t o ht) f 0 _ h1
      refine andThen_keep (Q := P) (fun _ => ?_) h2
      refine andThen_keep (Q := P) (fun _ => ?_) (removeAll_inv hR self _ _ h2)
      split
      · exact removeAll_inv hR self _ _ h2
      · exact hM _ _ (removeAll_inv hR self _ _ h2)

theorem unmergeIfMerged_inv (O : Oracle) (fuel : Nat) (s : X) (x : Nat) (h : P s) :
    P (unmergeIfMerged O fuel s x).1 := by
  unfold unmergeIfMerged
  split
  · exact unmergeAux_inv hR hM O fuel s x _ h
  · exact h

theorem cleanAux_inv (O : Oracle) : ∀ (fuel : Nat) (s : X) (x : Nat),
    P s → P (cleanAux O fuel s x).1 := by
  intro fuel
  induction fuel with
  | zero => intro s x h; exact h
  | succ f ih =>
    intro s x h
    rw [cleanAux_succ]
    have h1 := unmergeIfMerged_inv hR hM O f s x h
    exact andThen_keep (fun _ => liveLoop_keep _ _ P (fun t o ht _ => ih t o ht) f 0 _ h1) h1

theorem cleanIfLinked_inv (O : Oracle) (fuel : Nat) (s : X) (x : Nat) (h : P s) :
    P (cleanIfLinked O fuel s x).1 := by
  unfold cleanIfLinked
  exact ite_keep (Q := P) (fun _ => cleanAux_inv hR hM O fuel s x h) (fun _ => h)

end remove

theorem kidsLoop_keep {rec : X → Nat → X × Nat × XOut} {I : X → Prop} (c : Nat) :
    ∀ (ks : List Nat) (s : X),
      (∀ k ∈ ks, ∀ t, I t → I (rec t k).1 ∧
        ((rec t k).2.2 = .ok → I ((rec t k).1.prim (.append c (rec t k).2.1)).1)) →
      I s → I (kidsLoop rec c ks s).1 := by
  intro ks
  induction ks with
  | nil => intro s _ h; exact h
  | cons k ks ih =>
    intro s hk h
    obtain ⟨h1, h2⟩ := hk k List.mem_cons_self s h
    rw [kidsLoop_cons]
    exact andThen_keep (fun hok => andThen_keep
      (fun _ => ih _ (fun k' hk' => hk k' (List.mem_cons_of_mem _ hk')) (h2 hok)) (h2 hok)) h1

theorem cloneBody_keep {I : X → Prop} (O : Oracle) (f : Nat) (s : X) (x : Nat) (ch kid : Bool)
    (h1 : I (copyObj s x).1) (hn : ∀ t, I t → I (newIdUnless kid O t s.h.size).1)
    (hS : ∀ t, I t →
      I (kidsLoop (fun t k => cloneAux O f t k true kid) s.h.size (s.h.node x).secs t).1)
    (hP : ∀ t, I t →
      I (kidsLoop (fun t k => cloneAux O f t k true kid) s.h.size (s.h.node x).props t).1) :
    I (cloneBody O f s x ch kid).1 := by
  unfold cloneBody
  split
  · exact hn _ h1
  · have h2 : I (kidsIf ch (fun t k => cloneAux O f t k true kid) s.h.size (s.h.node x).secs
        (copyObj s x).1).1 := by
      unfold kidsIf
      split
      · exact hS _ h1
      · exact h1
    refine andThen_keep (fun _ => andThen_keep (fun _ => ?_) (hn _ h2)) h2
    split
    · exact hP _ (hn _ h2)
    · exact hn _ h2

section inv
variable {P : H → Prop} (hP : ∀ h op, P h → P (step h op).1)
include hP

theorem newIdUnless_inv (kid : Bool) (O : Oracle) (s : X) (c : Nat) (h : P s.h) :
    P (newIdUnless kid O s c).1.h := by
  unfold newIdUnless
  split
  · exact h
  · exact hP _ _ h

theorem cloneAux_inv (O : Oracle) : ∀ (fuel : Nat) (s : X) (x : Nat) (ch kid : Bool),
    P s.h → P (cloneAux O fuel s x ch kid).1.h := by
  intro fuel
  induction fuel with
  | zero => intro s x ch kid h; exact h
  | succ f ih =>
    intro s x ch kid h
    have hk : ∀ (ks : List Nat) (t : X), P t.h →
        P (kidsLoop (fun t k => cloneAux O f t k true kid) s.h.size ks t).1.h := fun ks t ht =>
      kidsLoop_keep (I := fun t => P t.h) _ ks t
        (fun k _ t ht => ⟨ih t k true kid ht, fun _ => hP _ _ (ih t k true kid ht)⟩) ht
    rw [cloneAux_succ]
    refine cloneBody_keep (I := fun t => P t.h) O f s x ch kid ?_
      (fun t ht => newIdUnless_inv hP kid O t _ ht) (hk _) (hk _)
    have := hP s.h (.construct (s.h.node x).kind (s.h.node x).name (s.h.node x).id none true) h
    rw [step_construct_none] at this
    rw [(copyObj_spec s x).2.2]
    exact this

theorem cloneAppend_inv (O : Oracle) (fuel : Nat) (t : X) (dest obj : Nat) (mm : Option Bool)
    (h : P t.h) : P (cloneAppend O fuel t dest obj mm).1.h := by
  unfold cloneAppend
  have h1 := cloneAux_inv hP O fuel t obj true false h
  split
  · rename_i t1 c heq
    rw [heq] at h1
    rw [prim_h, markCopy_h]; exact hP _ _ h1
  · rename_i t1 _ o _ heq; rw [heq] at h1; exact h1

omit hP in
/-- `merge` keeps what the merge into a child of the destination and a clone-and-append keep. -/
theorem mergeAux_keep_of_parts {Q : H → Prop} (O : Oracle) (f : Nat) (s : X) (record : Bool)
    (dest src : Nat)
    (hrec : ∀ t r mine o, mine ∈ (t.h.node dest).secs → Q t.h → Q (mergeAux O f t r mine o).1.h)
    (hcl : ∀ t o mark, Q t.h → Q (cloneAppend O f t dest o mark).1.h) (h : Q s.h) :
    Q (mergeAux O (f + 1) s record dest src).1.h := by
  have hS : ∀ t o, Q t.h → Q (mergeSecBody O f (mergeAux O f) record dest t o).1.h := by
    intro t o ht
    unfold mergeSecBody
    split
    · rename_i hc; exact hrec _ _ _ _ (containsS_mem hc).1 ht
    · exact hcl _ _ _ ht
  have hPr : ∀ t o, Q t.h → Q (mergePropBody O f dest t o).1.h := by
    intro t o ht
    unfold mergePropBody
    split
    · split <;> exact ht
    · exact hcl _ _ _ ht
  rw [mergeAux_succ]
  split
  · exact h
  · exact h
  · split
    · exact h
    · exact h
    · have h1 := liveLoop_keep (fun t : X => (t.h.node src).secs) _ (fun t => Q t.h)
        (fun t o ht _ => hS t o ht) f 0 s h
      refine andThen_keep (Q := fun t : X => Q t.h) (fun _ => ?_) h1
      have h2 := liveLoop_keep (fun t : X => (t.h.node src).props) _ (fun t => Q t.h)
        (fun t o ht _ => hPr t o ht) f 0 _ h1
      refine andThen_keep (Q := fun t : X => Q t.h) (fun _ => ?_) h2
      split <;> exact h2

theorem mergeAux_inv (O : Oracle) : ∀ (fuel : Nat) (s : X) (record : Bool) (dest src : Nat),
    P s.h → P (mergeAux O fuel s record dest src).1.h := by
  intro fuel
  induction fuel with
  | zero => intro s record dest src h; exact h
  | succ f ih =>
    intro s record dest src h
    exact mergeAux_keep_of_parts O f s record dest src (fun t r m o _ ht => ih t r m o ht)
      (fun t o mark ht => cloneAppend_inv hP O f t dest o mark ht) h

theorem tryLink_inv (O : Oracle) (f : Nat) {again : X → X × XOut} {done : X → X}
    (ha : ∀ t, P t.h → P (again t).1.h) (hd : ∀ t, (done t).h = t.h) (s : X) (x t : Nat)
    (h : P s.h) : P (tryLink O f again done s x t).1.h := by
  unfold tryLink
  have h1 := cleanIfLinked_inv (P := fun t => P t.h) (fun s p x => hP s.h (.remove p x))
    (fun _ _ h => h) O f s x h
  refine andThen_keep (Q := fun t : X => P t.h) (fun _ => ?_) h1
  have h2 := mergeAux_inv hP O f _ true x t h1
  split
  · rename_i s2 heq; rw [heq] at h2; rw [hd]; exact h2
  · rename_i s2 heq; rw [heq] at h2; exact h2
  · rename_i s2 out _ _ heq; rw [heq] at h2
    split
    · exact andThen_keep (Q := fun t : X => P t.h) (fun _ => ha s2 h2) (ha s2 h2)
    · exact h2

theorem relinkAux_inv (O : Oracle) (fuel : Nat) (s : X) (x : Nat) (h : P s.h) :
    P (relinkAux O fuel s x).1.h := by
  induction fuel generalizing s with
  | zero => exact h
  | succ fuel ih =>
    rw [relinkAux_succ]
    split
    · exact h
    · exact tryLink_inv hP O fuel (fun t ht => ih t ht) (fun _ => rfl) s x _ h

theorem relinkLegacy_inv (O : Oracle) (fuel : Nat) (s : X) (x : Nat) (h : P s.h) :
    P (relinkLegacy O fuel s x).1.h := by
  induction fuel generalizing s with
  | zero => exact h
  | succ fuel ih =>
    unfold relinkLegacy
    split
    · exact h
    · rename_i t0 _
      have h1 := cleanIfLinked_inv (P := fun t => P t.h) (fun s p x => hP s.h (.remove p x))
        (fun _ _ h => h) O fuel s x h
      split
      · rename_i s1 heq; rw [heq] at h1
        have h2 := mergeAux_inv hP O fuel s1 true x t0 h1
        split
        · rename_i s2 heq2; rw [heq2] at h2; exact h2
        · rename_i s2 heq2; rw [heq2] at h2; exact h2
        · rename_i s2 out _ _ heq2; rw [heq2] at h2; exact ih s2 h2
      · rename_i r hne; exact h1

theorem setLinkAux_inv (O : Oracle) (fuel : Nat) (s : X) (x : Nat) (v : LinkVal) (h : P s.h) :
    P (setLinkAux O fuel s x v).1.h := by
  have hc : ∀ t : X, P t.h → P (cleanAux O fuel t x).1.h :=
    fun t => cleanAux_inv (P := fun t => P t.h) (fun s p x => hP s.h (.remove p x)) (fun _ _ h => h)
      O fuel t x
  rcases v with _ | _ | _ | t
  · unfold setLinkAux; split
    · exact h
    · exact hc _ h
  · unfold setLinkAux; split
    · exact h
    · exact hc _ h
  · unfold setLinkAux; split <;> exact h
  · rw [setLinkAux_path]
    split
    · exact h
    · exact tryLink_inv hP O fuel (done := (·.setLink x true))
        (fun t ht => relinkAux_inv hP O fuel t x ht) (fun _ => rfl) s x t h

theorem stepX_inv (fuel : Nat) (s : X) (O : Oracle) (op : XOp) (h : P s.h) :
    P (stepX fuel s O op).1.h := by
  cases op with
  | prim p =>
    rw [stepX_prim]
    exact ite_keep (Q := fun t : X => P t.h) (fun _ => h) (fun _ => hP _ _ h)
  | clone x ch kid =>
    rw [stepX_clone]
    exact ite_keep (Q := fun t : X => P t.h) (fun _ => h) (fun _ => cloneAux_inv hP O fuel _ _ _ _ h)
  | merge dest src =>
    rw [stepX_merge]
    exact ite_keep (Q := fun t : X => P t.h) (fun _ => h) (fun _ =>
      ite_keep (Q := fun t : X => P t.h) (fun _ => h) (fun _ => mergeAux_inv hP O fuel _ _ _ _ h))
  | setLink x v =>
    rw [stepX_setLink]
    exact ite_keep (Q := fun t : X => P t.h) (fun _ => h) (fun _ =>
      ite_keep (Q := fun t : X => P t.h) (fun _ => h) (fun _ => setLinkAux_inv hP O fuel _ _ _ h))
  | clean x =>
    rw [stepX_clean]
    exact ite_keep (Q := fun t : X => P t.h) (fun _ => h) (fun _ =>
      ite_keep (Q := fun t : X => P t.h) (fun _ => h) (fun _ =>
        cleanAux_inv (P := fun t => P t.h) (fun s p x => hP s.h (.remove p x)) (fun _ _ h => h)
          O fuel _ _ h))

theorem runX_inv (fuel : Nat) : ∀ (ops : List (Oracle × XOp)) (s : X), P s.h → P (runX fuel s ops).h := by
  intro ops
  induction ops with
  | nil => intro s h; exact h
  | cons op ops ih =>
    intro s h
    exact ih _ (stepX_inv hP fuel s op.1 op.2 h)

end inv

/-- `h'` is reached from `h` by some finite sequence of primitive operations. -/
def Reach (h h' : H) : Prop := ∃ ops : List Op, run h ops = h'

theorem Reach.refl (h : H) : Reach h h := ⟨[], rfl⟩

theorem Reach.step {h0 h : H} (r : Reach h0 h) (op : Op) : Reach h0 (step h op).1 := by
  obtain ⟨ops, rfl⟩ := r
  exact ⟨ops ++ [op], by simp [run, List.foldl_append]⟩

theorem Reach.wf {h h' : H} (r : Reach h h') (w : WF h) : WF h' := by
  obtain ⟨ops, rfl⟩ := r
  induction ops generalizing h with
  | nil => exact w
  | cons op ops ih => exact ih (step_wf w op)

/-! ## Frames on well-formed heaps: clone, merge, clean -/

/-- The objects below `n` are exactly as before and no handle is given up. -/
def Same (n : Nat) (h h' : H) : Prop := h.size ≤ h'.size ∧ ∀ i, i < n → h'.node i = h.node i

theorem Same.refl (n : Nat) (h : H) : Same n h h := ⟨Nat.le_refl _, fun _ _ => rfl⟩

theorem Same.trans {n : Nat} {a b c : H} (h1 : Same n a b) (h2 : Same n b c) : Same n a c :=
  ⟨Nat.le_trans h1.1 h2.1, fun i hi => by rw [h2.2 i hi, h1.2 i hi]⟩

theorem Same.mono {n m : Nat} {a b : H} (h : Same n a b) (hm : m ≤ n) : Same m a b :=
  ⟨h.1, fun i hi => h.2 i (Nat.lt_of_lt_of_le hi hm)⟩

/-- The outcome of `p.append(x)` for a detached `x` on a well-formed heap. -/
def Appended (h h' : H) (p x : Nat) : Prop :=
  h'.size = h.size ∧ x ≠ p ∧ (∀ j, j ≠ p → j ≠ x → h'.node j = h.node j) ∧
  h'.node x = { h.node x with parent := some p } ∧
  (h'.node p = { h.node p with secs := (h.node p).secs ++ [x] } ∨
   h'.node p = { h.node p with props := (h.node p).props ++ [x] })

theorem attach_appended {h : H} {p x : Nat} {ls lp : List Nat} (hxp : x ≠ p)
    (hl : (ls = (h.node p).secs ++ [x] ∧ lp = (h.node p).props) ∨
          (ls = (h.node p).secs ∧ lp = (h.node p).props ++ [x])) :
    Appended h (attach h p x ls lp) p x := by
  refine ⟨rfl, hxp, fun j hjp hjx => ?_, ?_, ?_⟩
  · unfold attach; rw [upd_other _ _ _ _ hjx, upd_other _ _ _ _ hjp]
  · unfold attach; rw [upd_same, upd_other _ _ _ _ hxp]
  · unfold attach; rw [upd_other _ _ _ _ (Ne.symm hxp), upd_same]
    rcases hl with ⟨h1, h2⟩ | ⟨h1, h2⟩
    · left; rw [h1, h2]
    · right; rw [h1, h2]

theorem step_append_detached {h : H} (w : WF h) {p x : Nat} (hxs : x < h.size)
    (hx : (h.node x).parent = none) :
    (step h (.append p x)).1 = h ∨
    ((step h (.append p x)).2 = .ok ∧ Appended h (step h (.append p x)).1 p x) := by
  unfold step
  by_cases hh : (Op.append p x).handles.any (fun i => i ≥ h.size) = true
  · rw [if_pos hh]; exact Or.inl rfl
  rw [if_neg hh]
  show (append h p x).1 = h ∨ ((append h p x).2 = .ok ∧ Appended h (append h p x).1 p x)
  have hps : p < h.size := lt_of_not_any hh (by simp [Op.handles])
  have hdet : detachIf h x = h := by unfold detachIf; rw [hx]
  rcases append_spec w hps hxs with ⟨e, he⟩ | ⟨hk, hpk, hcyc, hnm, he⟩ | ⟨hk, hpk, hnm, he⟩
  · rw [he]; exact Or.inl rfl
  · rw [he]
    refine Or.inr ⟨rfl, ?_⟩
    have hxp := ne_of_not_anc (meetsUp_false w hcyc)
    unfold appendedS placedS
    rw [hdet]
    exact attach_appended hxp (Or.inl ⟨rfl, rfl⟩)
  · rw [he]
    refine Or.inr ⟨rfl, ?_⟩
    have hxp : x ≠ p := by intro e; subst e; rw [hk] at hpk; cases hpk
    unfold appendedP placedP
    rw [hdet]
    exact attach_appended hxp (Or.inr ⟨rfl, rfl⟩)

theorem step_append_eq {h : H} {p x : Nat} (hps : p < h.size) (hxs : x < h.size) :
    step h (.append p x) = append h p x := by
  unfold step
  exact if_neg (by simp [Op.handles, Nat.not_le.mpr hps, Nat.not_le.mpr hxs])

theorem step_append_ok {h : H} (w : WF h) {p x : Nat} (hps : p < h.size) (hxs : x < h.size)
    (hdet : (h.node x).parent = none) (hanc : ¬ Anc h x p)
    (hfit : ((h.node x).kind = .sec ∧ (h.node p).kind ≠ .prop ∧
        nameIn h (h.node p).secs (h.node x).name = false) ∨
      ((h.node x).kind = .prop ∧ (h.node p).kind = .sec ∧
        nameIn h (h.node p).props (h.node x).name = false)) :
    (step h (.append p x)).2 = .ok ∧ Appended h (step h (.append p x)).1 p x := by
  have hxp := ne_of_not_anc hanc
  have hd : detachIf h x = h := by unfold detachIf; rw [hdet]
  rw [step_append_eq hps hxs]
  rcases hfit with ⟨hkx, hpp, hnm⟩ | ⟨hkx, hpk, hnm⟩
  · rw [append_sec_eq w hkx hpp (cycleCheck_exact w hps hanc) hnm]
    unfold appendedS placedS; rw [hd]
    exact ⟨rfl, attach_appended hxp (Or.inl ⟨rfl, rfl⟩)⟩
  · rw [append_prop_eq w hkx hpk hnm]
    unfold appendedP placedP; rw [hd]
    exact ⟨rfl, attach_appended hxp (Or.inr ⟨rfl, rfl⟩)⟩

/-- What the loops of `clone` keep: the heap is well-formed, the objects that existed before the
    clone started are untouched, the copy `c` is allocated and still detached. -/
structure CloneInv (n c : Nat) (h0 h : H) : Prop where
  wf : WF h
  same : Same n h0 h
  lt : c < h.size
  det : (h.node c).parent = none

/-- Result of a (sub-)clone started in `t`. -/
structure CloneRes (t : X) (r : X × Nat × XOut) : Prop where
  wf : WF r.1.h
  same : Same t.h.size t.h r.1.h
  root : r.2.1 = t.h.size
  ok : r.2.2 = .ok → r.2.1 < r.1.h.size ∧ (r.1.h.node r.2.1).parent = none

theorem copyObj_cloneInv {s : X} (w : WF s.h) (x : Nat) :
    CloneInv s.h.size s.h.size s.h (copyObj s x).1.h := by
  rw [(copyObj_spec s x).2.2]
  exact ⟨wf_alloc w _ _ _, ⟨Nat.le_succ _, fun i hi => alloc_other _ _ _ _ (Nat.ne_of_lt hi)⟩,
    Nat.lt_succ_self _, alloc_new_parent _ _ _ _⟩

theorem kids_step_inv {rec : X → Nat → X × Nat × XOut}
    (hrec : ∀ t k, WF t.h → CloneRes t (rec t k)) {n c : Nat} {h0 : H} (hcn : n ≤ c)
    (s : X) (k : Nat) (h : CloneInv n c h0 s.h) :
    CloneInv n c h0 (rec s k).1.h ∧
    ((rec s k).2.2 = .ok → CloneInv n c h0 ((rec s k).1.prim (.append c (rec s k).2.1)).1.h) := by
  have h1 := hrec s k h.wf
  have inv1 : CloneInv n c h0 (rec s k).1.h := by
    refine ⟨h1.wf, h.same.trans (h1.same.mono (Nat.le_trans hcn (Nat.le_of_lt h.lt))),
      Nat.lt_of_lt_of_le h.lt h1.same.1, ?_⟩
    rw [h1.same.2 c h.lt]; exact h.det
  refine ⟨inv1, fun hok => ?_⟩
  obtain ⟨hck, hdet⟩ := h1.ok hok
  have hroot := h1.root
  rw [prim_h]
  rcases step_append_detached (p := c) inv1.wf hck hdet with he | ⟨_, hsz, hne, hoth, hxn, hpn⟩
  · rw [he]; exact inv1
  · refine ⟨step_wf inv1.wf _, ⟨by rw [hsz]; exact inv1.same.1, ?_⟩, by rw [hsz]; exact inv1.lt, ?_⟩
    · intro i hi
      rw [hoth i (by omega) (by rw [hroot]; have := h.lt; omega)]
      exact inv1.same.2 i hi
    · rcases hpn with hp | hp <;> rw [hp] <;> exact inv1.det

theorem kidsLoop_spec {rec : X → Nat → X × Nat × XOut}
    (hrec : ∀ t k, WF t.h → CloneRes t (rec t k)) {n c : Nat} {h0 : H} (hcn : n ≤ c)
    (ks : List Nat) (s : X) (h : CloneInv n c h0 s.h) : CloneInv n c h0 (kidsLoop rec c ks s).1.h :=
  kidsLoop_keep (I := fun t => CloneInv n c h0 t.h) c ks s
    (fun k _ t ht => kids_step_inv hrec hcn t k ht) h

theorem kidsIf_spec {rec : X → Nat → X × Nat × XOut}
    (hrec : ∀ t k, WF t.h → CloneRes t (rec t k)) {n c : Nat} {h0 : H} (hcn : n ≤ c)
    (ch : Bool) (ks : List Nat) (s : X) (h : CloneInv n c h0 s.h) :
    CloneInv n c h0 (kidsIf ch rec c ks s).1.h := by
  unfold kidsIf
  split
  · exact kidsLoop_spec hrec hcn ks s h
  · exact h

theorem newIdUnless_spec {n c : Nat} {h0 : H} (hcn : n ≤ c) (kid : Bool) (O : Oracle) (s : X)
    (h : CloneInv n c h0 s.h) : CloneInv n c h0 (newIdUnless kid O s c).1.h := by
  unfold newIdUnless
  split
  · exact h
  · have hw := step_wf h.wf (.newId c (some (O.ids c)))
    rw [prim_h]
    rw [step_newId _ _ _ h.lt] at hw ⊢
    refine ⟨hw, ⟨h.same.1, fun i hi => ?_⟩, h.lt, ?_⟩
    · rw [upd_other _ _ _ _ (by omega)]; exact h.same.2 i hi
    · rw [upd_same]; exact h.det

theorem cloneAux_spec (O : Oracle) : ∀ (fuel : Nat) (s : X) (x : Nat) (ch kid : Bool),
    WF s.h → CloneRes s (cloneAux O fuel s x ch kid) := by
  intro fuel
  induction fuel with
  | zero =>
    intro s x ch kid w
    exact ⟨w, Same.refl _ _, rfl, fun h => by cases h⟩
  | succ fuel ih =>
    intro s x ch kid w
    have hrec : ∀ (t : X) (k : Nat), WF t.h →
        CloneRes t ((fun t k => cloneAux O fuel t k true kid) t k) := fun t k wt => ih t k true kid wt
    rw [cloneAux_succ]
    have inv := cloneBody_keep (I := fun t => CloneInv s.h.size s.h.size s.h t.h) O fuel s x ch kid
      (copyObj_cloneInv w x) (fun t => newIdUnless_spec (Nat.le_refl _) kid O t)
      (kidsLoop_spec hrec (Nat.le_refl _) _) (kidsLoop_spec hrec (Nat.le_refl _) _)
    exact ⟨inv.wf, inv.same, rfl, fun _ => ⟨inv.lt, inv.det⟩⟩

/-- `cloneAux_spec` in the form in which `hrec` of `kids_step_inv` meets it (a beta-redex). -/
theorem cloneAux_spec_rec (O : Oracle) (fuel : Nat) (kid : Bool) (t : X) (k : Nat) (w : WF t.h) :
    CloneRes t ((fun t k => cloneAux O fuel t k true kid) t k) :=
  cloneAux_spec O fuel t k true kid w

/-- Relative to the objects below `n`: kinds, names, ids and parents are unchanged and the child
    lists only grow at the end, by objects that are not below `n`. -/
def Adds (n : Nat) (h h' : H) : Prop :=
  h.size ≤ h'.size ∧ ∀ i, i < n →
    (h'.node i).kind = (h.node i).kind ∧ (h'.node i).name = (h.node i).name ∧
    (h'.node i).id = (h.node i).id ∧ (h'.node i).parent = (h.node i).parent ∧
    (∃ l, (h'.node i).secs = (h.node i).secs ++ l ∧ ∀ x ∈ l, n ≤ x) ∧
    (∃ l, (h'.node i).props = (h.node i).props ++ l ∧ ∀ x ∈ l, n ≤ x)

theorem grows_nil (l : List Nat) (n : Nat) : ∃ l', l = l ++ l' ∧ ∀ x ∈ l', n ≤ x :=
  ⟨[], (List.append_nil l).symm, fun _ h => absurd h List.not_mem_nil⟩

theorem Adds.refl (n : Nat) (h : H) : Adds n h h :=
  ⟨Nat.le_refl _, fun _ _ => ⟨rfl, rfl, rfl, rfl, grows_nil _ _, grows_nil _ _⟩⟩

theorem Adds.trans {n : Nat} {a b c : H} (h1 : Adds n a b) (h2 : Adds n b c) : Adds n a c := by
  refine ⟨Nat.le_trans h1.1 h2.1, fun i hi => ?_⟩
  obtain ⟨k1, n1, i1, p1, ⟨l1, e1, m1⟩, ⟨q1, f1, o1⟩⟩ := h1.2 i hi
  obtain ⟨k2, n2, i2, p2, ⟨l2, e2, m2⟩, ⟨q2, f2, o2⟩⟩ := h2.2 i hi
  refine ⟨k2.trans k1, n2.trans n1, i2.trans i1, p2.trans p1, ⟨l1 ++ l2, ?_, ?_⟩, ⟨q1 ++ q2, ?_, ?_⟩⟩
  · rw [e2, e1, List.append_assoc]
  · intro x hx; exact (List.mem_append.mp hx).elim (m1 x) (m2 x)
  · rw [f2, f1, List.append_assoc]
  · intro x hx; exact (List.mem_append.mp hx).elim (o1 x) (o2 x)

theorem Adds.mono {n m : Nat} {a b : H} (h : Adds n a b) (hm : m ≤ n) : Adds m a b := by
  refine ⟨h.1, fun i hi => ?_⟩
  obtain ⟨k, nm, id', p, ⟨l, e, hl⟩, ⟨q, e2, hq⟩⟩ := h.2 i (by omega)
  exact ⟨k, nm, id', p, ⟨l, e, fun x hx => Nat.le_trans hm (hl x hx)⟩,
    ⟨q, e2, fun x hx => Nat.le_trans hm (hq x hx)⟩⟩

theorem Same.adds {n : Nat} {a b : H} (h : Same n a b) : Adds n a b :=
  ⟨h.1, fun i hi => by rw [h.2 i hi]; exact ⟨rfl, rfl, rfl, rfl, grows_nil _ _, grows_nil _ _⟩⟩

theorem Appended.adds {n : Nat} {h h' : H} {p x : Nat} (ha : Appended h h' p x) (hx : n ≤ x) :
    Adds n h h' := by
  obtain ⟨hsz, hne, hoth, hxn, hpn⟩ := ha
  refine ⟨by rw [hsz]; exact Nat.le_refl _, fun i hi => ?_⟩
  by_cases hip : i = p
  · subst hip
    have hx1 : ∀ y ∈ [x], n ≤ y := fun y hy => List.mem_singleton.mp hy ▸ hx
    rcases hpn with hp | hp
    · rw [hp]; exact ⟨rfl, rfl, rfl, rfl, ⟨[x], rfl, hx1⟩, grows_nil _ _⟩
    · rw [hp]; exact ⟨rfl, rfl, rfl, rfl, grows_nil _ _, ⟨[x], rfl, hx1⟩⟩
  · rw [hoth i hip (by omega)]
    exact ⟨rfl, rfl, rfl, rfl, grows_nil _ _, grows_nil _ _⟩

/-- The invariant of `merge`: well-formed, and relative to the start `h0` only additions. -/
def MInv (n : Nat) (h0 h : H) : Prop := WF h ∧ Adds n h0 h

theorem Adds.size_le {n : Nat} {h h' : H} (a : Adds n h h') : h.size ≤ h'.size := a.1
theorem MInv.wf {n : Nat} {h0 h : H} (a : MInv n h0 h) : WF h := a.1
theorem MInv.adds {n : Nat} {h0 h : H} (a : MInv n h0 h) : Adds n h0 h := a.2

theorem cloneAppend_adds (O : Oracle) (fuel : Nat) {n : Nat} {h0 : H} (hn : n ≤ h0.size)
    (t : X) (dest obj : Nat) (mm : Option Bool) (h : MInv n h0 t.h) :
    MInv n h0 (cloneAppend O fuel t dest obj mm).1.h := by
  unfold cloneAppend
  have h1 := cloneAux_spec O fuel t obj true false h.wf
  have hnt : n ≤ t.h.size := Nat.le_trans hn h.adds.size_le
  have inv1 : MInv n h0 (cloneAux O fuel t obj true false).1.h :=
    ⟨h1.wf, h.2.trans (h1.same.mono hnt).adds⟩
  split
  · rename_i t1 c heq
    rw [heq] at h1 inv1
    have hroot : c = t.h.size := h1.root
    rw [prim_h, markCopy_h]
    rcases step_append_detached (p := dest) (x := c) h1.wf (h1.ok rfl).1 (h1.ok rfl).2 with he | ⟨_, ha⟩
    · rw [he]; exact inv1
    · exact ⟨step_wf h1.wf _, inv1.2.trans (ha.adds (by omega))⟩
  · rename_i t1 _ o _ heq
    rw [heq] at inv1
    exact inv1

theorem mergeAux_adds (O : Oracle) {n : Nat} {h0 : H} (hn : n ≤ h0.size) :
    ∀ (fuel : Nat) (s : X) (record : Bool) (dest src : Nat), MInv n h0 s.h →
      MInv n h0 (mergeAux O fuel s record dest src).1.h := by
  intro fuel
  induction fuel with
  | zero => intro s record dest src h; exact h
  | succ fuel ih =>
    intro s record dest src h
    exact mergeAux_keep_of_parts O fuel s record dest src (fun t r m o _ ht => ih t r m o ht)
      (fun t o mark ht => cloneAppend_adds O fuel hn t dest o mark ht) h

/-- Relative to `h0`: the same objects with the same kinds and names; a parent is as before or gone;
    child lists are sublists of what they were. -/
def Detaches (h0 h : H) : Prop :=
  h.size = h0.size ∧ ∀ i,
    (h.node i).kind = (h0.node i).kind ∧ (h.node i).name = (h0.node i).name ∧
    ((h.node i).parent = (h0.node i).parent ∨ (h.node i).parent = none) ∧
    (h.node i).secs.Sublist (h0.node i).secs ∧ (h.node i).props.Sublist (h0.node i).props

theorem Detaches.refl (h : H) : Detaches h h :=
  ⟨rfl, fun _ => ⟨rfl, rfl, Or.inl rfl, List.Sublist.refl _, List.Sublist.refl _⟩⟩

theorem Detaches.trans {a b c : H} (h1 : Detaches a b) (h2 : Detaches b c) : Detaches a c := by
  refine ⟨h2.1.trans h1.1, fun i => ?_⟩
  obtain ⟨k1, n1, p1, s1, q1⟩ := h1.2 i
  obtain ⟨k2, n2, p2, s2, q2⟩ := h2.2 i
  refine ⟨k2.trans k1, n2.trans n1, ?_, s2.trans s1, q2.trans q1⟩
  rcases p2 with p2 | p2
  · exact p1.imp p2.trans p2.trans
  · exact Or.inr p2

theorem step_remove_detaches {h : H} (w : WF h) (p x : Nat) :
    Detaches h (step h (.remove p x)).1 := by
  unfold step
  by_cases hh : (Op.remove p x).handles.any (fun i => i ≥ h.size) = true
  · rw [if_pos hh]; exact Detaches.refl _
  rw [if_neg hh]
  show Detaches h (remove h p x).1
  rcases remove_spec w p x with ⟨e, he⟩ | ⟨hx, he⟩
  · rw [he]; exact Detaches.refl _
  · rw [he]
    refine ⟨rfl, fun i => ⟨detach_kind i, detach_name i, ?_, ?_, ?_⟩⟩
    · rw [detach_parent]; split
      · exact Or.inr rfl
      · exact Or.inl rfl
    · rw [detach_secs]; split
      · exact List.erase_sublist
      · exact List.Sublist.refl _
    · rw [detach_props]; split
      · exact List.erase_sublist
      · exact List.Sublist.refl _

/-- Invariant of clean / unmerge relative to the start `h0`. -/
def CInv (h0 h : H) : Prop := WF h ∧ Detaches h0 h

theorem CInv.wf {h0 h : H} (a : CInv h0 h) : WF h := a.1
theorem CInv.detaches {h0 h : H} (a : CInv h0 h) : Detaches h0 h := a.2
theorem CInv.size_eq {h0 h : H} (a : CInv h0 h) : h.size = h0.size := a.2.1

theorem cinv_remove (h0 : H) (s : X) (p x : Nat) (hi : CInv h0 s.h) :
    CInv h0 (s.prim (.remove p x)).1.h :=
  ⟨step_wf hi.1 _, hi.2.trans (step_remove_detaches hi.1 p x)⟩

/-! ## Ancestors -/

/-- The new objects are never above an old one. -/
theorem anc_old {h h' : H} (w : WF h) (hs : Same h.size h h') {a i : Nat} (ha : Anc h' a i)
    (hi : i < h.size) : a < h.size := by
  induction ha with
  | refl => exact hi
  | @step p c hp _ ih =>
    apply ih
    rw [hs.2 c hi] at hp
    exact w.parent_lt hp

theorem anc_adds_old {h h' : H} (w : WF h) (ha : Adds h.size h h') {a i : Nat} (hanc : Anc h' a i)
    (hi : i < h.size) : Anc h a i := by
  induction hanc with
  | refl => exact Anc.refl _
  | @step p c hp _ ih =>
    have hp0 : (h.node c).parent = some p := by rw [← (ha.2 c hi).2.2.2.1]; exact hp
    exact Anc.step hp0 (ih (w.parent_lt hp0))

theorem Anc.above {h : H} {a c p : Nat} (hac : Anc h a c) (hp : (h.node a).parent = some p) :
    Anc h p c :=
  (Anc.step hp (Anc.refl _)).trans hac

theorem anc_comparable {h : H} {a b x : Nat} (ha : Anc h a x) (hb : Anc h b x) :
    Anc h a b ∨ Anc h b a := by
  induction ha with
  | refl => exact Or.inr hb
  | @step p c hp hap ih =>
    cases hb with
    | refl => exact Or.inl (Anc.step hp hap)
    | step hp' hb' => rw [hp] at hp'; cases hp'; exact ih hb'

theorem anc_detaches {h0 h : H} (hd : Detaches h0 h) {a c : Nat} (ha : Anc h a c) : Anc h0 a c := by
  induction ha with
  | refl => exact Anc.refl _
  | @step p c hp _ ih =>
    rcases (hd.2 c).2.2.1 with e | e
    · rw [e] at hp; exact Anc.step hp ih
    · rw [e] at hp; cases hp

/-- `path` lists proper ancestors of `x` (all different): the part of the tree above `x` that the
    recursion has already passed through. -/
structure Below (h0 : H) (x : Nat) (path : List Nat) : Prop where
  lt : x < h0.size
  anc : ∀ p ∈ path, Anc h0 p x ∧ p ≠ x
  nodup : path.Nodup

theorem Below.length {h0 : H} (w : WF h0) {x : Nat} {path : List Nat} (b : Below h0 x path) :
    path.length + 1 ≤ h0.size := by
  have hn : (x :: path).Nodup := by
    refine List.nodup_cons.mpr ⟨fun hm => (b.anc x hm).2 rfl, b.nodup⟩
  have := length_le_of_nodup_lt hn (n := h0.size) (by
    intro y hy
    rcases List.mem_cons.mp hy with e | hm
    · rw [e]; exact b.lt
    · exact w.anc_lt (b.anc y hm).1 b.lt)
  simpa using this

theorem Below.root {h0 : H} {x : Nat} (hx : x < h0.size) : Below h0 x [] :=
  ⟨hx, fun _ hp => absurd hp List.not_mem_nil, List.nodup_nil⟩

theorem Below.child {h0 : H} (w : WF h0) {x k : Nat} {path : List Nat} (b : Below h0 x path)
    (hk : (h0.node k).parent = some x) : Below h0 k (x :: path) := by
  refine ⟨w.child_lt hk, ?_, List.nodup_cons.mpr ⟨fun hm => (b.anc x hm).2 rfl, b.nodup⟩⟩
  intro p hp
  rcases List.mem_cons.mp hp with e | hm
  · rw [e]; exact ⟨Anc.step hk (Anc.refl x), w.parent_ne hk⟩
  · refine ⟨Anc.step hk (b.anc p hm).1, fun e => ?_⟩
    exact not_anc_parent w hk (e ▸ (b.anc p hm).1)

end Heap
