/-
Helper lemmas about `Model/Link.lean`: merging a target that shares no child name appends
copies; `BaseObject.__eq__` holds between a copy and its original; `unmerge` removes exactly
those copies; one step of `finalize` is an in-place update at one position; the text of an
include read back.
-/
import OdmlModel.Model.Link
import OdmlModel.Proofs.Merge
import OdmlModel.Proofs.Str

namespace Link
open Merge
variable {V : Type}

/-- Python `==` is reflexive on the stored values (no NaN in the universe) -/
def EqRefl (cv : Conv V) : Prop := ∀ v, cv.eq v v = true

/-! ## Merging a target that shares no child name -/

def clones (r : Ref) (os : List (Sec V)) : List (Sec V) :=
  os.map (fun o => cloneMerged (r.child o.name) o)

theorem noClash_iff (l t : Sec V) :
    noClash l t = true ↔ (∀ o ∈ t.secs, secNameIn l.secs o.name = false) ∧
                         (∀ o ∈ t.props, propNameIn l.props o.name = false) := by
  unfold noClash; simp

/-- the lenient merge of a target sharing no child name: attributes filled, copies appended -/
theorem merge_noClash (cv : Conv V) (r : Ref) (l t : Sec V) (hwf : wfSec cv t = true)
    (hnc : noClash l t = true) :
    merge cv false r l t =
      (.mk { l.attrs with definition := fillText l.attrs.definition t.attrs.definition
                          reference := fillText l.attrs.reference t.attrs.reference
                          filledDef := (r.eff l.attrs).pick
                            (recFill l.attrs.definition t.attrs.definition l.attrs.filledDef)
                            l.attrs.filledDef
                          filledRef := (r.eff l.attrs).pick
                            (recFill l.attrs.reference t.attrs.reference l.attrs.filledRef)
                            l.attrs.filledRef
                          merged := (r.eff l.attrs).pick (some r) l.attrs.merged }
           (l.props ++ t.props) (l.secs ++ clones (r.eff l.attrs) t.secs), .ok) := by
  rw [noClash_iff] at hnc
  cases t with
  | mk ta tp ts =>
    obtain ⟨hnd, -, -, hnds⟩ := (wfSec_mk ..).1 hwf
    simp only [Sec.secs_mk, Sec.props_mk, Sec.attrs_mk] at hnc ⊢
    have hck : mergeCheck cv false l (.mk ta tp ts) = .ok :=
      (mergeCheck_ok_iff ..).2 ⟨rfl,
        (mergeCheckSecs_ok_iff ..).2 fun o ho _ hf =>
          (nomatch (findSec_none_of_name _ (hnc.1 o ho)).symm.trans hf),
        (mergeCheckProps_ok_iff ..).2 fun o ho _ hf =>
          (nomatch ((findProp_none_iff ..).2 (hnc.2 o ho)).symm.trans hf)⟩
    have hcl : typeClash l (.mk ta tp ts) = false := by
      rw [typeClash]; exact typeClashSecs_disjoint l.secs ts hnc.1
    unfold merge
    rw [hck]
    simp only [hcl, Bool.false_eq_true, if_false, mergeSecs_eq_run, mergeProps_eq_run,
               (secLoop_lawful ..).run_disjoint ts l.secs hnds hnc.1,
               (propLoop_lawful ..).run_disjoint tp l.props hnd hnc.2]
    exact congrArg (fun ps => (Sec.mk _ (l.props ++ ps) _, Outcome.ok)) (List.map_id tp)

/-! ## A copy equals its original (`BaseObject.__eq__`) -/

theorem eqRefl_convC : EqRefl convC := by
  intro v
  cases v <;> simp [convC, eqC, Val.halves]

theorem valuesEq_refl (cv : Conv V) (h : EqRefl cv) (vs : List V) : valuesEq cv vs vs = true := by
  induction vs with
  | nil => rfl
  | cons v vs ih => simp [valuesEq, h v, ih]

theorem propEq_refl (cv : Conv V) (h : EqRefl cv) (p : PropT V) : propEq cv p p = true := by
  simp [propEq, valuesEq_refl cv h]

theorem findProp_self (ps : List (PropT V)) (hnd : (ps.map (·.name)).Nodup) :
    ∀ p ∈ ps, findProp ps p.name = some p :=
  find?_self (fun p : PropT V => p.name) (fun p q => q.name == p.name) (fun _ _ h => eq_of_beq h)
    (fun _ => beq_self_eq_true _) ps hnd

theorem propsEq_refl (cv : Conv V) (h : EqRefl cv) (ps : List (PropT V))
    (hnd : (ps.map (·.name)).Nodup) : propsEq cv ps ps = true := by
  unfold propsEq
  simp only [beq_self_eq_true, Bool.true_and, List.all_eq_true]
  intro p hp
  rw [findProp_self ps hnd p hp]
  exact propEq_refl cv h p

theorem find_nameIs_self (ss : List (Sec V)) (hnd : (ss.map (·.name)).Nodup) :
    ∀ o ∈ ss, ss.find? (nameIs o.name) = some o :=
  find?_self (fun o : Sec V => o.name) (fun o => nameIs o.name) (fun _ _ h => eq_of_beq h)
    (fun _ => beq_self_eq_true _) ss hnd

theorem attrsEq_refl (a : SecAttrs) : attrsEq a a = true := by simp [attrsEq]

theorem secsEqIn_of (cv : Conv V) (os bs : List (Sec V))
    (h : ∀ o ∈ os, ∃ c, bs.find? (nameIs o.name) = some c ∧ secEq cv o c = true) :
    secsEqIn cv os bs = true := by
  induction os with
  | nil => rw [secsEqIn]
  | cons o os ih =>
    obtain ⟨c, hc, he⟩ := h o (List.mem_cons_self ..)
    rw [secsEqIn, hc, Bool.and_eq_true]
    exact ⟨he, ih fun o' ho' => h o' (List.mem_cons_of_mem _ ho')⟩

/-- a Section with the same content, differing at most in `_merged`, is `==` -/
theorem secEq_same (cv : Conv V) (h : EqRefl cv) :
    ∀ (s s' : Sec V), wfSec cv s = true → attrsEq s'.attrs s.attrs = true → s'.props = s.props →
      s'.secs = s.secs → secEq cv s' s = true := by
  intro s
  induction s using Sec.induct with
  | mk a ps ss ih =>
    intro s' hwf ha hp hs
    obtain ⟨hnd, -, hwfs, hnds⟩ := (wfSec_mk ..).1 hwf
    cases s' with
    | mk a' ps' ss' =>
      simp only [Sec.props_mk, Sec.secs_mk, Sec.attrs_mk] at ha hp hs
      subst hp; subst hs
      rw [secEq]
      simp only [Sec.attrs_mk, Sec.props_mk, Sec.secs_mk, ha, propsEq_refl cv h _ hnd,
                 beq_self_eq_true, Bool.true_and]
      exact secsEqIn_of cv _ _ fun o ho => ⟨o, find_nameIs_self _ hnds o ho,
        ih o ho o (hwfs o ho) (attrsEq_refl _) rfl rfl⟩

theorem secsEqIn_self (cv : Conv V) (h : EqRefl cv) :
    ∀ (os bs : List (Sec V)), wfSecs cv os = true →
      (∀ o ∈ os, bs.find? (nameIs o.name) = some o) → secsEqIn cv os bs = true := by
  intro os bs hwf hf
  exact secsEqIn_of cv _ _ fun o ho => ⟨o, hf o ho,
    secEq_same cv h o o (((wfSecs_iff ..).1 hwf).1 o ho) (attrsEq_refl _) rfl rfl⟩

theorem secEq_clone (cv : Conv V) (h : EqRefl cv) (r : Ref) (o : Sec V) (hwf : wfSec cv o = true) :
    secEq cv (cloneMerged r o) o = true :=
  secEq_same cv h o (cloneMerged r o) hwf (attrsEq_refl _) rfl rfl

/-! ## `unmerge` removes exactly the copies -/

theorem find?_append_cons {α : Type} (p : α → Bool) (A : List α) (c : α) (l : List α)
    (hA : ∀ a ∈ A, ¬ p a = true) (hc : p c = true) : (A ++ c :: l).find? p = some c := by
  rw [List.find?_append, List.find?_eq_none.2 hA, List.find?_cons, hc]; rfl

theorem eraseFirst_append_single {α : Type} (p : α → Bool) (A : List α) (c : α)
    (hA : ∀ a ∈ A, ¬ p a = true) (hc : p c = true) : eraseFirst p (A ++ [c]) = A := by
  induction A with
  | nil => simp [eraseFirst, hc]
  | cons a A ih =>
    simp only [List.cons_append, eraseFirst, hA a (List.mem_cons_self ..)]
    rw [ih (fun x hx => hA x (List.mem_cons_of_mem _ hx))]
    simp

theorem unmergeSecs_clones (cv : Conv V) (h : EqRefl cv) (r : Ref) (os : List (Sec V)) :
    ∀ A : List (Sec V), (∀ o ∈ os, wfSec cv o = true) → (os.map (·.name)).Nodup →
      (∀ o ∈ os, secNameIn A o.name = false) → unmergeSecs cv (A ++ clones r os) os = A := by
  induction os with
  | nil => intro A _ _ _; simp [unmergeSecs, clones]
  | cons o os ih =>
    intro A hw hnd hd
    rw [List.map_cons, List.nodup_cons] at hnd
    have hA := List.find?_eq_none.1 (findSec_none_of_name o.type (hd o (List.mem_cons_self ..)))
    have hc : secMatch o.name o.type (cloneMerged (r.child o.name) o) = true :=
      (secMatch_iff ..).2 ⟨rfl, rfl⟩
    show unmergeSecs cv (A ++ cloneMerged (r.child o.name) o :: clones r os) (o :: os) = A
    rw [unmergeSecs, findSec, find?_append_cons _ A _ _ hA hc]
    simp only [secEq_clone cv h _ o (hw o (List.mem_cons_self ..)), if_true]
    rw [List.append_cons, ih _ (fun o' ho' => hw o' (List.mem_cons_of_mem _ ho')) hnd.2]
    · exact eraseFirst_append_single _ A _ hA hc
    · intro o' ho'
      rw [secNameIn, List.any_append, ← secNameIn, hd o' (List.mem_cons_of_mem _ ho')]
      simp
      intro he
      exact hnd.1 (he ▸ List.mem_map_of_mem ho')

theorem unmergeProps_copies (cv : Conv V) (h : EqRefl cv) (os : List (PropT V)) :
    ∀ A : List (PropT V), (os.map (·.name)).Nodup →
      (∀ o ∈ os, propNameIn A o.name = false) → unmergeProps cv (A ++ os) os = A := by
  induction os with
  | nil => intro A _ _; simp [unmergeProps]
  | cons o os ih =>
    intro A hnd hd
    rw [List.map_cons, List.nodup_cons] at hnd
    have hA := List.find?_eq_none.1 ((findProp_none_iff ..).2 (hd o (List.mem_cons_self ..)))
    rw [unmergeProps, findProp, find?_append_cons _ A o os hA (beq_self_eq_true _)]
    simp only [propEq_refl cv h o, if_true]
    rw [List.append_cons, ih _ hnd.2]
    · exact eraseFirst_append_single _ A _ hA (beq_self_eq_true _)
    · intro o' ho'
      rw [propNameIn, List.any_append, ← propNameIn, hd o' (List.mem_cons_of_mem _ ho')]
      simp
      intro he
      exact hnd.1 (he ▸ List.mem_map_of_mem ho')

/-- what `unmerge` leaves of a definition / reference `merge` looked at, when nothing was on
    record before: the own one — set or unset, equal to the target's or not -/
theorem unfill_fill (a b : Option Str) : unfill (fillText a b) (recFill a b none) = a := by
  cases a with
  | some x => rfl
  | none =>
    cases b with
    | none => rfl
    | some y =>
      cases y with
      | nil => rfl
      | cons c cs => simp [fillText, recFill, unfill]

theorem notMerged_iff (l : Sec V) :
    notMerged l = true ↔
      l.attrs.merged = none ∧ l.attrs.filledDef = none ∧ l.attrs.filledRef = none := by
  unfold notMerged
  simp only [Bool.and_eq_true, Option.isNone_iff_eq_none, and_assoc]

theorem map_noLinksList (f : Sec V → Sec V) (hf : ∀ s, noLinks s = true → f s = s) :
    ∀ l : List (Sec V), noLinksList l = true → l.map f = l := by
  intro l
  induction l with
  | nil => intro _; rfl
  | cons c cs ih =>
    intro hl
    rw [noLinksList, Bool.and_eq_true] at hl
    rw [List.map_cons, hf c hl.1, ih hl.2]

/-! ## Frame: an in-place update at one position leaves disjoint positions alone -/

theorem find_updFirst_other (n m : Str) (g : Sec V → Sec V) (l : List (Sec V))
    (hg : ∀ c, l.find? (nameIs n) = some c → (g c).name = c.name) (hne : n ≠ m) :
    (updFirst (nameIs n) g l).find? (nameIs m) = l.find? (nameIs m) := by
  induction l with
  | nil => rfl
  | cons y ys ih =>
    unfold updFirst
    by_cases hp : nameIs n y = true
    · have hy : y.name = n := by simpa [nameIs] using hp
      have h1 : nameIs m (g y) = false := by
        simp [nameIs, hg y (List.find?_cons_of_pos hp), hy]; exact hne
      have h2 : nameIs m y = false := by simp [nameIs, hy]; exact hne
      simp [hp, List.find?, h1, h2]
    · simp [hp, List.find?, ih fun c hc => hg c ((List.find?_cons_of_neg hp).trans hc)]

theorem find_updFirst_same (n : Str) (g : Sec V → Sec V) (l : List (Sec V))
    (hg : ∀ c, l.find? (nameIs n) = some c → (g c).name = c.name) :
    (updFirst (nameIs n) g l).find? (nameIs n) = (l.find? (nameIs n)).map g := by
  induction l with
  | nil => rfl
  | cons y ys ih =>
    unfold updFirst
    by_cases hp : nameIs n y = true
    · have hy : y.name = n := by simpa [nameIs] using hp
      have h1 : nameIs n (g y) = true := by
        simp [nameIs, hg y (List.find?_cons_of_pos hp), hy]
      simp [hp, List.find?, h1]
    · simp [hp, List.find?, ih fun c hc => hg c ((List.find?_cons_of_neg hp).trans hc)]

theorem isPrefix_cons (a b : Str) (as bs : List Str) :
    isPrefix (a :: as) (b :: bs) = (a == b && isPrefix as bs) := rfl

/-- `f` has to keep the name of the one Section it is applied to, the one at `p`: true of
    `fun _ => (merge … l t).1` at the position of `l` -/
theorem secAt_updAt_diverge (f : Sec V → Sec V) :
    ∀ (p q : List Str) (l : List (Sec V)), (∀ s, secAt l p = some s → (f s).name = s.name) →
      p ≠ [] → q ≠ [] → diverge p q = true → secAt (updAt f p l) q = secAt l q := by
  intro p
  induction p with
  | nil => intro q l _ hp; exact absurd rfl hp
  | cons n p' ih =>
    intro q l hf _ hq hd
    cases q with
    | nil => exact absurd rfl hq
    | cons m q' =>
      unfold diverge at hd
      simp only [isPrefix_cons, Bool.and_eq_true, Bool.not_eq_true', Bool.and_eq_false_iff,
                 beq_eq_false_iff_ne, ne_eq] at hd
      by_cases hnm : n = m
      · subst hnm
        have hd1 : isPrefix p' q' = false := hd.1.resolve_left fun h => h rfl
        have hd2 : isPrefix q' p' = false := hd.2.resolve_left fun h => h rfl
        cases p' with
        | nil => simp [isPrefix] at hd1
        | cons n2 p2 =>
          cases q' with
          | nil => simp [isPrefix] at hd2
          | cons m2 q2 =>
            have hg : ∀ c : Sec V, l.find? (nameIs n) = some c →
                (Sec.mk c.attrs c.props (updAt f (n2 :: p2) c.secs)).name = c.name :=
              fun _ _ => rfl
            rw [updAt, secAt, secAt, find_updFirst_same n _ l hg]
            cases hfind : l.find? (nameIs n) with
            | none => rfl
            | some s =>
              simp only [Option.map_some, Sec.secs_mk]
              apply ih (m2 :: q2) s.secs (fun s' hs' => hf s' (by rw [secAt, hfind]; exact hs'))
                (by simp) (by simp)
              unfold diverge; simp [hd1, hd2]
      · have hgen : ∀ g : Sec V → Sec V,
            (∀ c, l.find? (nameIs n) = some c → (g c).name = c.name) →
            secAt (updFirst (nameIs n) g l) (m :: q') = secAt l (m :: q') := by
          intro g hg
          cases q' with
          | nil => rw [secAt, secAt, find_updFirst_other n m g l hg hnm]
          | cons m2 q2 => rw [secAt, secAt, find_updFirst_other n m g l hg hnm]
        cases p' with
        | nil => rw [updAt]; exact hgen f fun c hc => hf c (by rw [secAt]; exact hc)
        | cons n2 p2 => rw [updAt]; exact hgen _ fun _ _ => rfl

theorem secAt_updAt_same (f : Sec V → Sec V) :
    ∀ (p : List Str) (l : List (Sec V)) (s : Sec V), secAt l p = some s → (f s).name = s.name →
      secAt (updAt f p l) p = some (f s) := by
  intro p
  induction p with
  | nil => intro l s h; simp [secAt] at h
  | cons n p' ih =>
    intro l s h hf
    cases p' with
    | nil =>
      rw [secAt] at h
      rw [updAt, secAt, find_updFirst_same n f l fun c hc => Option.some.inj (h.symm.trans hc) ▸ hf,
        h]
      rfl
    | cons n2 p2 =>
      rw [secAt] at h
      have hg : ∀ c : Sec V, l.find? (nameIs n) = some c →
          (Sec.mk c.attrs c.props (updAt f (n2 :: p2) c.secs)).name = c.name :=
        fun _ _ => rfl
      rw [updAt, secAt, find_updFirst_same n _ l hg]
      cases hfind : l.find? (nameIs n) with
      | none => rw [hfind] at h; cases h
      | some c =>
        rw [hfind] at h
        simp only [Option.map_some, Sec.secs_mk]
        exact ih c.secs s h hf

theorem cleanSec_name (cv : Conv V) (deref : Ref → Option (Sec V)) (n : Nat) (l : Sec V) :
    (cleanSec cv deref n l).name = l.name := by
  cases n with
  | zero => rfl
  | succ n =>
    unfold cleanSec
    simp only [Sec.name, Sec.attrs_mk]
    cases l.attrs.merged with
    | none => rfl
    | some r =>
      simp only
      cases deref r with
      | none => rfl
      | some t => cases t; rfl

theorem merge_cleanSec_name (cv : Conv V) (deref : Ref → Option (Sec V)) (n : Nat) (r : Ref)
    (l t : Sec V) : (merge cv false r (cleanSec cv deref n l) t).1.name = l.name :=
  (merge_name_type ..).1.trans (cleanSec_name ..)

/-- the shape of one step of `finalize`: the document is untouched, or the Section at the
    position is replaced by a Section of the same name (its merge with the target) -/
theorem linkStep_shape (cv : Conv V) (fetch : Str → Option (Doc V)) (doc : Doc V) (p : List Str) :
    (linkStep cv fetch doc p).1 = doc ∨
    ∃ l x, secAt doc p = some l ∧ x.name = l.name ∧
      (linkStep cv fetch doc p).1 = updAt (fun _ => x) p doc := by
  unfold linkStep
  cases hl : secAt doc p with
  | none => exact Or.inl rfl
  | some l =>
    simp only
    split
    · split
      · exact Or.inl rfl
      · exact Or.inr ⟨l, _, rfl, merge_cleanSec_name .., rfl⟩
    · split
      · exact Or.inl rfl
      · split
        · exact Or.inl rfl
        · exact Or.inr ⟨l, _, rfl, merge_cleanSec_name .., rfl⟩
    · exact Or.inl rfl

/-! ## The text of an include: `URL#path` -/

theorem splitFirst_no_sep (sep : Char) (s : Str) (h : ∀ c ∈ s, (c == sep) = false) :
    splitFirst sep s = (s, none) := by
  induction s with
  | nil => rfl
  | cons c cs ih =>
    have hc : (c == sep) = false := h c (List.mem_cons_self ..)
    have := ih (fun d hd => h d (List.mem_cons_of_mem _ hd))
    simp [splitFirst, hc, this]

/-- the split is at the FIRST separator: whatever follows it — further separators included —
    is the second part -/
theorem splitFirst_append_sep (sep : Char) (s t : Str) (h : ∀ c ∈ s, (c == sep) = false) :
    splitFirst sep (s ++ sep :: t) = (s, some t) := by
  induction s with
  | nil => simp [splitFirst]
  | cons c cs ih =>
    have hc : (c == sep) = false := h c (List.mem_cons_self ..)
    have := ih (fun d hd => h d (List.mem_cons_of_mem _ hd))
    simp [splitFirst, hc, this]

theorem absPath_cons (n : Str) (ns : List Str) : absPath (n :: ns) = '/' :: (n ++ absPath ns) :=
  rfl

theorem splitOn_absPath (n : Str) (ns : List Str)
    (h : ∀ m ∈ n :: ns, ∀ c ∈ m, (c == '/') = false) :
    Py.splitOn '/' (n ++ absPath ns) = n :: ns := by
  induction ns generalizing n with
  | nil =>
    simp only [absPath, List.flatMap_nil, List.append_nil]
    exact Py.splitOn_no_sep '/' n (h n (List.mem_cons_self ..))
  | cons m ms ih =>
    have hn := h n (List.mem_cons_self ..)
    rw [absPath_cons, Py.splitOn_append_sep '/' n _ hn,
      ih m (fun x hx => h x (List.mem_cons_of_mem _ hx))]

/-- `parsePath` reads back the position a canonical path text was written from, for names
    without `/` (names with `/` cannot be addressed by a path at all: C14) -/
theorem parsePath_absPath (ns : List Str) (h : ∀ m ∈ ns, ∀ c ∈ m, (c == '/') = false) :
    parsePath (absPath ns) = ns := by
  cases ns with
  | nil => simp [parsePath, absPath, Py.splitOn]
  | cons n ms =>
    rw [parsePath, absPath_cons]
    have hs : Py.splitOn '/' ('/' :: (n ++ absPath ms)) = [] :: Py.splitOn '/' (n ++ absPath ms) := by
      simp [Py.splitOn]
    rw [hs, splitOn_absPath n ms h]
    rfl

/-- at a Section with an include `url#path` (no link): the Section is replaced, in place, by the
    lenient merge of (its cleaned self) with the Section of the fetched document at that path -/
theorem linkStep_at_include (cv : Conv V) (fetch : Str → Option (Doc V)) (doc : Doc V)
    (p : List Str) (l t : Sec V) (txt u : Str) (tp : List Str) (term : Doc V)
    (hl : secAt doc p = some l) (h1 : l.attrs.link = none) (hk : l.attrs.incl = some txt)
    (hp : parseInclude txt = (u, some tp)) (hf : fetch u = some term)
    (ht : secAt term tp = some t) :
    let l1 := cleanSec cv (deref fetch doc) (height l + 1) l
    let r := merge cv false { url := some u, path := tp } l1 t
    (linkStep cv fetch doc p).2 = r.2 ∧ secAt (linkStep cv fetch doc p).1 p = some r.1 := by
  simp only
  unfold linkStep
  simp only [hl, h1, hk, hp, hf, ht, Option.map]
  exact ⟨trivial, secAt_updAt_same _ p doc l hl (merge_cleanSec_name ..)⟩

end Link
