/-
Lemmas about the `posixpath` model on paths built from plain segments: what the
character-wise `commonprefix` + `dirname`, `relpath` and `normpath` compute inside
`_get_relative_path`.  Names that are prefixes of one another (`ab`, `abc`) are exactly the
case where the character-wise common prefix differs from the segment-wise one.
-/
import OdmlModel.Proofs.Path

namespace Path

/-- the remainders after the common prefix start with different steps (if both are non-empty) -/
def Diverge {α : Type} (u v : List α) : Prop :=
  ∀ x y tu tv, u = x :: tu → v = y :: tv → x ≠ y

theorem exists_common_prefix {α : Type} [DecidableEq α] (a b : List α) :
    ∃ c a' b', a = c ++ a' ∧ b = c ++ b' ∧ Diverge a' b' := by
  induction a generalizing b with
  | nil => exact ⟨[], [], b, rfl, rfl, fun _ _ _ _ h => nomatch h⟩
  | cons i a ih =>
    cases b with
    | nil => exact ⟨[], i :: a, [], rfl, rfl, fun _ _ _ _ _ h => nomatch h⟩
    | cons j b =>
      by_cases hij : i = j
      · subst hij
        obtain ⟨c, a', b', rfl, rfl, h⟩ := ih b
        exact ⟨i :: c, a', b', rfl, rfl, h⟩
      · exact ⟨[], i :: a, j :: b, rfl, rfl, fun x y _ _ h1 h2 => by cases h1; cases h2; exact hij⟩

end Path

namespace Py.Posix
open Py Path

/-- a path segment that `posixpath` treats as an ordinary name (`plainName` without the `:` clause,
    which `posixpath` does not care about) -/
def SegOk (n : List Char) : Prop := n ≠ [] ∧ '/' ∉ n ∧ n ≠ ['.'] ∧ n ≠ ['.', '.']

theorem SegOk.ne_nil {n : List Char} (h : SegOk n) : n ≠ [] := h.1
theorem SegOk.noslash {n : List Char} (h : SegOk n) : '/' ∉ n := h.2.1
theorem SegOk.ne_dot {n : List Char} (h : SegOk n) : n ≠ ['.'] := h.2.2.1
theorem SegOk.ne_dotdot {n : List Char} (h : SegOk n) : n ≠ ['.', '.'] := h.2.2.2

/-- `"/a/b/c"` as a concatenation of `"/" + segment` -/
def slashed : List (List Char) → List Char
  | [] => []
  | n :: ns => '/' :: (n ++ slashed ns)

theorem cons_slash_joinSlash (ns : List (List Char)) (h : ns ≠ []) :
    '/' :: joinSlash ns = slashed ns := by
  induction ns with
  | nil => exact absurd rfl h
  | cons n r ih =>
    cases r with
    | nil => simp [joinSlash, slashed]
    | cons m t =>
      have := ih (by simp)
      simp only [joinSlash, slashed] at this ⊢
      rw [← this]

theorem slashed_append (xs ys : List (List Char)) :
    slashed (xs ++ ys) = slashed xs ++ slashed ys := by
  induction xs with
  | nil => simp [slashed]
  | cons n r ih => simp [slashed, ih]

theorem slashed_slash_head (xs : List (List Char)) : ∃ r, slashed xs ++ ['/'] = '/' :: r := by
  cases xs with
  | nil => exact ⟨[], rfl⟩
  | cons n r => exact ⟨n ++ slashed r ++ ['/'], by simp [slashed]⟩

theorem commonPrefix_append (x u v : List Char) :
    commonPrefix (x ++ u) (x ++ v) = x ++ commonPrefix u v := by
  induction x with
  | nil => rfl
  | cons c x ih => rw [List.cons_append, List.cons_append, commonPrefix, if_pos rfl, ih]; rfl

theorem commonPrefix_diff (a b ra rb : List Char) (ha : '/' ∉ a) (hb : '/' ∉ b) (hab : a ≠ b) :
    '/' ∉ commonPrefix (a ++ '/' :: ra) (b ++ '/' :: rb) := by
  induction a generalizing b with
  | nil =>
    cases b with
    | nil => exact absurd rfl hab
    | cons y b1 =>
      have hy : '/' ≠ y := by intro h; apply hb; simp [← h]
      simp [commonPrefix, hy]
  | cons x a1 ih =>
    have hx : x ≠ '/' := by intro h; apply ha; simp [h]
    cases b with
    | nil => simp [commonPrefix, hx]
    | cons y b1 =>
      simp only [List.cons_append, commonPrefix]
      split
      · rename_i hxy
        subst hxy
        simp only [List.mem_cons, not_or]
        refine ⟨fun h => hx h.symm, ih b1 ?_ ?_ ?_⟩
        · intro h; apply ha; simp [h]
        · intro h; apply hb; simp [h]
        · intro h; apply hab; simp [h]
      · simp

/-- the character-wise common prefix stops inside the first segment in which the paths differ -/
theorem commonPrefix_diverge (as bs : List (List Char)) (hd : Diverge as bs)
    (ha : ∀ n ∈ as, SegOk n) (hb : ∀ n ∈ bs, SegOk n) :
    ∃ w, '/' ∉ w ∧ commonPrefix (slashed as ++ ['/']) (slashed bs ++ ['/']) = '/' :: w := by
  cases as with
  | nil =>
    obtain ⟨r, hr⟩ := slashed_slash_head bs
    exact ⟨[], nofun, by rw [hr]; rfl⟩
  | cons a as' =>
    cases bs with
    | nil => exact ⟨[], nofun, by simp [slashed, commonPrefix]⟩
    | cons b bs' =>
      obtain ⟨ra, hra⟩ := slashed_slash_head as'
      obtain ⟨rb, hrb⟩ := slashed_slash_head bs'
      simp only [slashed, List.cons_append, List.append_assoc]
      rw [commonPrefix, if_pos rfl, hra, hrb]
      exact ⟨_, commonPrefix_diff a b ra rb (ha a List.mem_cons_self).noslash
        (hb b List.mem_cons_self).noslash (hd a b _ _ rfl rfl), rfl⟩

theorem commonPrefixSegs_append_diverge (x u v : List (List Char)) (h : Diverge u v) :
    commonPrefixSegs (x ++ u) (x ++ v) = x := by
  induction x with
  | nil =>
    cases u with
    | nil => simp [commonPrefixSegs]
    | cons a tu =>
      cases v with
      | nil => simp [commonPrefixSegs]
      | cons b tv => simp [commonPrefixSegs, h a b tu tv rfl rfl]
  | cons c x ih => simp [commonPrefixSegs, ih]

theorem commonPrefixSegs_self_append (cs r : List (List Char)) :
    commonPrefixSegs cs (cs ++ r) = cs := by
  simpa using commonPrefixSegs_append_diverge cs [] r nofun

theorem headThroughLastSlash_eq (x w : List Char) (hw : '/' ∉ w) :
    headThroughLastSlash (x ++ '/' :: w) = x ++ ['/'] := by
  have hp : ∀ c ∈ w.reverse, decide (c ≠ '/') = true := fun c hc =>
    decide_eq_true fun h => hw (h ▸ List.mem_reverse.1 hc)
  rw [headThroughLastSlash, List.reverse_append, List.reverse_cons, List.append_assoc,
    List.dropWhile_append_of_pos hp, List.singleton_append,
    List.dropWhile_cons_of_neg (by simp), List.reverse_cons, List.reverse_reverse]

theorem rstripSlash_snoc (y : List Char) (c : Char) (hc : c ≠ '/') :
    rstripSlash (y ++ [c] ++ ['/']) = y ++ [c] := by
  simp [rstripSlash, List.dropWhile, hc]

theorem slashed_ends (cs : List (List Char)) (hne : cs ≠ []) (h : ∀ n ∈ cs, SegOk n) :
    ∃ y c, slashed cs = y ++ [c] ∧ c ≠ '/' := by
  have hcs := (List.dropLast_concat_getLast hne).symm
  have hn := h (cs.getLast hne) (List.getLast_mem hne)
  have hn0 := (List.dropLast_concat_getLast hn.ne_nil).symm
  refine ⟨slashed cs.dropLast ++ '/' :: (cs.getLast hne).dropLast,
    (cs.getLast hne).getLast hn.ne_nil, ?_, ?_⟩
  · conv => lhs; rw [hcs]
    rw [slashed_append]
    conv => lhs; rw [hn0]
    simp [slashed]
  · intro hc
    apply hn.noslash
    rw [← hc]
    exact List.getLast_mem hn.ne_nil

theorem dirname_slashed (cs : List (List Char)) (w : List Char) (hne : cs ≠ [])
    (h : ∀ n ∈ cs, SegOk n) (hw : '/' ∉ w) : dirname (slashed cs ++ '/' :: w) = slashed cs := by
  obtain ⟨y, c, hcs, hc⟩ := slashed_ends cs hne h
  unfold dirname
  rw [headThroughLastSlash_eq _ _ hw]
  have hnall : ¬ ((slashed cs ++ ['/']).all (fun x => decide (x = '/')) = true) := by
    simp only [List.all_eq_true, decide_eq_true_eq]
    intro hall
    exact hc (hall c (by simp [hcs]))
  simp only [hnall, ne_eq, List.append_eq_nil_iff, List.cons_ne_self, and_false, not_false_eq_true]
  rw [hcs]
  exact rstripSlash_snoc y c hc

theorem dirname_root (w : List Char) (hw : '/' ∉ w) : dirname ('/' :: w) = ['/'] := by
  unfold dirname
  have := headThroughLastSlash_eq [] w hw
  simp only [List.nil_append] at this
  rw [this]
  simp

/-- `posixpath.dirname(posixpath.commonprefix([path_a + "/", path_b + "/"]))`: the common prefix
    stops inside the first differing segment, `dirname` cuts it back to the segment boundary -/
theorem parent_eq (cs as bs : List (List Char)) (hd : Diverge as bs) (hc : ∀ n ∈ cs, SegOk n)
    (ha : ∀ n ∈ as, SegOk n) (hb : ∀ n ∈ bs, SegOk n) :
    dirname (commonPrefix (slashed (cs ++ as) ++ ['/']) (slashed (cs ++ bs) ++ ['/'])) =
      if cs = [] then ['/'] else slashed cs := by
  obtain ⟨w, hw, heq⟩ := commonPrefix_diverge as bs hd ha hb
  rw [slashed_append, slashed_append, List.append_assoc, List.append_assoc, commonPrefix_append,
    heq]
  by_cases h : cs = []
  · rw [if_pos h, h]
    exact dirname_root w hw
  · rw [if_neg h]
    exact dirname_slashed cs w h hc hw

theorem splitOn_joinSlash_append (ns : List (List Char)) (t : List Char) (hne : ns ≠ [])
    (h : ∀ n ∈ ns, '/' ∉ n) :
    splitOn '/' (joinSlash ns ++ '/' :: t) = ns ++ splitOn '/' t := by
  induction ns with
  | nil => exact absurd rfl hne
  | cons n r ih =>
    cases r with
    | nil =>
      simp only [joinSlash]
      rw [splitOn_append_sep _ _ _ (no_sep_of_not_mem (h n (by simp)))]
      simp
    | cons m u =>
      simp only [joinSlash, List.append_assoc, List.cons_append]
      rw [splitOn_append_sep _ _ _ (no_sep_of_not_mem (h n (by simp)))]
      rw [ih (by simp) (fun x hx => h x (by simp [hx]))]
      simp

theorem splitOn_single_sep : splitOn '/' ['/'] = [[], []] := by simp [splitOn]

theorem normComps_plain (b : Bool) (acc ns rest : List (List Char)) (h : ∀ n ∈ ns, SegOk n) :
    normComps b acc (ns ++ rest) = normComps b (acc ++ ns) rest := by
  induction ns generalizing acc with
  | nil => simp
  | cons n r ih =>
    have hn := h n (by simp)
    simp only [List.cons_append, normComps, hn.ne_nil, hn.ne_dot, or_self, ↓reduceIte, ne_eq,
      hn.ne_dotdot,
      not_false_eq_true, true_or]
    rw [ih _ (fun x hx => h x (by simp [hx]))]
    simp

theorem normComps_skip_empty (b : Bool) (acc rest : List (List Char)) :
    normComps b acc ([] :: rest) = normComps b acc rest := by
  simp [normComps]

theorem normComps_skip_dot (b : Bool) (acc rest : List (List Char)) :
    normComps b acc (['.'] :: rest) = normComps b acc rest := by
  simp [normComps]

theorem normComps_nil (b : Bool) (acc : List (List Char)) : normComps b acc [] = acc := by
  simp [normComps]

theorem initialSlashes_one (c : Char) (hc : c ≠ '/') (r : List Char) :
    initialSlashes ('/' :: c :: r) = 1 := by
  rw [initialSlashes.eq_3]
  · rintro _ h; exact hc (List.cons.inj h).1
  · rintro _ h; exact hc (List.cons.inj h).1

theorem slashed_head (ns : List (List Char)) (hne : ns ≠ []) (h : ∀ n ∈ ns, SegOk n) :
    ∃ c r, slashed ns = '/' :: c :: r ∧ c ≠ '/' := by
  cases ns with
  | nil => exact absurd rfl hne
  | cons n t =>
    have hn := h n (by simp)
    cases n with
    | nil => exact absurd rfl hn.ne_nil
    | cons c n' =>
      refine ⟨c, n' ++ slashed t, by simp [slashed], ?_⟩
      intro hc
      apply hn.noslash
      simp [hc]

theorem joinSlash_ne_nil (ns : List (List Char)) (hne : ns ≠ []) (h : ns.head? ≠ some []) :
    joinSlash ns ≠ [] := by
  cases ns with
  | nil => exact absurd rfl hne
  | cons n t =>
    cases t with
    | nil => simpa [joinSlash] using h
    | cons m u => simp [joinSlash]

theorem normpath_slashed (ns : List (List Char)) (hne : ns ≠ []) (h : ∀ n ∈ ns, SegOk n)
    (t : List Char) (ht : t = [] ∨ t = ['/']) : normpath (slashed ns ++ t) = slashed ns := by
  obtain ⟨c, r, hq, hc⟩ := slashed_head ns hne h
  have hsl : ∀ n ∈ ns, '/' ∉ n := fun n hn => (h n hn).noslash
  have hcomps : normComps true [] (splitOn '/' (slashed ns ++ t)) = ns := by
    rw [← cons_slash_joinSlash ns hne]
    rcases ht with rfl | rfl
    · have hp := normComps_plain true [] ns [] h
      rw [List.append_nil] at hp
      rw [List.append_nil, splitOn_cons_sep, splitOn_joinSlash ns hne hsl, normComps_skip_empty, hp]
      rfl
    · rw [List.cons_append, splitOn_cons_sep, splitOn_joinSlash_append ns [] hne hsl,
        normComps_skip_empty, normComps_plain _ _ _ _ h]
      rfl
  have his : initialSlashes (slashed ns ++ t) = 1 := by rw [hq]; exact initialSlashes_one c hc _
  rw [normpath, if_neg (by rw [hq]; exact nofun)]
  simp only [his]
  rw [show (1 != 0) = true from rfl, hcomps, if_neg (by exact nofun),
    ← cons_slash_joinSlash ns hne]
  rfl

theorem absSegs_slashed (ns : List (List Char)) (hne : ns ≠ []) (h : ∀ n ∈ ns, SegOk n)
    (t : List Char) (ht : t = [] ∨ t = ['/']) : absSegs (slashed ns ++ t) = ns := by
  unfold absSegs
  rw [normpath_slashed ns hne h t ht, ← cons_slash_joinSlash ns hne, splitOn_cons_sep,
    splitOn_joinSlash ns hne (fun n hn => (h n hn).noslash)]
  simp only [ne_eq, decide_not, List.filter_cons, decide_true, Bool.not_true,
    Bool.false_eq_true, ↓reduceIte]
  rw [List.filter_eq_self]
  intro n hn
  simpa using (h n hn).1

/-- `posixpath.relpath(path_x + "/", parent)` where `parent` is a proper-or-equal ancestor -/
theorem relpath_below (cs r : List (List Char)) (hne : cs ≠ []) (hcs : ∀ n ∈ cs, SegOk n)
    (hr : ∀ n ∈ r, SegOk n) :
    relpath (slashed (cs ++ r) ++ ['/']) (slashed cs) = if r = [] then ['.'] else joinSlash r := by
  unfold relpath
  have h1 := absSegs_slashed cs hne hcs [] (Or.inl rfl)
  simp only [List.append_nil] at h1
  have h2 := absSegs_slashed (cs ++ r) (by simp [hne])
    (List.forall_mem_append.2 ⟨hcs, hr⟩) ['/'] (Or.inr rfl)
  simp [h1, h2, commonPrefixSegs_self_append]

theorem joinSlash_ne_dot (r : List (List Char)) (hne : r ≠ []) (hr : ∀ n ∈ r, SegOk n) :
    joinSlash r ≠ ['.'] := by
  cases r with
  | nil => exact absurd rfl hne
  | cons n t =>
    have hn := hr n (by simp)
    cases t with
    | nil => simpa [joinSlash] using hn.ne_dot
    | cons m u =>
      simp only [joinSlash]
      intro h
      have := congrArg List.length h
      simp at this
      have : n.length = 0 := by omega
      exact hn.ne_nil (List.length_eq_zero_iff.1 this)

theorem countSlash_joinSlash (r : List (List Char)) (hne : r ≠ []) (hr : ∀ n ∈ r, '/' ∉ n) :
    countSlash (joinSlash r) + 1 = r.length := by
  induction r with
  | nil => exact absurd rfl hne
  | cons n t ih =>
    have hn : List.count '/' n = 0 := List.count_eq_zero.2 (hr n (by simp))
    cases t with
    | nil => simp [joinSlash, countSlash, hn]
    | cons m u =>
      have := ih (by simp) (fun x hx => hr x (by simp [hx]))
      simp only [countSlash, List.length_cons] at this
      simp only [joinSlash, countSlash, List.count_append, hn, List.count_cons_self, List.length_cons]
      omega

theorem dotdotSlash_eq (k : Nat) :
    dotdotSlash (k + 1) = joinSlash (List.replicate (k + 1) ['.', '.']) ++ ['/'] := by
  induction k with
  | zero => rfl
  | succ k ih =>
    have : dotdotSlash (k + 2) = '.' :: '.' :: '/' :: dotdotSlash (k + 1) := rfl
    rw [this, ih]
    simp [List.replicate_succ, joinSlash]

theorem normComps_dotdot_keep (acc rest : List (List Char))
    (h : acc = [] ∨ acc.getLast? = some ['.', '.']) :
    normComps false acc (['.', '.'] :: rest) = normComps false (acc ++ [['.', '.']]) rest := by
  have h0 : ¬ (['.', '.'] = ([] : List Char) ∨ ['.', '.'] = ['.']) := by decide
  have h1 : (['.', '.'] ≠ ['.', '.'] ∨ (!false ∧ acc = []) ∨
      (acc ≠ [] ∧ acc.getLast? = some ['.', '.'])) := by
    by_cases ha : acc = []
    · exact .inr (.inl ⟨rfl, ha⟩)
    · exact .inr (.inr ⟨ha, h.resolve_left ha⟩)
  rw [normComps, if_neg h0, if_pos h1]

theorem normComps_dotdots (j k : Nat) (rest : List (List Char)) :
    normComps false (List.replicate j ['.', '.']) (List.replicate k ['.', '.'] ++ rest) =
      normComps false (List.replicate (j + k) ['.', '.']) rest := by
  induction k generalizing j with
  | zero => rfl
  | succ k ih =>
    rw [List.replicate_succ, List.cons_append, normComps_dotdot_keep, ← List.replicate_succ', ih,
      Nat.add_right_comm, Nat.add_assoc]
    cases j with
    | zero => exact .inl rfl
    | succ j => exact .inr (by rw [List.getLast?_replicate]; rfl)

/-- `normpath("../" * k + rest)` for `k ≥ 1` and `rest` = `.` or a relative path of plain segments -/
theorem normpath_dotdots (k : Nat) (r : List (List Char)) (hr : ∀ n ∈ r, SegOk n) :
    normpath (dotdotSlash (k + 1) ++ (if r = [] then ['.'] else joinSlash r)) =
      joinSlash (List.replicate (k + 1) ['.', '.'] ++ r) := by
  have hdd : ∀ n ∈ List.replicate (k + 1) ['.', '.'], '/' ∉ n := by
    intro n hn
    rw [List.eq_of_mem_replicate hn]; decide
  have hsplit : splitOn '/' (dotdotSlash (k + 1) ++ (if r = [] then ['.'] else joinSlash r)) =
      List.replicate (k + 1) ['.', '.'] ++ (if r = [] then [['.']] else r) := by
    rw [dotdotSlash_eq, List.append_assoc, List.singleton_append,
      splitOn_joinSlash_append _ _ (by rw [List.replicate_succ]; exact nofun) hdd]
    split
    · rfl
    · rename_i hne
      rw [splitOn_joinSlash r hne (fun n hn => (hr n hn).noslash)]
  have hcomps : normComps false [] (List.replicate (k + 1) ['.', '.'] ++ (if r = [] then [['.']] else r)) =
      List.replicate (k + 1) ['.', '.'] ++ r := by
    rw [show normComps false [] = normComps false (List.replicate 0 ['.', '.']) from rfl,
      normComps_dotdots, Nat.zero_add]
    split
    · rename_i h; rw [h, normComps_skip_dot, normComps_nil, List.append_nil]
    · rw [← List.append_nil r, normComps_plain false _ r [] hr, normComps_nil, List.append_nil]
  have hnn : joinSlash (List.replicate (k + 1) ['.', '.'] ++ r) ≠ [] :=
    joinSlash_ne_nil _ (List.cons_ne_nil _ _) (by rw [List.replicate_succ]; exact nofun)
  rw [normpath, if_neg (by rw [dotdotSlash]; exact nofun)]
  have his : initialSlashes (dotdotSlash (k + 1) ++ (if r = [] then ['.'] else joinSlash r)) = 0 := rfl
  simp only [his, hsplit]
  rw [show (0 != 0) = false from rfl, hcomps, List.replicate_zero, List.nil_append, if_neg hnn]
end Py.Posix

namespace Path
open Py Py.Posix PathTree

/-- what `_get_relative_path` computes, at the level of path segments:
    absolute path of `b` when only the Document is shared; `.` for the Section itself;
    the child path below; otherwise one `..` per remaining segment of `a`, then down to `b`. -/
def relSpec (as bs : List (List Char)) : List Char :=
  let cs := commonPrefixSegs as bs
  let a' := as.drop cs.length
  let b' := bs.drop cs.length
  if cs = [] then '/' :: joinSlash bs
  else if a' = [] then (if b' = [] then ['.'] else joinSlash b')
  else joinSlash (List.replicate a'.length ['.', '.'] ++ b')

theorem relSpec_split (cs as bs : List (List Char)) (hd : Diverge as bs) :
    relSpec (cs ++ as) (cs ++ bs) =
      if cs = [] then '/' :: joinSlash bs
      else if as = [] ∧ bs = [] then ['.']
      else joinSlash (List.replicate as.length ['.', '.'] ++ bs) := by
  unfold relSpec
  simp only [commonPrefixSegs_append_diverge cs as bs hd, List.drop_left']
  by_cases hc : cs = []
  · simp [hc]
  · by_cases ha : as = []
    · by_cases hb : bs = [] <;> simp [hc, ha, hb]
    · simp [hc, ha]

theorem relativePath_segments (as bs : List (List Char)) (hane : as ≠ []) (hbne : bs ≠ [])
    (ha : ∀ n ∈ as, SegOk n) (hb : ∀ n ∈ bs, SegOk n) :
    relativePath ('/' :: joinSlash as) ('/' :: joinSlash bs) = relSpec as bs := by
  rw [cons_slash_joinSlash as hane, cons_slash_joinSlash bs hbne]
  obtain ⟨cs, a', b', rfl, rfl, hd⟩ := exists_common_prefix as bs
  obtain ⟨hcs, ha'⟩ := List.forall_mem_append.1 ha
  have hb' := (List.forall_mem_append.1 hb).2
  rw [relSpec_split cs a' b' hd]
  unfold relativePath
  simp only [parent_eq cs a' b' hd hcs ha' hb']
  by_cases hc : cs = []
  · subst hc
    simpa using (cons_slash_joinSlash b' (by simpa using hbne)).symm
  · obtain ⟨c, r, hq, hcne⟩ := slashed_head cs hc hcs
    have hpar : slashed cs ≠ ['/'] := by rw [hq]; simp
    simp only [hc, ↓reduceIte, hpar]
    rw [relpath_below cs a' hc hcs ha', relpath_below cs b' hc hcs hb']
    by_cases hae : a' = []
    · by_cases hbe : b' = [] <;> simp [hae, hbe]
    · have hnd := joinSlash_ne_dot a' hae ha'
      simp only [hae, ↓reduceIte, hnd, false_and]
      obtain ⟨k, hk⟩ := Nat.exists_eq_succ_of_ne_zero (mt List.length_eq_zero_iff.1 hae)
      rw [countSlash_joinSlash a' hae (fun n hn => (ha' n hn).noslash), hk]
      exact normpath_dotdots k b' hb'

end Path
