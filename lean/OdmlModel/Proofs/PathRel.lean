/-
Relative paths on the tree: the path computed by `get_relative_path` (segment form from
`Proofs/PathPosix.lean`) leads from `a` to `b` through `_get_section_by_path`.
-/
import OdmlModel.Proofs.PathPosix

namespace Path
open Py Py.Posix PathTree

theorem SegOk_of_plain {n : List Char} (h : plainName n = true) : SegOk n := by
  have := (plainName_iff n).1 h
  exact ⟨this.1, this.2.1, this.2.2.2.1, this.2.2.2.2⟩

theorem names_diverge (l : List Sec) (hw : wfForest l = true) (a' b' : Pos) (na nb : List Str)
    (hd : Diverge a' b') (ha : namesAlong l a' = some na) (hb : namesAlong l b' = some nb) :
    Diverge na nb := by
  intro x y tu tv hx hy
  cases a' with
  | nil => cases ha; cases hx
  | cons i ta =>
    cases b' with
    | nil => cases hb; cases hy
    | cons j tb =>
      obtain ⟨si, hi, _, _, rfl⟩ := namesAlong_cons_eq_some.1 ha
      obtain ⟨sj, hj, _, _, rfl⟩ := namesAlong_cons_eq_some.1 hb
      cases hx; cases hy
      intro hname
      have e1 := (wfForest_get hw hi).2.2.2
      have e2 := (wfForest_get hw hj).2.2.2
      rw [hname, e2] at e1
      exact hd i j ta tb rfl rfl (Option.some.inj e1).symm

theorem resolve_relSpec (d : Doc) (hw : d.wf = true) (c a' b' : Pos) (lc : List Sec)
    (nc na nb : List Str) (sb : Sec) (hsb : secAt d.secs (c ++ b') = some sb)
    (hc : kidsAt d.secs c = some lc) (hnc : namesAlong d.secs c = some nc)
    (hna : namesAlong lc a' = some na) (hnb : namesAlong lc b' = some nb)
    (hd : Diverge a' b') :
    getSectionByPath d (c ++ a') (relSpec (nc ++ na) (nc ++ nb)) = .ok (c ++ b') := by
  have hwc : wfForest lc = true := wfForest_kidsAt _ _ _ hw hc
  have hdn := names_diverge lc hwc a' b' na nb hd hna hnb
  have hla := namesAlong_length _ _ _ hna
  have hlb := namesAlong_length _ _ _ hnb
  have hpb := namesAlong_plain _ _ _ hwc hnb
  have hdown := resolve_descend d c b' lc nb hc hwc hnb
  rw [relSpec_split nc na nb hdn]
  by_cases hce : nc = []
  · -- only the Document is shared: absolute path
    subst hce
    cases List.length_eq_zero_iff.1 (namesAlong_length _ _ _ hnc).symm
    cases hc
    rw [if_pos rfl]
    exact resolve_absolute d _ b' nb hw (secAt_ne_nil _ _ _ hsb) hnb
  · rw [if_neg hce, getSectionByPath]
    by_cases hab : na = [] ∧ nb = []
    · -- `b` is `a`: the path is `.`
      cases List.length_eq_zero_iff.1 (hla.symm.trans (hab.1 ▸ rfl))
      cases List.length_eq_zero_iff.1 (hlb.symm.trans (hab.2 ▸ rfl))
      rw [if_pos hab, show splitOn '/' ['.'] = [['.']] from rfl, resolveSegs]
      simp
    · -- otherwise one `..` per remaining step of `a`, then down along the names of `b`
      have hne : List.replicate na.length ['.', '.'] ++ nb ≠ [] := by
        simpa [List.length_eq_zero_iff] using hab
      have hsl : ∀ n ∈ List.replicate na.length ['.', '.'] ++ nb, '/' ∉ n := by
        intro n hn
        rcases List.mem_append.1 hn with h | h
        · rw [List.eq_of_mem_replicate h]; decide
        · exact ((plainName_iff n).1 (hpb n h)).2.1
      rw [if_neg hab, splitOn_joinSlash _ hne hsl, ← resolveFrom_of_ne hne, hla, resolve_up, hdown]

theorem relSpec_no_colon (na nb : List (List Char)) (hb : ∀ n ∈ nb, ':' ∉ n) :
    ':' ∉ relSpec na nb := by
  obtain ⟨cs, a', b', rfl, rfl, hd⟩ := exists_common_prefix na nb
  have hj : ∀ xs, (∀ n ∈ xs, ':' ∉ n) → ':' ∉ joinSlash xs := not_mem_joinSlash ':' (by decide)
  have hb' := (List.forall_mem_append.1 hb).2
  rw [relSpec_split cs a' b' hd]
  split
  · exact fun h => (List.mem_cons.1 h).elim (by decide) (hj b' hb')
  · split
    · decide
    · refine hj _ fun n hn => ?_
      rcases List.mem_append.1 hn with h | h
      · rw [List.eq_of_mem_replicate h]; decide
      · exact hb' n h

theorem namesAlong_append_eq_some {l l' : List Sec} {q r : Pos} {ns : List Str}
    (hq : kidsAt l q = some l') (h : namesAlong l (q ++ r) = some ns) :
    ∃ nq nr, namesAlong l q = some nq ∧ namesAlong l' r = some nr ∧ ns = nq ++ nr := by
  rw [namesAlong_append _ _ _ _ hq] at h
  obtain ⟨nq, h1, h⟩ := Option.bind_eq_some_iff.1 h
  obtain ⟨nr, h2, h⟩ := Option.map_eq_some_iff.1 h
  exact ⟨nq, nr, h1, h2, h.symm⟩

theorem resolve_rel (d : Doc) (hw : d.wf = true) (a b : Pos) (sa sb : Sec) (na nb : List Str)
    (ha : secAt d.secs a = some sa) (hb : secAt d.secs b = some sb)
    (hna : namesAlong d.secs a = some na) (hnb : namesAlong d.secs b = some nb) :
    getSectionByPath d a (relSpec na nb) = .ok b := by
  obtain ⟨c, a', b', rfl, rfl, hd⟩ := exists_common_prefix a b
  have hk := kidsAt_of_secAt _ _ _ ha
  rw [kidsAt_append] at hk
  obtain ⟨lc, hlc, _⟩ := Option.bind_eq_some_iff.1 hk
  obtain ⟨nc, na, hnc, hna', rfl⟩ := namesAlong_append_eq_some hlc hna
  obtain ⟨nc', nb, hnc', hnb', rfl⟩ := namesAlong_append_eq_some hlc hnb
  cases hnc.symm.trans hnc'
  exact resolve_relSpec d hw c a' b' lc nc na nb sb hb hlc hnc hna' hnb' hd

end Path
