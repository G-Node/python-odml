/-
C16 — the dictionary reader computes the denotation of `Proofs/ReaderDictSpec.lean`
(`readDoc_spec`), and the denotation is a well-formed tree (`dDoc_wf`).
-/
import OdmlModel.Proofs.ReaderWF
import OdmlModel.Proofs.ReaderDictSpec

namespace Reader

variable {g : Guards} {env : DEnv} {m : Mode}

theorem parseSections_spec (hg : g.DictOk) :
    (∀ v w, parseSections g env m v w
      = outcome m (sectionsProblems env v) (dSections env v, w + sectionsProblems env v)) ∧
    (∀ kvs st, secPairs g env m kvs st
      = outcome m (secPairsProblems env kvs) (secLoopAfter env kvs st)) := by
  obtain ⟨_, _, _, hs, hp⟩ := hg
  refine J.induct (B := fun xs => ∀ acc w, parseSecList g env m xs acc w
    = outcome m (secListProblems env xs) (acc ++ dSecList env xs, w + secListProblems env xs))
    ?leaf ?arr ?nil ?cons_obj ?cons_other ?pnil ?pcons
  case leaf =>
    intro v hv w
    cases v with
    | arr xs => exact absurd rfl (hv xs)
    | _ =>
      unfold parseSections
      simp only [hs, if_true, dSections, sectionsProblems]
      exact raiseOrWarn_pure m w (fun w' => ([], w'))
  case arr =>
    intro xs ih w
    rw [parseSections, ih [] w, List.nil_append]
    rfl
  case nil =>
    intro acc w
    rw [parseSecList]
    simp only [secListProblems, dSecList, List.append_nil, Nat.add_zero]
    exact pure_eq_outcome m _
  case cons_obj =>
    intro kvs rest hx hr acc w
    rw [parseSecList, hx]
    simp only [secListProblems, dSecList, secLoopAfter, finishSec_spec hp]
    apply outcome_bind
    · exact outcome_bind (hr _ _) rfl rfl
    · dsimp only
      omega
    · dsimp only
      rw [List.append_assoc]
      congr 1
      omega
  case cons_other =>
    intro x rest hx hr acc w
    cases x with
    | obj kvs => exact absurd rfl (hx kvs)
    | _ =>
      unfold parseSecList
      simp only [hs, if_true, secListProblems, dSecList]
      exact raiseOrWarn_bind (hr _ _) rfl (by congr 1; omega)
  case pnil =>
    intro st
    rw [secPairs]
    simp only [secPairsProblems, secLoopAfter, dSecParts, Nat.add_zero]
    exact pure_eq_outcome m _
  case pcons =>
    intro k v rest hv hr st
    rw [secPairs, validAttr_spec]
    simp only [secPairsProblems, secLoopAfter, dSecParts, keyProblem]
    by_cases hk : validKey .sec k = true
    · by_cases h1 : (k == "properties".toList) = true
      · simp only [hk, h1, if_true]
        apply outcome_bind
        · simp only [h1, if_true, parseProps_spec hs]
          exact outcome_bind (hr _) rfl rfl
        · omega
        · simp only [secLoopAfter]
          congr 1
          omega
      · by_cases h2 : (k == "sections".toList) = true
        · simp only [hk, h1, h2, if_true, Bool.false_eq_true, if_false]
          apply outcome_bind
          · simp only [h1, h2, if_true, Bool.false_eq_true, if_false, hv]
            exact outcome_bind (hr _) rfl rfl
          · omega
          · simp only [secLoopAfter]
            congr 1
            omega
        · simp only [hk, h1, h2, if_true, Bool.false_eq_true, if_false]
          apply outcome_bind
          · simp only [h1, h2, Bool.false_eq_true, if_false]
            exact hr _
          · omega
          · simp only [secLoopAfter]
            congr 1
            omega
    · simp only [hk, Bool.false_eq_true, if_false]
      refine outcome_bind (hr _) rfl ?_
      simp only [secLoopAfter]
      congr 1
      omega

structure DocParts where
  attrs : DArgs
  secs : List (Obj J)

/-- arguments and valid top-level Sections of the `Document` dictionary -/
def dDocParts (env : DEnv) : List (Str × J) → DocParts → DocParts
  | [], st => st
  | (k, v) :: rest, st =>
    if validKey .doc k then
      if k == "sections".toList then dDocParts env rest { st with secs := dSections env v }
      else dDocParts env rest { st with attrs := setAttr .doc k v st.attrs }
    else dDocParts env rest st

def docPairsProblems (env : DEnv) : List (Str × J) → Nat
  | [] => 0
  | (k, v) :: rest =>
    (if validKey .doc k then
      if k == "sections".toList then sectionsProblems env v else 0
     else 1) + docPairsProblems env rest

/-- the same for the attribute loop of `to_odml` -/
def docLoopAfter (env : DEnv) (kvs : List (Str × J)) (st : DocLoop) : DocLoop :=
  { attrs := (dDocParts env kvs ⟨st.attrs, st.secs⟩).attrs,
    secs := (dDocParts env kvs ⟨st.attrs, st.secs⟩).secs,
    w := st.w + docPairsProblems env kvs }

theorem docPairs_spec (hg : g.DictOk) (kvs : List (Str × J))
    (st : DocLoop) :
    docPairs g env m kvs st = outcome m (docPairsProblems env kvs) (docLoopAfter env kvs st) := by
  induction kvs generalizing st with
  | nil =>
    rw [docPairs]
    simp only [docPairsProblems, docLoopAfter, dDocParts, Nat.add_zero]
    exact pure_eq_outcome m _
  | cons p rest ih =>
    obtain ⟨k, v⟩ := p
    rw [docPairs, validAttr_spec]
    simp only [docPairsProblems, docLoopAfter, dDocParts, keyProblem]
    by_cases hk : validKey .doc k = true
    · by_cases h1 : (k == "sections".toList) = true
      · simp only [hk, h1, if_true]
        apply outcome_bind
        · simp only [h1, if_true, (parseSections_spec hg).1]
          exact outcome_bind (ih _) rfl rfl
        · omega
        · simp only [docLoopAfter]
          congr 1
          omega
      · simp only [hk, h1, if_true, Bool.false_eq_true, if_false]
        apply outcome_bind
        · simp only [h1, Bool.false_eq_true, if_false]
          exact ih _
        · omega
        · simp only [docLoopAfter]
          congr 1
          omega
    · simp only [hk, Bool.false_eq_true, if_false]
      refine outcome_bind (ih _) rfl ?_
      simp only [docLoopAfter]
      congr 1
      omega

/-- the Document object: created from the collected arguments, the default one when the constructor
    refuses them -/
def dDocBase (env : DEnv) (attrs : DArgs) : Obj J :=
  Obj.mk .doc Name.fresh (!env.createFails .doc attrs) [] []

/-- **The valid parts of a `Document` dictionary.** -/
def dDoc (env : DEnv) (kvs : List (Str × J)) : Obj J :=
  keepValid J.pyEq (dDocBase env (dDocParts env kvs ⟨[], []⟩).attrs) (dDocParts env kvs ⟨[], []⟩).secs

/-- **The problems of a `Document` dictionary.** -/
def docProblems (env : DEnv) (kvs : List (Str × J)) : Nat :=
  docPairsProblems env kvs
    + ((if env.createFails .doc (dDocParts env kvs ⟨[], []⟩).attrs then 1 else 0)
      + refusedCount J.pyEq (dDocBase env (dDocParts env kvs ⟨[], []⟩).attrs)
          (dDocParts env kvs ⟨[], []⟩).secs)

theorem readDoc_spec (hg : g.DictOk) (kvs : List (Str × J)) :
    readDoc g env m (.obj kvs) = outcome m (docProblems env kvs) (dDoc env kvs, docProblems env kvs) := by
  have ⟨_, hc, ha, _, _⟩ := hg
  unfold readDoc
  simp only []
  rw [docPairs_spec hg]
  by_cases hf : env.createFails .doc (dDocParts env kvs ⟨[], []⟩).attrs = true
  · apply outcome_bind
    · simp only [hc, if_true, docLoopAfter, hf, raiseOrWarn_pure]
      exact outcome_bind (insertDocSecs_eq ha _ _ _) rfl rfl
    · simp only [docProblems, dDocBase, hf, if_true, Bool.not_true]
    · simp only [docProblems, dDoc, dDocBase, hf, if_true, Bool.not_true]
      congr 1
      omega
  · apply outcome_bind
    · simp only [hc, if_true, docLoopAfter, hf, Bool.false_eq_true, if_false]
      exact insertDocSecs_eq ha _ _ _
    · simp only [docProblems, dDocBase, hf, Bool.false_eq_true, if_false, Bool.not_false, Nat.zero_add]
    · simp only [docProblems, dDoc, dDocBase, hf, Bool.false_eq_true, if_false, Bool.not_false]
      congr 1
      omega

/-- The ids the constructors hand out as names are truthy (a canonical uuid string). -/
def DEnv.NamesOk (env : DEnv) : Prop := ∀ k a j, env.autoName k a = .given j → j.truthy = true

theorem dObjName_ok (he : env.NamesOk) (k : Kind) (a : DArgs) (j : J)
    (h : dObjName env k a = .given j) : j.truthy = true := by
  unfold dObjName at h
  split at h
  · cases h
  · split at h
    · split at h
      · rename_i ht
        cases h
        exact ht
      · exact he _ _ _ h
    · exact he _ _ _ h

abbrev DWF (o : Obj J) : Prop := TreeWF J.pyEq J.truthy o

theorem dProp_wf (he : env.NamesOk) (e : J) : ∀ c ∈ dProp env e, DWF c := by
  intro c hc
  cases e with
  | obj kvs =>
    simp only [dProp] at hc
    split at hc
    · cases hc
    · simp only [List.mem_singleton] at hc
      subst hc
      exact leaf_wf _ _ _ _ _ (fun a h => dObjName_ok he _ _ a h)
  | _ => simp [dProp] at hc

theorem dPropList_wf (he : env.NamesOk) (l : List J) : ∀ c ∈ dPropList env l, DWF c := by
  induction l with
  | nil => intro c hc; simp [dPropList] at hc
  | cons e rest ih =>
    intro c hc
    simp only [dPropList, List.mem_append] at hc
    rcases hc with hc | hc
    · exact dProp_wf he e c hc
    · exact ih c hc

theorem dProps_wf (he : env.NamesOk) (v : J) : ∀ c ∈ dProps env v, DWF c := by
  cases v with
  | arr xs => simpa [dProps] using dPropList_wf he xs
  | _ => intro c hc; simp [dProps] at hc

theorem dSecObj_wf (he : env.NamesOk) (attrs : DArgs) (props secs : List (Obj J))
    (hp : ∀ c ∈ props, DWF c) (hs : ∀ c ∈ secs, DWF c) : ∀ c ∈ dSecObj env attrs props secs, DWF c := by
  intro c hc
  unfold dSecObj at hc
  split at hc
  · cases hc
  · simp only [List.mem_singleton] at hc
    subst hc
    refine keepValid_wf _ _ _ _ _ _ (fun a h => dObjName_ok he _ _ a h) ?_
    intro x hx
    rcases List.mem_append.mp hx with hx | hx
    · exact hp x hx
    · exact hs x hx

/-- the collected Properties and Subsections are well-formed -/
@[reducible] def PartsWF (st : SecParts) : Prop := (∀ c ∈ st.props, DWF c) ∧ (∀ c ∈ st.secs, DWF c)

theorem dSections_wf (he : env.NamesOk) :
    (∀ v, ∀ c ∈ dSections env v, DWF c) ∧
    (∀ kvs st, PartsWF st → PartsWF (dSecParts env kvs st)) := by
  refine J.induct (B := fun xs => ∀ c ∈ dSecList env xs, DWF c) ?leaf ?arr ?nil ?cons_obj ?cons_other ?pnil ?pcons
  case leaf =>
    intro v hv c hc
    cases v with
    | arr xs => exact absurd rfl (hv xs)
    | _ => simp [dSections] at hc
  case arr =>
    intro xs ih
    simpa [dSections] using ih
  case nil =>
    intro c hc
    simp [dSecList] at hc
  case cons_obj =>
    intro kvs rest hx hr c hc
    simp only [dSecList, List.mem_append] at hc
    rcases hc with hc | hc
    · have hparts := hx ⟨[], [], []⟩ ⟨(fun _ hc => nomatch hc), (fun _ hc => nomatch hc)⟩
      exact dSecObj_wf he _ _ _ hparts.1 hparts.2 c hc
    · exact hr c hc
  case cons_other =>
    intro x rest hx hr c hc
    cases x with
    | obj kvs => exact absurd rfl (hx kvs)
    | _ => simp only [dSecList] at hc; exact hr c hc
  case pnil =>
    intro st h
    simpa [dSecParts] using h
  case pcons =>
    intro k v rest hv hr st h
    simp only [dSecParts]
    split
    · split
      · exact hr _ ⟨dProps_wf he v, h.2⟩
      · split
        · exact hr _ ⟨h.1, hv⟩
        · exact hr _ h
    · exact hr _ h

theorem dDocParts_wf (he : env.NamesOk) (kvs : List (Str × J)) (st : DocParts)
    (h : ∀ c ∈ st.secs, DWF c) : ∀ c ∈ (dDocParts env kvs st).secs, DWF c := by
  induction kvs generalizing st with
  | nil => simpa [dDocParts] using h
  | cons p rest ih =>
    obtain ⟨k, v⟩ := p
    simp only [dDocParts]
    split
    · split
      · exact ih _ ((dSections_wf he).1 v)
      · exact ih _ h
    · exact ih _ h

theorem dDoc_wf (he : env.NamesOk) (kvs : List (Str × J)) :
    DWF (dDoc env kvs) ∧ (dDoc env kvs).kind = .doc := by
  refine ⟨?_, rfl⟩
  unfold dDoc dDocBase
  exact keepValid_wf _ _ _ _ _ _ (by intro a h; cases h)
    (dDocParts_wf he kvs ⟨[], []⟩ (by intro c hc; cases hc))

end Reader
