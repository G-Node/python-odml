/-
`setParent_eq`: `append` cannot refuse, it tests what the pre-check has tested.
-/
import OdmlModel.Model.PathMove
import OdmlModel.Proofs.Path

namespace PathMove
open PathTree

theorem setParent_eq (old : List Kid) (i : Nat) (new : List Kid) (below : Bool) :
    setParent old i new below =
      match old[i]? with
      | none => ⟨false, old, new, .old⟩
      | some x =>
        if nameTaken new x || below then ⟨true, old, new, .old⟩
        else ⟨false, old.eraseIdx i, new ++ [x], .new⟩ := by
  unfold setParent setParentWith
  cases old[i]? with
  | none => rfl
  | some x => by_cases h : nameTaken new x = true <;> cases below <;> simp [h]

/-- the (name, type) view of a child list of Sections -/
def kids (l : List Sec) : List Kid := l.map (fun s => ⟨s.name, s.type⟩)

theorem kids_names (l : List Sec) : (kids l).map (·.name) = l.map (·.name) := by
  simp [kids, List.map_map, Function.comp_def]

theorem kids_append (l : List Sec) (x : Sec) : kids (l ++ [x]) = kids l ++ [⟨x.name, x.type⟩] := by
  simp [kids]

theorem nameTaken_false (l : List Kid) (x : Kid) (h : nameTaken l x = false) :
    (l.map (·.name)).contains x.name = false := by
  simpa [nameTaken] using h

theorem distinct_append_one (l : List Str) (v : Str) (hd : distinct l = true)
    (hc : l.contains v = false) : distinct (l ++ [v]) = true := by
  rw [distinct_iff] at hd ⊢
  refine List.nodup_append.2 ⟨hd, by simp, fun a ha b hb hab => ?_⟩
  obtain rfl := List.mem_singleton.1 hb
  simp [← hab, ha] at hc

theorem distinct_eraseIdx (l : List Str) (i : Nat) (hd : distinct l = true) :
    distinct (l.eraseIdx i) = true := by
  rw [distinct_iff] at hd ⊢
  exact hd.sublist (List.eraseIdx_sublist l i)

theorem map_name_eraseIdx (l : List Kid) (i : Nat) :
    (l.eraseIdx i).map (·.name) = (l.map (·.name)).eraseIdx i := by
  induction l generalizing i with
  | nil => simp
  | cons k r ih =>
    cases i with
    | zero => simp
    | succ j => simp [ih j]

theorem wfList_append_one (l : List Sec) (x : Sec) (hl : wfList l = true) (hx : x.wf = true) :
    wfList (l ++ [x]) = true := by
  rw [wfList_iff] at hl ⊢
  exact fun s hs => (List.mem_append.1 hs).elim (hl s) fun h => List.mem_singleton.1 h ▸ hx

theorem wfForest_append_one (l : List Sec) (x : Sec) (hw : wfForest l = true) (hx : x.wf = true)
    (hn : plainName x.name = true) (hc : (l.map (·.name)).contains x.name = false) :
    wfForest (l ++ [x]) = true := by
  simp only [wfForest, Bool.and_eq_true, List.map_append, List.all_append] at hw ⊢
  exact ⟨⟨wfList_append_one _ _ hw.1.1 hx, hw.1.2, by simp [hn]⟩, distinct_append_one _ _ hw.2 hc⟩

theorem wfList_eraseIdx (l : List Sec) (i : Nat) (hl : wfList l = true) :
    wfList (l.eraseIdx i) = true := by
  rw [wfList_iff] at hl ⊢
  exact fun s hs => hl s (List.mem_of_mem_eraseIdx hs)

end PathMove
