/-
Lemmas for C05 (model: `Model/DTypes.lean`): `dtypes.get`/`set` act through one converter per class
(`get_eq_conv`, `set_eq_conv`); every value-editing call is walked once (`Sound`).
-/
import OdmlModel.Model.DTypes
import OdmlModel.Proofs.Num
import OdmlModel.Proofs.Time

namespace DT
open Py

export Py (parseDate_iso parseTime_hms)

theorem splitOn_ne_nil (sep : Char) (s : List Char) : splitOn sep s ≠ [] := by
  cases s with
  | nil => simp [splitOn]
  | cons c cs =>
    unfold splitOn
    split
    · simp
    · split <;> simp

/-- The Python type a dtype stands for (what `dtypes.get` dispatches on for a normalised name).
    `any` only for names that `valid_type` refuses. -/
inductive Cls where
  | int | float | bool | str | date | time | datetime
  | tuple (n : Int)
  | any
  deriving DecidableEq, Repr

def clsOfNorm (d : List Char) : Cls :=
  if endsWithTuple d then
    match parseInt (d.take (d.length - 6)) with
    | some n => .tuple n
    | none => .any
  else if d == "int".toList then .int
  else if d == "float".toList then .float
  else if d == "time".toList then .time
  else if d == "date".toList then .date
  else if d == "datetime".toList then .datetime
  else if d == "boolean".toList || d == "bool".toList then .bool
  else if d == "tuple".toList then .any
  else .str

def clsOf : DType → Cls
  | none => .str
  | some d0 => if d0.isEmpty then .str else clsOfNorm (normDtype d0)

/-- items as `tuple_get` produces them -/
def Stripped (s : List Char) : Prop := strip s = s ∧ ∀ c ∈ s, (c == ';') = false

/-- an item of a stored n-tuple: a string without surrounding white space and without `;` -/
def TupleItem (a : Atom) : Prop := ∃ s, a = .str s ∧ Stripped s

/-- `w` is of the Python type of the class (strict reading of the property).  A datetime need not
    be valid: `datetime_get` passes a datetime object through unchecked. -/
def HasClass : Cls → Elem → Prop
  | .int, .atom (.int _) => True
  | .float, .atom (.float _) => True
  | .bool, .atom (.bool _) => True
  | .str, .atom (.str _) => True
  | .date, .atom (.date d) => d.valid = true
  | .time, .atom (.time t) => t.valid = true ∧ t.us = 0
  | .datetime, .atom (.datetime x) => x.time.us = 0
  | .tuple n, .seq false xs => (xs.length : Int) = n ∧ xs ≠ [] ∧ ∀ a ∈ xs, TupleItem a
  | .any, _ => True
  | _, _ => False

/-- what the implementation guarantees: as `HasClass`, but an n-tuple Property may hold `None`
    (known finding: `tuple_get` returns `None` for an empty item). -/
def HasClassW (c : Cls) (w : Elem) : Prop :=
  HasClass c w ∨ ((∃ n, c = .tuple n) ∧ w = .atom .none)

theorem HasClass.weak {c w} (h : HasClass c w) : HasClassW c w := Or.inl h

theorem intGet_cls {v w : Elem} (h : intGet v = .ok w) : HasClass .int w := by
  unfold intGet ofTrunc at h
  repeat' split at h
  all_goals cases h
  all_goals trivial

theorem floatGet_cls {v w : Elem} (h : floatGet v = .ok w) : HasClass .float w := by
  unfold floatGet at h
  repeat' split at h
  all_goals cases h
  all_goals trivial

theorem booleanGet_cls {v w : Elem} (h : booleanGet v = .ok w) : HasClass .bool w := by
  unfold booleanGet at h
  simp only at h
  repeat' split at h
  all_goals cases h
  all_goals trivial

theorem strGet_cls (v : Elem) : HasClass .str (strGet v) := by
  unfold strGet; split <;> trivial

theorem timeGet_cls {now : DateTime} (hn : now.valid = true) {v w : Elem}
    (h : timeGet now v = .ok w) : HasClass .time w := by
  unfold timeGet at h
  repeat' split at h
  all_goals cases h
  · simp [DateTime.valid, Time.valid] at hn
    simp [HasClass, Time.valid]; omega
  all_goals exact parseTime_valid ‹_›

theorem dateGet_cls {now : DateTime} (hn : now.valid = true) {v w : Elem}
    (h : dateGet now v = .ok w) : HasClass .date w := by
  unfold dateGet at h
  repeat' split at h
  all_goals cases h
  · simp only [DateTime.valid, Bool.and_eq_true] at hn; exact hn.1
  all_goals exact parseDate_valid ‹_›

theorem datetimeGet_cls {now : DateTime} {v w : Elem}
    (h : datetimeGet now v = .ok w) : HasClass .datetime w := by
  unfold datetimeGet at h
  repeat' split at h
  all_goals cases h
  · rfl
  · rfl
  · exact parseDateTime_us ‹_›

theorem tupleItems_of_split (t : List Char) :
    ∀ a ∈ ((splitOn ';' t).map strip).map Atom.str, TupleItem a := by
  intro a ha
  simp only [List.mem_map] at ha
  obtain ⟨s, ⟨piece, hp, rfl⟩, rfl⟩ := ha
  exact ⟨_, rfl, strip_idem piece, fun c hc => splitOn_mem_no_sep ';' t piece hp c (mem_strip hc)⟩

theorem tupleGet_cls {v w : Elem} {c : Option Int} (h : tupleGet v c = .ok w) :
    w = .atom .none ∨ ∃ xs, w = .seq false xs ∧ xs ≠ [] ∧ (∀ a ∈ xs, TupleItem a) ∧
      (∀ n, c = some n → (xs.length : Int) = n) := by
  unfold tupleGet at h
  simp only at h
  repeat' split at h
  all_goals cases h
  · exact Or.inl rfl
  · rename_i hlen
    exact Or.inr ⟨_, rfl, by simpa using splitOn_ne_nil _ _, tupleItems_of_split _,
      fun m hm => by cases hm; simpa using hlen⟩
  · exact Or.inr ⟨_, rfl, by simpa using splitOn_ne_nil _ _, tupleItems_of_split _, nofun⟩

/-- the converter `dtypes.get` applies for a class -/
def convOf (now : DateTime) : Cls → Elem → R Elem
  | .int, w => intGet w
  | .float, w => floatGet w
  | .bool, w => booleanGet w
  | .str, w => .ok (strGet w)
  | .date, w => dateGet now w
  | .time, w => timeGet now w
  | .datetime, w => datetimeGet now w
  | .tuple n, w => tupleGet w (some n)
  | .any, w => .ok w

theorem ite_rel {α β : Sort _} (R : α → β → Prop) {c : Prop} [Decidable c] {a a' : α} {b b' : β}
    (h : R a b) (h' : R a' b') : R (if c then a else a') (if c then b else b') := by
  split <;> assumption

/-- `clsOf` and `get` test the same conditions in the same order; class `any` marks the two
    branches where `get` has no converter (`int(dtype[:-6])` fails, the bare name `tuple`). -/
theorem get_eq_conv {now : DateTime} {dtype : DType} (hna : clsOf dtype ≠ .any) (w : Elem) :
    get now w dtype = convOf now (clsOf dtype) w := by
  let Q (c : Cls) (x : R Elem) : Prop := c ≠ .any → x = convOf now c w
  have eq {c x} (h : x = convOf now c w) : Q c x := fun _ => h
  have any {x} : Q .any x := fun h => absurd rfl h
  suffices Q (clsOf dtype) (get now w dtype) from this hna
  cases dtype with
  | none => exact eq rfl
  | some d0 =>
    unfold get clsOf clsOfNorm convGet
    refine ite_rel Q (eq rfl) <| ite_rel Q ?_ <| ite_rel Q (eq rfl) <| ite_rel Q (eq rfl) <|
      ite_rel Q (eq rfl) <| ite_rel Q (eq rfl) <| ite_rel Q (eq rfl) <| ite_rel Q (eq rfl) <|
      ite_rel Q any (eq rfl)
    cases parseInt ((normDtype d0).take ((normDtype d0).length - 6))
    · exact any
    · exact eq rfl

theorem get_cls {now : DateTime} (hn : now.valid = true) {v w : Elem} {dtype : DType}
    (h : get now v dtype = .ok w) : HasClassW (clsOf dtype) w := by
  by_cases hna : clsOf dtype = .any
  · rw [hna]; exact Or.inl trivial
  · rw [get_eq_conv hna] at h
    cases hc : clsOf dtype <;> rw [hc] at h
    case int => exact (intGet_cls h).weak
    case float => exact (floatGet_cls h).weak
    case bool => exact (booleanGet_cls h).weak
    case str => cases h; exact (strGet_cls v).weak
    case date => exact (dateGet_cls hn h).weak
    case time => exact (timeGet_cls hn h).weak
    case datetime => exact (datetimeGet_cls h).weak
    case any => exact absurd hc hna
    case tuple n =>
      rcases tupleGet_cls (c := some n) h with rfl | ⟨xs, rfl, hne, hi, hl⟩
      · exact Or.inr ⟨⟨n, rfl⟩, rfl⟩
      · exact Or.inl ⟨hl n rfl, hne, hi⟩

theorem normDtype_lower (s : List Char) : normDtype (lower s) = normDtype s := by
  unfold normDtype
  rw [lower_idem]

theorem validDType_toDType {d : DtIn} (h : validType d = true) : validDType d.toDType = true := by
  cases d with
  | none => rfl
  | other => rfl
  | str s =>
    simp only [DtIn.toDType, validDType, validType, normDtype_lower] at *
    exact h

theorem infer_valid (v : Elem) : validType (.str (inferDtype v)) = true := by
  unfold inferDtype
  simp only
  by_cases h : validType (.str (mapShorthand v.typeName)) = true
  · simp only [h, ↓reduceIte]
    by_cases h2 : (mapShorthand v.typeName == "string".toList && hasNewline v) = true
    · simp only [h2, ↓reduceIte]; decide
    · simp only [h2]; exact h
  · have h' : validType (.str (mapShorthand v.typeName)) = false := by simpa using h
    simp only [h', Bool.false_eq_true, ↓reduceIte]; decide

theorem inferIfNone_valid {dt : DType} (hd : validDType dt = true) (v0 : Elem) :
    validDType (inferIfNone dt v0) = true := by
  cases dt with
  | none => exact infer_valid v0
  | some d => exact hd

theorem inferIfNone_some (dt : DType) (v0 : Elem) : inferIfNone dt v0 ≠ none := by
  cases dt <;> simp [inferIfNone]

/-- Invariant maintained by the implementation (weak reading: `None` allowed in n-tuples). -/
def ConformsW (s : PropState) : Prop :=
  validDType s.dtype = true ∧ (s.dtype = none → s.values = []) ∧
    ∀ v ∈ s.values, HasClassW (clsOf s.dtype) v

/-- The property's reading: every stored value has the Python type of the dtype. -/
def Conforms (s : PropState) : Prop :=
  validDType s.dtype = true ∧ (s.dtype = none → s.values = []) ∧
    ∀ v ∈ s.values, HasClass (clsOf s.dtype) v

theorem Conforms.weak {s} (h : Conforms s) : ConformsW s :=
  ⟨h.1, h.2.1, fun v hv => (h.2.2 v hv).weak⟩

theorem getAll_cons_ok {now : DateTime} {d : DType} {v : Elem} {vs ws : List Elem}
    (h : getAll now d (v :: vs) = .ok ws) :
    ∃ w ws', get now v d = .ok w ∧ getAll now d vs = .ok ws' ∧ ws = w :: ws' := by
  rw [getAll] at h
  cases hg : get now v d <;> cases hr : getAll now d vs <;> simp only [hg, hr] at h <;> cases h
  exact ⟨_, _, rfl, rfl, rfl⟩

theorem getAll_cls {now : DateTime} (hn : now.valid = true) {d : DType} :
    ∀ {l ws : List Elem}, getAll now d l = .ok ws → ∀ w ∈ ws, HasClassW (clsOf d) w := by
  intro l
  induction l with
  | nil => intro ws h w hw; cases h; cases hw
  | cons v vs ih =>
    intro ws h w hw
    obtain ⟨w0, ws0, hg, hr, rfl⟩ := getAll_cons_ok h
    rcases List.mem_cons.mp hw with rfl | hw
    · exact get_cls hn hg
    · exact ih hr w hw

theorem getAll_length {now : DateTime} {d : DType} :
    ∀ {l ws : List Elem}, getAll now d l = .ok ws → ws.length = l.length := by
  intro l
  induction l with
  | nil => intro ws h; cases h; rfl
  | cons v vs ih =>
    intro ws h
    obtain ⟨w0, ws0, -, hr, rfl⟩ := getAll_cons_ok h
    simp [ih hr]

theorem isOk_iff {α : Type} {r : R α} : isOk r = true ↔ ∃ a, r = .ok a := by
  cases r <;> simp [isOk]

theorem validate_eq_isOk {now : DateTime} {d : DType} (l : List Elem) :
    validate now d l = isOk (getAll now d l) := by
  induction l with
  | nil => rfl
  | cons v vs ih =>
    simp only [validate, List.all_cons] at ih ⊢
    rw [ih, getAll]
    cases get now v d <;> cases getAll now d vs <;> rfl

theorem validate_getAll {now : DateTime} {d : DType} {l : List Elem}
    (h : validate now d l = true) : ∃ ws, getAll now d l = .ok ws :=
  isOk_iff.mp (validate_eq_isOk l ▸ h)

theorem getAll_validate {now : DateTime} {d : DType} {l ws : List Elem}
    (h : getAll now d l = .ok ws) : validate now d l = true := by
  rw [validate_eq_isOk, h]; rfl

theorem getAll_map {now : DateTime} {d : DType} {f : Elem → Elem} :
    ∀ {l : List Elem}, (∀ v ∈ l, get now (f v) d = .ok v) → getAll now d (l.map f) = .ok l := by
  intro l
  induction l with
  | nil => intro _; rfl
  | cons v vs ih =>
    intro h
    simp only [List.map_cons, getAll, h v List.mem_cons_self,
      ih fun w hw => h w (List.mem_cons_of_mem _ hw)]

theorem getAll_self {now : DateTime} {d : DType} {l : List Elem}
    (h : ∀ v ∈ l, get now v d = .ok v) : getAll now d l = .ok l := by
  simpa using getAll_map (f := id) h

theorem convert_ne_nil {inp : Inp} (h : inp.isEmptyInput = false) : convertValueInput inp ≠ [] := by
  unfold convertValueInput
  repeat' split
  all_goals simp_all [Inp.isEmptyInput, splitOn_ne_nil]

theorem setValues_cases (now : DateTime) (s : PropState) (inp : Inp) :
    inp.isEmptyInput = true ∧ setValues now s inp = ({ s with values := [] }, .ok) ∨
    setValues now s inp = (s, .raised .value) ∨
    ∃ v0 rest ws, convertValueInput inp = v0 :: rest ∧
      getAll now (inferIfNone s.dtype v0)
        (importIfNeeded now (inferIfNone s.dtype v0) (v0 :: rest)) = .ok ws ∧
      setValues now s inp = ({ values := ws, dtype := inferIfNone s.dtype v0 }, .ok) := by
  unfold setValues
  split
  · exact Or.inl ⟨‹_›, rfl⟩
  · cases hnv : convertValueInput inp with
    | nil => exact absurd hnv (convert_ne_nil (by simpa using ‹¬inp.isEmptyInput = true›))
    | cons v0 rest =>
      by_cases hval : validate now (inferIfNone s.dtype v0)
          (importIfNeeded now (inferIfNone s.dtype v0) (v0 :: rest)) = true
      · obtain ⟨ws, hws⟩ := validate_getAll hval
        refine Or.inr (Or.inr ⟨v0, rest, ws, rfl, hws, ?_⟩)
        simp only [hval, hws, Bool.not_true, Bool.false_eq_true, ↓reduceIte]
      · refine Or.inr (Or.inl ?_)
        simp only [hval, Bool.not_false, ↓reduceIte]

theorem mem_removeFirst {x v : Elem} : ∀ {l : List Elem}, v ∈ removeFirst x l → v ∈ l := by
  intro l
  induction l with
  | nil => intro h; cases h
  | cons w ws ih =>
    intro h
    unfold removeFirst at h
    split at h
    · exact List.mem_cons_of_mem _ h
    · rcases List.mem_cons.mp h with rfl | h
      · exact List.mem_cons_self
      · exact List.mem_cons_of_mem _ (ih h)

theorem mem_pyInsert {l : List Elem} {i : Int} {x v : Elem} (h : v ∈ pyInsert l i x) :
    v ∈ l ∨ v = x := by
  unfold pyInsert at h
  simp only [List.mem_append, List.mem_singleton] at h
  rcases h with (h | h) | h
  · exact Or.inl (List.mem_of_mem_take h)
  · exact Or.inr h
  · exact Or.inl (List.mem_of_mem_drop h)

theorem conf_of_values {s : PropState} {vals : List Elem} (hs : ConformsW s)
    (hne : s.dtype ≠ none) (h : ∀ v ∈ vals, v ∈ s.values ∨ HasClassW (clsOf s.dtype) v) :
    ConformsW { s with values := vals } :=
  ⟨hs.1, fun hc => absurd hc hne, fun v hv => (h v hv).elim (hs.2.2 v) id⟩

theorem strGet_str (s : List Char) : strGet (.atom (.str s)) = .atom (.str s) := by
  unfold strGet
  by_cases h : s.isEmpty = true
  · have : s = [] := by simpa using h
    subst this; rfl
  · simp [Elem.isBlank, h, sAtom, Elem.pyStr, Atom.pyStr]

theorem booleanGet_bool (b : Bool) : booleanGet (.atom (.bool b)) = .ok (.atom (.bool b)) := by
  cases b <;> rfl

theorem timeGet_time {now : DateTime} {t : Time} (hv : t.valid = true) (hus : t.us = 0) :
    timeGet now (.atom (.time t)) = .ok (.atom (.time t)) := by
  simp only [timeGet, noneOrEmpty, Bool.false_eq_true, ↓reduceIte, parseTime_hms hv]
  cases t; simp at hus; simp [hus]

theorem dateGet_date {now : DateTime} {d : Date} (hv : d.valid = true) :
    dateGet now (.atom (.date d)) = .ok (.atom (.date d)) := by
  simp only [dateGet, noneOrEmpty, Bool.false_eq_true, ↓reduceIte, parseDate_iso hv]

theorem datetimeGet_datetime {now : DateTime} {x : DateTime} (hus : x.time.us = 0) :
    datetimeGet now (.atom (.datetime x)) = .ok (.atom (.datetime x)) := by
  simp only [datetimeGet, noneOrEmpty, Bool.false_eq_true, ↓reduceIte]
  cases x with
  | mk d t => cases t; simp at hus; simp [hus]

/-- the values of the scalar classes, case by case -/
inductive Scalar : Cls → Elem → Prop
  | int (i : Int) : Scalar .int (.atom (.int i))
  | float (f : Flt) : Scalar .float (.atom (.float f))
  | bool (b : Bool) : Scalar .bool (.atom (.bool b))
  | str (s : List Char) : Scalar .str (.atom (.str s))
  | date (d : Date) (hv : d.valid = true) : Scalar .date (.atom (.date d))
  | time (t : Time) (hv : t.valid = true) (hus : t.us = 0) : Scalar .time (.atom (.time t))
  | datetime (x : DateTime) (hus : x.time.us = 0) : Scalar .datetime (.atom (.datetime x))

theorem HasClass.scalar {c : Cls} {v : Elem} (h : HasClass c v) (hnt : ∀ n, c ≠ .tuple n)
    (hna : c ≠ .any) : Scalar c v := by
  unfold HasClass at h
  split at h
  · exact .int _
  · exact .float _
  · exact .bool _
  · exact .str _
  · exact .date _ h
  · exact .time _ h.1 h.2
  · exact .datetime _ h
  · exact absurd rfl (hnt _)
  · exact absurd rfl hna
  · exact h.elim

theorem convOf_fixpoint {now : DateTime} {c : Cls} {v : Elem} (h : Scalar c v) :
    convOf now c v = .ok v := by
  cases h with
  | int i => rfl
  | float f => rfl
  | bool b => exact booleanGet_bool b
  | str s => exact congrArg _ (strGet_str s)
  | date d hv => exact dateGet_date hv
  | time t hv hus => exact timeGet_time hv hus
  | datetime x hus => exact datetimeGet_datetime hus

theorem get_fixpoint {now : DateTime} {v : Elem} {dtype : DType}
    (h : HasClass (clsOf dtype) v) (hnt : ∀ n, clsOf dtype ≠ .tuple n) (hna : clsOf dtype ≠ .any) :
    get now v dtype = .ok v := by
  rw [get_eq_conv hna]; exact convOf_fixpoint (h.scalar hnt hna)

theorem setValues_self_of {now : DateTime} {s : PropState} (hd : s.dtype = none → s.values = [])
    (h : getAll now s.dtype (importIfNeeded now s.dtype s.values) = .ok s.values) :
    setValues now s (.seq false s.values) = (s, .ok) := by
  obtain ⟨vals, dt⟩ := s
  cases vals with
  | nil => rfl
  | cons v0 rest =>
    have hinf : inferIfNone dt v0 = dt := by
      cases dt with
      | none => cases hd rfl
      | some d => rfl
    simp only [setValues, Inp.isEmptyInput, List.isEmpty_cons, Bool.false_eq_true, ↓reduceIte,
      convertValueInput, hinf, h, getAll_validate h, Bool.not_true]

theorem setValues_dtype {now : DateTime} {s : PropState} {inp : Inp} (hne : s.dtype ≠ none) :
    (setValues now s inp).1.dtype = s.dtype := by
  rcases setValues_cases now s inp with ⟨-, hc⟩ | hc | ⟨v0, _, _, _, _, hc⟩ <;> rw [hc]
  cases hd : s.dtype with
  | none => exact absurd hd hne
  | some d => rfl

theorem setValues_ok_length {now : DateTime} {s : PropState} {l : List Elem}
    (h : (setValues now s (.seq false l)).2 = .ok)
    (hraw : isTupleRaw (setValues now s (.seq false l)).1.dtype = false) :
    (setValues now s (.seq false l)).1.values.length = l.length := by
  rcases setValues_cases now s (.seq false l) with ⟨he, hc⟩ | hc | ⟨v0, rest, ws, hl, hws, hc⟩
  · rw [hc]
    have : l = [] := by simpa [Inp.isEmptyInput] using he
    rw [this]
  · rw [hc] at h; cases h
  · rw [hc] at hraw ⊢
    have := getAll_length hws
    rw [importIfNeeded, show isTupleRaw (inferIfNone s.dtype v0) = false from hraw] at this
    exact this.trans (congrArg List.length hl.symm)

theorem tupleImport_ne_nil {n : Nat} {vals : List Elem} (h : vals ≠ []) : tupleImport n vals ≠ [] := by
  unfold tupleImport
  simp only
  split
  · exact h
  · rename_i hr
    intro hc; simp [hc] at hr

theorem importAlways_ne_nil {d : List Char} {vals : List Elem} (h : vals ≠ []) :
    importAlways d vals ≠ [] := by
  unfold importAlways
  split
  · exact tupleImport_ne_nil h
  · exact h

theorem parseInt_intToStr (i : Int) : parseInt (intToStr i) = some i := by
  cases i with
  | ofNat n =>
    obtain ⟨c, cs, hcs, -⟩ := natToDigits_cons n
    show parseInt (natToDigits n) = _
    rw [hcs, parseInt_digits (hcs ▸ natToDigits_all_digit n), ← hcs, natOfDigits_natToDigits]
    rfl
  | negSucc n =>
    obtain ⟨c, cs, hcs, hc⟩ := natToDigits_cons (n + 1)
    have hall := natToDigits_all_digit (n + 1)
    unfold parseInt intToStr
    simp only [strip_neg_digits (natToDigits_ne_nil (n + 1)) hall]
    rw [hcs] at hall
    have hss : signSplit ('-' :: natToDigits (n + 1)) = (true, natToDigits (n + 1)) := rfl
    rw [hss]
    simp only [hcs, digitGroup_false_digits hall]
    rw [← hcs, natOfDigits_natToDigits]
    simp [Int.negSucc_eq]

theorem intGet_text (i : Int) : intGet (sAtom (intToStr i)) = .ok (.atom (.int i)) := by
  have hne : (intToStr i).isEmpty = false := by
    cases i with
    | ofNat n => simp [intToStr, natToDigits_ne_nil]
    | negSucc n => simp [intToStr]
  simp [intGet, sAtom, noneOrEmpty, hne, parseInt_intToStr]

/-- the `_set` function of a class (`str_set` where dtypes.py has none) -/
def setFn (now : DateTime) : Cls → Elem → R Elem
  | .time, w => timeGet now w
  | .date, w => dateGet now w
  | .datetime, w => datetimeGet now w
  | .bool, w => booleanGet w
  | _, w => .ok (strGet w)

/-- what `dtypes.set` does for a scalar class: a `str` is passed through `str_set` -/
def setOf (now : DateTime) (c : Cls) (v : Elem) : R Elem :=
  match v with
  | .atom (.str _) => .ok (strGet v)
  | _ => setFn now c v

theorem setOf_str {now : DateTime} (v : Elem) : setOf now .str v = .ok (strGet v) := by
  unfold setOf; split <;> rfl

/-- as `get_eq_conv`, but `setScalar` looks at the value first (a `str` goes to `str_set`), and the
    names `int` and `float`, which have no `_set` function, fall through `convSet` to `str_set` -/
theorem set_eq_conv {now : DateTime} {dtype : DType} (hnt : ∀ n, clsOf dtype ≠ .tuple n)
    (hna : clsOf dtype ≠ .any) (v : Elem) : set now v dtype = setOf now (clsOf dtype) v := by
  let Q (c : Cls) (x : R Elem) : Prop := (∀ n, c ≠ .tuple n) → c ≠ .any → x = setOf now c v
  have eq {c x} (h : x = setOf now c v) : Q c x := fun _ _ => h
  suffices Q (clsOf dtype) (set now v dtype) from this hnt hna
  cases dtype with
  | none => exact eq (setOf_str v).symm
  | some d0 =>
    unfold set clsOf clsOfNorm
    refine ite_rel Q (eq (setOf_str v).symm) <| ite_rel Q ?_ ?_
    · cases parseInt ((normDtype d0).take ((normDtype d0).length - 6))
      · exact fun _ h => absurd rfl h
      · exact fun h _ => absurd rfl (h _)
    · generalize normDtype d0 = d
      let Q' (c : Cls) (x : R Elem) : Prop := c ≠ .any → x = setFn now c v
      have eq' {c x} (h : x = setFn now c v) : Q' c x := fun _ => h
      intro _ hna
      unfold setScalar setOf
      congr; funext _
      revert hna
      by_cases h1 : (d == "int".toList) = true
      · rw [if_pos h1, eq_of_beq h1]; exact eq' rfl
      by_cases h2 : (d == "float".toList) = true
      · rw [if_neg h1, if_pos h2, eq_of_beq h2]; exact eq' rfl
      rw [if_neg h1, if_neg h2]
      unfold convSet
      exact ite_rel Q' (eq' rfl) <| ite_rel Q' (eq' rfl) <| ite_rel Q' (eq' rfl) <|
        ite_rel Q' (eq' rfl) <| ite_rel Q' (fun h => absurd rfl h) (eq' rfl)

theorem floatGet_repr {f : Flt} (hf : parseFloat f.repr = some f) :
    floatGet (sAtom f.repr) = .ok (.atom (.float f)) := by
  have hne : f.repr.isEmpty = false := by
    cases hr : f.repr with
    | nil =>
      rw [hr] at hf
      simp [parseFloat, strip, rstrip, lstrip, signSplit, lower, spanUntil] at hf
    | cons c cs => rfl
  simp [floatGet, sAtom, noneOrEmpty, hne, hf]

theorem setOf_convOf {now : DateTime} {c : Cls} {v : Elem} (h : Scalar c v)
    (hf : ∀ f, v = .atom (.float f) → parseFloat f.repr = some f) :
    ∃ t, setOf now c v = .ok t ∧ convOf now c t = .ok v := by
  -- apart from `int` and `float`, which are written with `str()`, `set` converts as `get` does
  have hfix := convOf_fixpoint (now := now) h
  cases h with
  | int i => exact ⟨_, rfl, intGet_text i⟩
  | float f => exact ⟨_, rfl, floatGet_repr (hf f rfl)⟩
  | _ => exact ⟨_, hfix, hfix⟩

theorem convOf_pyStr {now : DateTime} {c : Cls} {v : Elem} (h : Scalar c v) (hnf : c ≠ .float)
    (hdt : ∀ x, v = .atom (.datetime x) → x.valid = true) :
    convOf now c (sAtom v.pyStr) = .ok v := by
  cases h with
  | int i => exact intGet_text i
  | float f => exact absurd rfl hnf
  | bool b => cases b <;> rfl
  | str s => simp [convOf, sAtom, Elem.pyStr, Atom.pyStr, strGet_str]
  | date d hv =>
    simp [convOf, dateGet, sAtom, Elem.pyStr, Atom.pyStr, noneOrEmpty, parseDate_iso hv,
      show d.iso.isEmpty = false by simp [Date.iso, pad4]]
  | time t hv hus =>
    have : t.iso = t.hms := by simp [Time.iso, hus]
    simp only [convOf, timeGet, sAtom, Elem.pyStr, Atom.pyStr, noneOrEmpty, this,
      show t.hms.isEmpty = false by simp [Time.hms, pad2],
      Bool.false_eq_true, ↓reduceIte, parseTime_hms hv]
    cases t; simp at hus; simp [hus]
  | datetime x hus =>
    have hne : x.str.isEmpty = false := by simp [DateTime.str, Date.iso, pad4]
    simp [convOf, datetimeGet, sAtom, Elem.pyStr, Atom.pyStr, noneOrEmpty, hne,
      parseDateTime_str (hdt x rfl) hus]

/-- `'; '.join` of `s :: ss`: the separator `odml_tuple_import` writes (`joinSemi` has no blank) -/
def joinSS (s : List Char) (ss : List (List Char)) : List Char :=
  joinSep ';' (s :: ss.map (' ' :: ·))

theorem flatten_semi_eq_joinSS : ∀ (s : List Char) (ss : List (List Char)),
    ((s :: ss).map (fun x => x ++ [';', ' '])).flatten = joinSS s ss ++ [';', ' '] := by
  intro s ss
  induction ss generalizing s with
  | nil => simp [joinSS, joinSep]
  | cons q r ih =>
    simp only [List.map_cons, List.flatten_cons, joinSS] at ih ⊢
    rw [ih q]
    simp [joinSep, joinSep_cons_head]

theorem tupleText_eq (s : List Char) (ss : List (List Char)) :
    tupleText ((s :: ss).map Atom.str) = ['('] ++ joinSS s ss ++ [')'] := by
  unfold tupleText
  have h1 : ((s :: ss).map Atom.str).map (fun a => a.pyStr ++ [';', ' ']) =
      (s :: ss).map (fun x => x ++ [';', ' ']) := by
    rw [List.map_map]; rfl
  simp only [h1, flatten_semi_eq_joinSS]
  have : (joinSS s ss ++ [';', ' ']).length - 2 = (joinSS s ss).length := by simp
  rw [this, List.take_left']
  rfl

theorem split_joinSS (p : List Char) (ps : List (List Char))
    (hp : ∀ c ∈ p, (c == ';') = false) (hps : ∀ q ∈ ps, ∀ c ∈ q, (c == ';') = false) :
    (splitOn ';' (joinSS p ps)).map strip = (p :: ps).map strip := by
  rw [joinSS, splitOn_joinSep ';' _ (by simp)]
  · simp [strip_space_cons, Function.comp_def]
  · intro a ha c hc
    rcases List.mem_cons.mp ha with rfl | ha
    · exact hp c hc
    · obtain ⟨q, hq, rfl⟩ := List.mem_map.mp ha
      rcases List.mem_cons.mp hc with rfl | hc
      · decide
      · exact hps q hq c hc

/-- the text `odml_tuple_import` builds from a stored n-tuple is parsed back to the same list -/
theorem tupleGet_tupleText (s : List Char) (ss : List (List Char))
    (h : ∀ x ∈ s :: ss, Stripped x) :
    tupleGet (sAtom (tupleText ((s :: ss).map Atom.str))) (some ((s :: ss).length : Int)) =
      .ok (.seq false ((s :: ss).map Atom.str)) := by
  rw [tupleText_eq]
  have hsp1 : isSpace '(' = false := by decide
  have hsp2 : isSpace ')' = false := by decide
  have hstrip : strip (['('] ++ joinSS s ss ++ [')']) = '(' :: (joinSS s ss ++ [')']) := by
    have := strip_ends (joinSS s ss) hsp1 hsp2
    simpa using this
  have hmap : (splitOn ';' (joinSS s ss)).map strip = s :: ss := by
    rw [split_joinSS s ss (h s (by simp)).2 (fun q hq => (h q (by simp [hq])).2)]
    exact (List.map_congr_left fun x hx => (h x hx).1).trans (List.map_id' _)
  have hlast : ('(' :: (joinSS s ss ++ [')'])).getLast? = some ')' := by
    rw [← List.cons_append, List.getLast?_append]
    simp
  have htr : (Elem.atom (Atom.str (['('] ++ joinSS s ss ++ [')']))).truthy = true := by
    simp [Elem.truthy, Atom.truthy]
  unfold tupleGet
  simp only [sAtom, htr, Bool.not_true, Bool.false_eq_true, ↓reduceIte, hstrip, hlast]
  simp [slice1m1, hmap]

/-- a value as an n-tuple Property stores it: a non-empty list of `n` stripped strings, or `None` -/
def GoodT (n : Int) (v : Elem) : Prop :=
  v = .atom .none ∨ ∃ s ss, v = .seq false ((s :: ss).map Atom.str) ∧
    (((s :: ss).length : Nat) : Int) = n ∧ ∀ x ∈ s :: ss, Stripped x

/-- what `odml_tuple_import` makes of such a value -/
def reimport : Elem → Elem
  | .seq _ xs => sAtom (tupleText xs)
  | v => v

theorem importStep_good {n : Nat} {b : Bool} {acc : List Elem} {v : Elem} (h : GoodT n v) :
    importStep n b acc v = acc ++ [reimport v] := by
  rcases h with rfl | ⟨s, ss, rfl, hl, _⟩
  · rfl
  · have : ss.length + 1 = n := by
      have := hl; simp only [List.length_cons] at this; exact_mod_cast this
    simp [importStep, reimport, this]

theorem foldl_import_good {n : Nat} {b : Bool} : ∀ (vals acc : List Elem),
    (∀ v ∈ vals, GoodT n v) → vals.foldl (importStep n b) acc = acc ++ vals.map reimport := by
  intro vals
  induction vals with
  | nil => intro acc _; simp
  | cons v vs ih =>
    intro acc h
    simp only [List.foldl_cons, importStep_good (h v (by simp)), List.map_cons]
    rw [ih _ (fun w hw => h w (by simp [hw]))]
    simp

theorem tupleImport_good {n : Nat} {vals : List Elem} (h : ∀ v ∈ vals, GoodT n v) :
    tupleImport n vals = vals.map reimport := by
  unfold tupleImport
  simp only [foldl_import_good vals [] h, List.nil_append]
  split
  · rename_i he
    have : vals = [] := by simpa using he
    subst this; rfl
  · rfl

theorem get_tuple {now : DateTime} {d : List Char} {n : Int} (h : clsOf (some d) = .tuple n)
    (w : Elem) : get now w (some d) = tupleGet w (some n) := by
  rw [get_eq_conv (by simp [h]), h]; rfl

theorem get_reimport {now : DateTime} {d : List Char} {n : Int} (h : clsOf (some d) = .tuple n)
    {v : Elem} (hv : GoodT n v) : get now (reimport v) (some d) = .ok v := by
  rw [get_tuple h]
  rcases hv with rfl | ⟨s, ss, rfl, hl, hst⟩
  · rfl
  · simp only [reimport]
    rw [← hl]
    exact tupleGet_tupleText s ss hst

theorem get_good {now : DateTime} {d : List Char} {n : Int} (h : clsOf (some d) = .tuple n)
    {v w : Elem} (hv : GoodT n v) (hg : get now v (some d) = .ok w) : w = v := by
  rw [get_tuple h] at hg
  rcases hv with rfl | ⟨s, ss, rfl, hl, hst⟩
  · simp [tupleGet, Elem.truthy, Atom.truthy] at hg; exact hg.symm
  · simp [tupleGet, Elem.truthy] at hg

theorem items_strs : ∀ {xs : List Atom}, (∀ a ∈ xs, TupleItem a) →
    ∃ l : List (List Char), xs = l.map Atom.str ∧ ∀ x ∈ l, Stripped x := by
  intro xs
  induction xs with
  | nil => intro _; exact ⟨[], rfl, fun x hx => by cases hx⟩
  | cons a as ih =>
    intro h
    obtain ⟨s, rfl, hs⟩ := h a (by simp)
    obtain ⟨l, rfl, hl⟩ := ih (fun b hb => h b (by simp [hb]))
    refine ⟨s :: l, rfl, ?_⟩
    intro x hx
    rcases List.mem_cons.mp hx with rfl | hx
    · exact hs
    · exact hl x hx

theorem hasClassW_goodT {n : Int} {v : Elem} (h : HasClassW (.tuple n) v) : GoodT n v := by
  rcases h with h | ⟨_, rfl⟩
  · cases v with
    | atom a => cases a <;> simp [HasClass] at h
    | seq t xs =>
      cases t with
      | true => simp [HasClass] at h
      | false =>
        simp only [HasClass] at h
        obtain ⟨hlen, hne, hi⟩ := h
        obtain ⟨l, rfl, hl⟩ := items_strs hi
        cases l with
        | nil => simp at hne
        | cons s ss =>
          refine Or.inr ⟨s, ss, rfl, ?_, hl⟩
          simpa using hlen
  · exact Or.inl rfl

/-- the raw spelling of a stored n-tuple dtype is the one property.py looks at -/
def TupleOK (dt : DType) : Prop :=
  ∀ d n, dt = some d → clsOf (some d) = .tuple n →
    endsWithTuple d = true ∧ ((rawCount d : Nat) : Int) = n

theorem mapShorthand_cases (x : List Char) :
    mapShorthand x = x ∨ mapShorthand x = "string".toList ∨ mapShorthand x = "boolean".toList := by
  unfold mapShorthand
  simp only [Gen.DTypes.dtypeMap, List.find?]
  split
  · rename_i p hp
    split at hp
    · cases hp; exact Or.inr (Or.inl rfl)
    · split at hp
      · cases hp; exact Or.inr (Or.inr rfl)
      · cases hp
  · exact Or.inl rfl

/-- the classes with a converter of their own -/
def Cls.isScalar : Cls → Bool
  | .tuple _ => false
  | .any => false
  | _ => true

theorem validType_str {d : List Char} :
    validType (.str d) = true ↔ isMember (normDtype d) = true ∨ isTupleName (normDtype d) = true := by
  simp [validType]

theorem isMember_iff_mem {d : List Char} :
    isMember d = true ↔ d ∈ Gen.DTypes.members.map (·.1.toList) := by
  simp [isMember, List.mem_map]

theorem members_scalar :
    ∀ p ∈ Gen.DTypes.members, (clsOfNorm p.1.toList).isScalar = true := by decide +kernel

theorem member_scalar {d : List Char} (h : isMember d = true) : (clsOfNorm d).isScalar = true := by
  obtain ⟨p, hp, hd⟩ := List.any_eq_true.mp h
  rw [← eq_of_beq hd]; exact members_scalar p hp

/-- `infer_dtype` only looks at the type name and at "has a newline" -/
def inferCore (tn : List Char) (nl : Bool) : List Char :=
  let name := mapShorthand tn
  if validType (.str name) then
    if name == "string".toList && nl then "text".toList else name
  else "string".toList

def typeNames : List (List Char) := ["NoneType".toList, "bool".toList, "int".toList,
    "float".toList, "str".toList, "date".toList, "time".toList, "datetime".toList, "dict".toList,
    "tuple".toList, "list".toList]

theorem typeName_mem (v : Elem) : v.typeName ∈ typeNames := by
  cases v with
  | atom a =>
    cases a <;> dsimp only [Elem.typeName, Atom.typeName] <;>
      simp only [typeNames, List.mem_cons, true_or, or_true]
  | seq t xs =>
    cases t <;> dsimp only [Elem.typeName] <;>
      simp only [typeNames, List.mem_cons, true_or, or_true, Bool.false_eq_true, if_true, if_false]

/-- `infer_dtype` never answers with an n-tuple name -/
theorem inferCore_scalar : ∀ tn ∈ typeNames, ∀ nl : Bool,
    (clsOf (some (inferCore tn nl))).isScalar = true := by decide +kernel

theorem infer_scalar (v : Elem) : (clsOf (some (inferDtype v))).isScalar = true :=
  inferCore_scalar v.typeName (typeName_mem v) (hasNewline v)

/-- for a name `<digits>-tuple` the count `dtypes.get` parses (`int(dtype[:-6])`) is the one
    property.py reads (`int(dtype.split("-")[0])`) -/
theorem isTupleName_cls {d : List Char} (h : isTupleName d = true) :
    endsWithTuple d = true ∧ clsOfNorm d = .tuple (rawCount d) := by
  unfold isTupleName at h
  simp only [Bool.and_eq_true] at h
  obtain ⟨he, hd⟩ := h
  refine ⟨he, ?_⟩
  unfold clsOfNorm rawCount
  rw [if_pos he]
  cases hp : d.take (d.length - 6) with
  | nil => simp [hp] at hd
  | cons c cs =>
    simp only [hp, Bool.and_eq_true] at hd
    have hall : (c :: cs).all Char.isDigit = true := by
      simp only [List.all_cons, Bool.and_eq_true]; exact ⟨hd.1.1, hd.2⟩
    have hsplit := List.take_append_drop (d.length - 6) d
    rw [hp, show d.drop (d.length - 6) = '-' :: ['t', 'u', 'p', 'l', 'e'] by
      simpa [endsWithTuple, tupleSuffix] using he] at hsplit
    rw [← hsplit, takeWhile_digits_dash _ _ hall, parseInt_digits hall]

theorem tupleOK_toDType {d : DtIn} (hv : validType d = true) : TupleOK d.toDType := by
  intro x n hx hcls
  cases d with
  | none => cases hx
  | other => cases hx
  | str s =>
    cases hx
    simp only [clsOf] at hcls
    split at hcls
    · cases hcls
    rw [normDtype_lower] at hcls
    rcases validType_str.mp hv with hm | ht
    · have := member_scalar hm
      rw [hcls] at this; cases this
    · obtain ⟨he, hc⟩ := isTupleName_cls ht
      -- a shorthand does not end in `-tuple`, so the stored spelling is the normalised one
      have hmap : normDtype s = lower s := by
        rcases mapShorthand_cases (lower s) with h | h | h
        · exact h
        · rw [normDtype, h] at he; cases he
        · rw [normDtype, h] at he; cases he
      rw [hc, hmap] at hcls
      exact ⟨hmap ▸ he, Cls.tuple.inj hcls⟩

theorem tupleOK_inferIfNone {dt : DType} (h : TupleOK dt) (v0 : Elem) :
    TupleOK (inferIfNone dt v0) := by
  cases dt with
  | none =>
    intro x n hx hcls
    simp only [inferIfNone, Option.some.injEq] at hx
    subst hx
    have := infer_scalar v0
    rw [hcls] at this; cases this
  | some d => exact h

theorem valid_not_any {dt : DType} (h : validDType dt = true) : clsOf dt ≠ .any := by
  cases dt with
  | none => simp [clsOf]
  | some d =>
    simp only [clsOf]
    split
    · simp
    rcases validType_str.mp h with hm | ht
    · intro hc
      have := member_scalar hm
      rw [hc] at this; cases this
    · rw [(isTupleName_cls ht).2]; simp

theorem setValues_self {now : DateTime} {s : PropState} (hs : Conforms s)
    (hnt : ∀ n, clsOf s.dtype ≠ .tuple n) (hna : clsOf s.dtype ≠ .any) :
    setValues now s (.seq false s.values) = (s, .ok) := by
  have hall : getAll now s.dtype s.values = .ok s.values :=
    getAll_self fun v hm => get_fixpoint (hs.2.2 v hm) hnt hna
  refine setValues_self_of hs.2.1 ?_
  rwa [importIfNeeded, getAll_validate hall, Bool.not_true, Bool.and_false, if_neg (by simp)]

theorem setValues_self_tuple {now : DateTime} {s : PropState} {n : Int} (hs : ConformsW s)
    (hcls : clsOf s.dtype = .tuple n) (hok : TupleOK s.dtype) :
    setValues now s (.seq false s.values) = (s, .ok) := by
  cases hd : s.dtype with
  | none => rw [hd] at hcls; cases hcls
  | some d =>
    rw [hd] at hcls
    obtain ⟨hraw, hcnt⟩ := hok d n hd hcls
    have hgood : ∀ v ∈ s.values, GoodT n v := fun v hv =>
      hasClassW_goodT (by have := hs.2.2 v hv; rwa [hd, hcls] at this)
    refine setValues_self_of (fun hc => by simp [hd] at hc) ?_
    rw [hd]
    unfold importIfNeeded
    by_cases hval : validate now (some d) s.values = true
    · simp only [hval, Bool.not_true, Bool.and_false, Bool.false_eq_true, ↓reduceIte]
      refine getAll_self fun v hm => ?_
      obtain ⟨w, hw⟩ := isOk_iff.mp (List.all_eq_true.mp hval v hm)
      rw [hw, get_good hcls (hgood v hm) hw]
    · simp only [isTupleRaw, hraw, hval, Bool.not_false, Bool.and_self, ↓reduceIte, countOf]
      rw [tupleImport_good (hcnt ▸ hgood)]
      exact getAll_map fun v hm => get_reimport hcls (hgood v hm)

/-- Both invariants together make `p.values = p.values` change nothing, whatever the dtype. -/
theorem setValues_self_inv {now : DateTime} {s : PropState} (hs : ConformsW s)
    (hok : TupleOK s.dtype) : setValues now s (.seq false s.values) = (s, .ok) := by
  by_cases ht : ∃ n, clsOf s.dtype = .tuple n
  · exact setValues_self_tuple hs ht.choose_spec hok
  · have hnt : ∀ n, clsOf s.dtype ≠ .tuple n := fun n hc => ht ⟨n, hc⟩
    exact setValues_self ⟨hs.1, hs.2.1, fun v hv =>
      (hs.2.2 v hv).elim id fun h => absurd h.1.choose_spec (hnt _)⟩ hnt (valid_not_any hs.1)

/-- a call on `s` with result `r`: a refusal changes nothing, both invariants are kept, a conforming
    state raises only exceptions in `A` -/
structure Sound (now : DateTime) (A : Exc → Prop) (s : PropState) (r : PropState × Outcome) :
    Prop where
  raised : ∀ {e}, r.2 = .raised e → r.1 = s
  conf : now.valid = true → ConformsW s → ConformsW r.1
  tupleOK : TupleOK s.dtype → TupleOK r.1.dtype
  exc : ConformsW s → ∀ {e}, r.2 = .raised e → A e

namespace Sound
variable {now : DateTime} {A B : Exc → Prop} {s s' : PropState} {r : PropState × Outcome}

theorem same (o : Outcome) (ho : ConformsW s → ∀ {e}, o = .raised e → A e) :
    Sound now A s (s, o) :=
  ⟨fun _ => rfl, fun _ h => h, id, ho⟩

theorem skip : Sound now A s (s, .ok) := same _ (fun _ _ h => (nomatch h))

theorem refuse {e : Exc} (h : A e) : Sound now A s (s, .raised e) :=
  same _ (fun _ _ h' => Outcome.raised.inj h' ▸ h)

theorem unreachable (o : Outcome) (h : ¬ ConformsW s) : Sound now A s (s, o) :=
  same _ (fun hs => absurd hs h)

theorem ok (hc : now.valid = true → ConformsW s → ConformsW s')
    (ht : TupleOK s.dtype → TupleOK s'.dtype) : Sound now A s (s', .ok) :=
  ⟨fun h => (nomatch h), hc, ht, fun _ _ h => (nomatch h)⟩

theorem mono (h : ∀ e, A e → B e) (hr : Sound now A s r) : Sound now B s r :=
  ⟨hr.raised, hr.conf, hr.tupleOK, fun hs _ he => h _ (hr.exc hs he)⟩

end Sound

theorem conformsW_getAll {now : DateTime} (hn : now.valid = true) {dt : DType} {v0 : Elem}
    {nv ws : List Elem} (hd : validDType dt = true)
    (hws : getAll now (inferIfNone dt v0) nv = .ok ws) :
    ConformsW { values := ws, dtype := inferIfNone dt v0 } :=
  ⟨inferIfNone_valid hd v0, fun hc => absurd hc (inferIfNone_some _ _), getAll_cls hn hws⟩

theorem setValues_sound {now : DateTime} {s : PropState} {inp : Inp} :
    Sound now (· = .value) s (setValues now s inp) := by
  rcases setValues_cases now s inp with ⟨-, h⟩ | h | ⟨v0, _, ws, _, hws, h⟩ <;> rw [h]
  · exact .ok (fun _ hs => ⟨hs.1, fun _ => rfl, nofun⟩) id
  · exact .refuse rfl
  · exact .ok (fun hn hs => conformsW_getAll hn hs.1 hws) (tupleOK_inferIfNone · v0)

/-- also from a non-conforming state: the dtype setter relies on this -/
theorem setValues_ok {now : DateTime} (hn : now.valid = true) {s : PropState} {inp : Inp}
    (hd : validDType s.dtype = true) (h : (setValues now s inp).2 = .ok) :
    ConformsW (setValues now s inp).1 := by
  rcases setValues_cases now s inp with ⟨-, hc⟩ | hc | ⟨v0, _, ws, _, hws, hc⟩ <;> rw [hc] at h ⊢
  · exact ⟨hd, fun _ => rfl, nofun⟩
  · cases h
  · exact conformsW_getAll hn hd hws

theorem addCore_sound {now : DateTime} {s : PropState} {at? : Option Int} {d : List Char}
    {strict : Bool} {nv : List Elem} (hd : s.dtype = some d) (hne : nv ≠ []) :
    Sound now (· = .value) s (addCore now s at? d strict nv) := by
  cases nv with
  | nil => exact absurd rfl hne
  | cons v0 rest =>
    simp only [addCore]
    split
    · exact .refuse rfl
    split
    · exact .refuse rfl
    rename_i hval
    cases hg : get now v0 s.dtype with
    | error e => simp [validate, hg, isOk] at hval
    | ok w =>
      refine .ok (fun hn hs => conf_of_values hs (by simp [hd]) fun v hv => ?_) id
      have hw : HasClassW (clsOf s.dtype) w := get_cls hn hg
      cases at? with
      | none => exact (List.mem_append.mp hv).imp id fun h => (List.mem_singleton.mp h : v = w) ▸ hw
      | some i => exact (mem_pyInsert hv).imp id fun (h : v = w) => h ▸ hw

theorem addOne_sound {now : DateTime} {s : PropState} {at? : Option Int} {inp : Inp}
    {strict : Bool} : Sound now (· = .value) s (addOne now s at? inp strict) := by
  unfold addOne
  split
  · exact .skip
  split
  · exact setValues_sound
  split
  · exact .refuse rfl
  split
  · exact .skip
  rename_i h2 _ h4
  split
  · rename_i hd
    exact .unreachable _ fun hs => by simp [hs.2.1 hd] at h2
  · rename_i d hd
    exact addCore_sound hd (importAlways_ne_nil fun hc => by simp [hc] at h4)

theorem extend_sound {now : DateTime} {s : PropState} {inp : Inp} {strict : Bool} :
    Sound now (· = .value) s (extend now s inp strict) := by
  unfold extend
  split
  · exact setValues_sound
  rename_i h2
  split
  · rename_i hd
    exact .unreachable _ fun hs => by simp [hs.2.1 hd] at h2
  · rename_i d hd
    unfold extendCore
    split
    · exact .refuse rfl
    split
    · exact .refuse rfl
    rename_i hv
    obtain ⟨ws, hws⟩ := validate_getAll (by simpa using hv)
    simp only [hws]
    exact .ok (fun hn hs => conf_of_values hs (by simp [hd]) fun v hvm =>
      (List.mem_append.mp hvm).imp id (getAll_cls hn hws v)) id

theorem setItem_sound {now : DateTime} {s : PropState} {k : Int} {item : Elem} :
    Sound now (fun e => e = .value ∨ ((k < 0 ∨ k > s.values.length) ∧ e = .index)) s
      (setItem now s k item) := by
  unfold setItem
  split
  · rename_i hk
    exact .refuse (Or.inr ⟨by simpa using hk, rfl⟩)
  rename_i hk
  split
  · exact .refuse (Or.inl rfl)
  rename_i w hg
  split
  · exact .refuse (Or.inl rfl)
  rename_i hk2
  refine .ok (fun hn hs => conf_of_values hs (fun hc => ?_) fun v hv => ?_) id
  · simp [hs.2.1 hc] at hk hk2
    omega
  · exact (List.mem_or_eq_of_mem_set hv).imp id fun (h : v = w) => h ▸ get_cls hn hg

theorem setDtype_sound {now : DateTime} {s : PropState} {d : DtIn} :
    Sound now (fun e => e = .value ∨ (validType d = false ∧ e = .attr)) s (setDtype now s d) := by
  unfold setDtype
  split
  · rename_i hv
    exact .refuse (Or.inr ⟨by simpa using hv, rfl⟩)
  rename_i hv
  have hv : validType d = true := by simpa using hv
  have hset := setValues_sound (now := now) (s := { s with dtype := d.toDType })
    (inp := .seq false s.values)
  cases hr : (setValues now { s with dtype := d.toDType } (.seq false s.values)).2 with
  | raised e =>
    simp only [hr, hset.raised hr]
    exact .refuse (Or.inl rfl)
  | ok =>
    simp only [hr]
    rw [show setValues now { s with dtype := d.toDType } (.seq false s.values) =
      ((setValues now { s with dtype := d.toDType } (.seq false s.values)).1, .ok) from
      Prod.ext rfl hr]
    exact .ok (fun hn _ => setValues_ok hn (validDType_toDType hv) hr)
      (fun _ => hset.tupleOK (tupleOK_toDType hv))

theorem merge_sound {now : DateTime} {s : PropState} {ov : List Elem} {od : DType} {strict : Bool} :
    Sound now (· = .value) s (merge now s ov od strict) := by
  unfold merge
  split
  · exact .refuse rfl
  split
  · exact .refuse rfl
  exact extend_sound

theorem step_sound {now : DateTime} {s : PropState} {op : Op} :
    Sound now (fun e => e = .value ∨ (∃ d, op = .setDtype d ∧ validType d = false ∧ e = .attr) ∨
      (∃ k v, op = .setItem k v ∧ (k < 0 ∨ k > s.values.length) ∧ e = .index)) s
      (step now s op) := by
  cases op with
  | setValues v => exact setValues_sound.mono fun _ => Or.inl
  | setDtype d => exact setDtype_sound.mono fun _ h => h.imp id fun h => Or.inl ⟨d, rfl, h⟩
  | append v strict => exact addOne_sound.mono fun _ => Or.inl
  | insert i v strict => exact addOne_sound.mono fun _ => Or.inl
  | extend v strict => exact extend_sound.mono fun _ => Or.inl
  | extendProp vals su =>
    simp only [step]
    split
    · exact .refuse (Or.inl rfl)
    · exact extend_sound.mono fun _ => Or.inl
  | setItem k v => exact setItem_sound.mono fun _ h => h.imp id fun h => Or.inr ⟨k, v, rfl, h⟩
  | remove v =>
    simp only [step]
    split
    · exact .ok (fun _ hs => ⟨hs.1, fun hc => by simp [hs.2.1 hc, removeFirst],
        fun w hw => hs.2.2 w (mem_removeFirst hw)⟩) id
    · exact .skip
  | merge ov od strict => exact merge_sound.mono fun _ => Or.inl
  | clone =>
    simp only [step]
    cases hr : (setValues now s (.seq false s.values)).2 with
    | ok => exact setValues_sound.mono fun _ => Or.inl
    | raised e =>
      exact .same _ fun hs _ h => Outcome.raised.inj h ▸ Or.inl (setValues_sound.exc hs hr)

theorem ctor_inv {P : PropState → Prop} {now : DateTime} {d : DtIn} {values value : Inp}
    {s : PropState} (h0 : P { values := [], dtype := if validType d then d.toDType else none })
    (hset : ∀ s inp, P s → P (setValues now s inp).1) (h : ctor now d values value = .ok s) :
    P s := by
  unfold ctor at h
  simp only at h
  split at h
  · cases h
  · split at h
    · split at h
      · cases h
      · cases h; exact hset _ _ (hset _ _ h0)
    · cases h; exact hset _ _ h0

theorem run_inv {P : PropState → Prop} {now : DateTime} (hstep : ∀ s op, P s → P (step now s op).1)
    (ops : List Op) : ∀ s, P s → P (run now s ops) := by
  induction ops with
  | nil => exact fun _ h => h
  | cons op ops ih => exact fun s h => ih _ (hstep s op h)

theorem ctor_tupleOK {now : DateTime} {d : DtIn} {values value : Inp} {s : PropState}
    (h : ctor now d values value = .ok s) : TupleOK s.dtype := by
  refine ctor_inv (P := fun s => TupleOK s.dtype) ?_ (fun _ _ => setValues_sound.tupleOK) h
  split
  · exact tupleOK_toDType ‹_›
  · intro x n hx; cases hx

end DT
