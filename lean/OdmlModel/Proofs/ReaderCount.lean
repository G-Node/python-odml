/-
C16 — every object of a returned document is the result of one constructor call of its own: the
returned tree has no more objects than `callsTag` lists constructor calls (the calls the harness
replays on the real constructors).
-/
import OdmlModel.Proofs.ReaderWF

namespace Reader

mutual
def Obj.count : Obj ν → Nat
  | .mk _ _ _ ps ss => 1 + Obj.countList ps + Obj.countList ss
def Obj.countList : List (Obj ν) → Nat
  | [] => 0
  | o :: rest => Obj.count o + Obj.countList rest
end

theorem countList_append (a b : List (Obj ν)) :
    Obj.countList (a ++ b) = Obj.countList a + Obj.countList b := by
  induction a with
  | nil => simp [Obj.countList]
  | cons x xs ih => simp only [List.cons_append, Obj.countList, ih]; omega

theorem countList_kept_le (eq : ν → ν → Bool) (acc l : List (Obj ν)) :
    Obj.countList (kept eq acc l) ≤ Obj.countList acc + Obj.countList l := by
  induction l generalizing acc with
  | nil => simp [kept, Obj.countList]
  | cons c cs ih =>
    unfold kept
    split
    · have := ih acc
      simp only [Obj.countList]
      omega
    · have := ih (acc ++ [c])
      rw [countList_append] at this
      simp only [Obj.countList] at this ⊢
      omega

theorem countList_split_le (pk : Kind) (cs : List (Obj ν)) :
    Obj.countList (cs.filter (goesTo pk false)) + Obj.countList (cs.filter (goesTo pk true))
      ≤ Obj.countList cs := by
  induction cs with
  | nil => simp [Obj.countList]
  | cons c cs ih =>
    simp only [List.filter_cons]
    by_cases h1 : goesTo pk false c = true
    · have h2 : goesTo pk true c = false := by
        simp only [goesTo, beq_iff_eq] at h1
        simp [goesTo, h1]
      simp only [h1, h2, if_true, Bool.false_eq_true, if_false, Obj.countList]
      omega
    · by_cases h2 : goesTo pk true c = true
      · simp only [h1, h2, if_true, Bool.false_eq_true, if_false, Obj.countList]
        omega
      · simp only [h1, h2, Bool.false_eq_true, if_false, Obj.countList]
        omega

theorem count_keepValid_le (eq : ν → ν → Bool) (k : Kind) (n : Name ν) (b : Bool) (cs : List (Obj ν)) :
    Obj.count (keepValid eq (.mk k n b [] []) cs) ≤ 1 + Obj.countList cs := by
  simp only [keepValid, Obj.kind_mk, Obj.name_mk, Obj.made_mk, Obj.props_mk, Obj.secs_mk, Obj.count]
  have h1 := countList_kept_le eq [] (cs.filter (goesTo k false))
  have h2 := countList_kept_le eq [] (cs.filter (goesTo k true))
  have h3 := countList_split_le k cs
  simp only [Obj.countList] at h1 h2
  omega

theorem kidClass_object_iff (kind : Kind) (t : Str) (k' : Kind) :
    kidClass kind t = .object k' ↔
      (isArgKey kind t = true ∧ kindOfTag t = some k' ∧ inMapKeys kind t = true) := by
  unfold kidClass
  cases h1 : isArgKey kind t <;> cases h2 : kindOfTag t <;> cases h3 : inMapKeys kind t <;> simp

theorem callsKids_cons_elem (g : Guards) (env : Env) (kind : Kind) (t0 : Str) (attrs : List (Str × Str))
    (text : Option Str) (kids rest : List Xml) :
    callsKids g env kind (.elem t0 attrs text kids :: rest)
      = match kidClass kind (Py.lower t0) with
        | .object k' => callsTag g env k' (.elem t0 attrs text kids) ++ callsKids g env kind rest
        | _ => callsKids g env kind rest := by
  rw [callsKids]
  unfold kidClass
  cases h1 : isArgKey kind (Py.lower t0) <;> cases h2 : kindOfTag (Py.lower t0) <;>
    cases h3 : inMapKeys kind (Py.lower t0) <;> simp

theorem callsTag_length (g : Guards) (hg : g.XmlOk) (env : Env) (kind : Kind) (t : Str)
    (a : List (Str × Str)) (tx : Option Str) (ks : List Xml) :
    (callsTag g env kind (.elem t a tx ks)).length = (callsKids g env kind ks).length + 1 := by
  rw [callsTag, (parse_spec hg (env := env) (m := .lenient)).2 ks kind [] [] [] 0, outcome_lenient]
  simp

/-- **Every object constructed once**: the returned tree has at most as many objects as the read
    makes constructor calls `fmt.create(**arguments)` (one per object element of the input). -/
theorem denote_count_le_calls (g : Guards) (hg : g.XmlOk) (env : Env) (x : Xml) :
    ∀ (kind : Kind) (insert : Bool), (∃ t a tx ks, x = .elem t a tx ks) →
      Obj.count (denoteTag env kind insert x) ≤ (callsTag g env kind x).length := by
  revert x
  refine (Xml.induct (Q := fun ks => ∀ (kind : Kind),
    Obj.countList (denoteKids env kind ks) ≤ (callsKids g env kind ks).length) ?elem ?other ?nil ?cons).1
  case elem =>
    intro t a tx ks ih kind insert _
    rw [callsTag_length g hg]
    simp only [denoteTag, attach]
    obtain ⟨n, b, hc, _⟩ := created_shape env kind (specArgs env kind ks [])
    rw [hc]
    split
    · have h1 := count_keepValid_le (fun (a b : Str) => a == b) kind n b (denoteKids env kind ks)
      have h2 := ih kind
      omega
    · simp [Obj.count, Obj.countList]
  case other =>
    intro k kind insert ⟨t, a, tx, ks, h⟩
    cases h
  case nil =>
    intro kind
    exact Nat.le_refl 0
  case cons =>
    intro x rest ihx ihr kind
    cases x with
    | other k => exact ihr kind
    | elem t0 attrs text kids =>
      rw [callsKids_cons_elem]
      simp only [denoteKids]
      cases kidClass kind (Py.lower t0) with
      | object k' =>
        simp only [Obj.countList, List.length_append]
        have h1 := ihx k' (k' != .prop) ⟨_, _, _, _, rfl⟩
        have h2 := ihr kind
        omega
      | _ => exact ihr kind

end Reader
