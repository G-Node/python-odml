/-
C11: `export_leaf` and the complete frame lemma of `step`; runs of operations.
-/
import OdmlModel.Proofs.CloneStep
namespace Clone

/-- Everything allocated from `b` on (including what will be allocated later). -/
def Sn (b : H) : Reg := ⟨fun a => b.nN ≤ a, fun a => b.nV ≤ a, fun a => b.nT ≤ a⟩

theorem future_sn {b h : H} (m : Mono b h) : Future (Sn b) h :=
  ⟨fun _ ha => Nat.le_trans m.nN ha, fun _ ha => Nat.le_trans m.nV ha, fun _ ha => Nat.le_trans m.nT ha⟩

theorem st_sn_self (h : H) : St (Sn h) h :=
  ⟨⟨fun _ ha hl => absurd hl (Nat.not_lt.2 ha), fun _ ha hl => absurd hl (Nat.not_lt.2 ha)⟩,
   future_sn (Mono.refl h)⟩

theorem closed_rng_sn {h h' : H} (c : Closed h' (rng h h')) : Closed h' (Sn h) :=
  have le : (rng h h').le (Sn h) := ⟨fun _ ha => ha.1, fun _ ha => ha.1, fun _ ha => ha.1⟩
  ⟨fun a ha hl => (c.1 a ⟨ha, hl⟩ hl).mono le, fun a ha hl => (c.2 a ⟨ha, hl⟩ hl).mono le⟩

/-- A block of new locations whose references stay at or above the old sizes joins the region. -/
theorem good_ext' {R h h'} (s : St R h) (e : Ext h h') (c : Closed h' (Sn h)) : Good R h h' :=
  have le : (Sn h).le R := ⟨s.future.1, s.future.2.1, s.future.2.2⟩
  good_of_ext s e (fun a h1 h2 => (c.1 a h1 h2).mono le) (fun a h1 h2 => (c.2 a h1 h2).mono le)

/-- A block of new locations that is closed in itself joins the region. -/
theorem good_ext {R h h'} (s : St R h) (e : Ext h h') (c : Closed h' (rng h h')) : Good R h h' :=
  good_ext' s e (closed_rng_sn c)

theorem good_sn_ext {h h' : H} (g : Good (Sn h) h h') : Ext h h' ∧ Closed h' (Sn h) :=
  ⟨⟨g.mono, fun a ha => g.frame.1 a (Nat.not_le.2 ha), fun a ha => g.frame.2.1 a (Nat.not_le.2 ha),
    fun a ha => g.frame.2.2 a (Nat.not_le.2 ha)⟩, g.st.closed⟩

theorem good_attach {R h h'} (s : St R h) (c child : Nat) (hc : R.n c) (hch : R.n child)
    (ha : attach h c child = (h', none)) : Good R h h' := by
  rw [attach_ok ha]
  have g1 := good_setChildList s c ((h.node child).kind != .prop) (· ++ [child]) hc
    fun _ hl => forall_mem_snoc hl hch
  exact g1.trans (good_updN g1.st child _ hch fun hn => nodeIn_parent hn _ fun q hq => by cases hq; exact hc)

theorem Loop.good {R rec c h h'} (hrec : RecOk rec) (l : Loop rec c h h') (hc : R.n c) (s : St R h) :
    Good R h h' := by
  induction l with
  | done => exact Good.refl s
  | round hr hat _ ih =>
    obtain ⟨e1, cl1, rfl, -, -, -⟩ := hrec _ _ _ _ hr
    have g1 := good_ext s e1 cl1
    have g2 := good_attach g1.st c _ hc (s.future.1 _ (Nat.le_refl _)) hat
    exact g1.trans (g2.trans (ih g2.st))

theorem exportLoop_good (b : H) {fuel : Nat} : ∀ {h : H} {self curr child : Nat} {h' : H} {r : Nat},
    St (Sn b) h → Mono b h → (curr ≠ self → b.nN ≤ child) →
    exportLoop fuel h self curr child = (h', .ok r) → Good (Sn b) h h' ∧ b.nN ≤ r := by
  induction fuel with
  | zero => intro h self curr child h' r _ _ _ he; cases he
  | succ fuel ih =>
    intro h self curr child h' r s mb hch he
    obtain ⟨h1, par, h2, h3, hcl, hr2, hr3, fin⟩ := exportLoop_ok he
    have sp := cloneF_spec hcl
    have g1 := good_ext s sp.ext sp.closed
    have hpar : (Sn b).n par := sp.c_eq ▸ mb.nN
    have g2 : Good (Sn b) h1 h2 := by
      split at hr2
      · next hne => exact good_attach g1.st par child hpar (hch hne) hr2
      · cases hr2; exact Good.refl g1.st
    have g13 := g1.trans (g2.trans ((cloneLoop_loop _ hr3).good (cloneF_recOk 1 true) hpar g2.st))
    split at fin
    · obtain ⟨rfl, rfl⟩ := fin; exact ⟨g13, hpar⟩
    · next q _ =>
      obtain ⟨g4, hr⟩ := ih g13.st (mb.trans g13.mono) (fun _ => hpar) fin
      exact ⟨g13.trans g4, hr⟩

theorem exportLeafF_good {h : H} {x : Nat} {h' : H} {r : Nat} (he : exportLeafF h x = (h', .ok r)) :
    Good (Sn h) h h' ∧ h.nN ≤ r := by
  unfold exportLeafF at he
  split at he
  · next hk =>
    split at he
    · next p _ =>
      exact exportLoop_good h (st_sn_self h) (Mono.refl h) (fun hne => absurd rfl hne) he
    · cases he
      have sp := cloneProp_ok h x true hk
      exact ⟨good_ext (st_sn_self h) sp.ext sp.closed, Nat.le_of_eq sp.c_eq.symm⟩
  · exact exportLoop_good h (st_sn_self h) (Mono.refl h) (fun hne => absurd rfl hne) he

/-- The operation is applied to objects and lists of the region. -/
def Op.InR (R : Reg) (op : Op) : Prop := (∀ x, x ∈ op.objs → R.n x) ∧ (∀ c, c ∈ op.lists → R.v c)

theorem good_optErr {R h} {r : H × Option Err} (g : Good R h r.1) : Good R h (optErr r).1 :=
  optErr_fst r ▸ g

theorem step_good {R h} (s : St R h) (op : Op) (ho : op.InR R) : Good R h (step h op).1 := by
  unfold step
  split
  · exact Good.refl s
  · rename_i hguard
    simp only [Bool.or_eq_true, List.any_eq_true, decide_eq_true_eq, not_or, not_exists, not_and, Nat.not_le] at hguard
    split
    · exact Good.refl s
    · rename_i hkind
      simp only [List.any_eq_true, bne_iff_ne, ne_eq, not_exists, not_and, Decidable.not_not] at hkind
      cases op with
      | clone x ch keep =>
        exact dropOnErr_fst _ (Good.refl s) fun h' c hc =>
          have sp := cloneF_spec hc
          good_ext s sp.ext sp.closed
      | exportLeaf x =>
        exact dropOnErr_fst _ (Good.refl s) fun h' c hc =>
          have ⟨e, cl⟩ := good_sn_ext (exportLeafF_good hc).1
          good_ext' s e cl
      | getValues p => exact good_getValues s p
      | setValuesFrom p c => exact good_setValuesItems s p _ (ho.1 p (.head _))
      | setValuesLits p vs => exact good_setValuesLits s p vs (ho.1 p (.head _))
      | appendValue p v =>
        exact good_appendValue s p v (ho.1 p (.head _)) (hguard.1 p (.head _)) (hkind p (.head _))
      | setValueAt p i v =>
        exact good_optErr (good_setValueAt s p i v (ho.1 p (.head _)) (hguard.1 p (.head _)) (hkind p (.head _)))
      | setDtype p v =>
        have g := good_setAttr s p 0 v (ho.1 p (.head _))
        exact g.trans (good_setValuesItems g.st p _ (ho.1 p (.head _)))
      | newList vs => exact (litItems_tupOnly vs h).good_alloc s
      | listAppend c v =>
        exact good_litUpd s c v (ho.2 c (.head _)) (fun items l => l ++ items) fun hi hl => itemsIn_append hl hi
      | listSet c i v =>
        exact good_optErr (ite_fst (Good.refl s) (good_litUpd s c v (ho.2 c (.head _))
          (fun items l => match items with | it :: _ => l.set i it | [] => l) fun hi hl => itemsIn_head hi _ hl i))
      | listDel c i =>
        exact good_optErr (ite_fst (Good.refl s)
          (good_updV s c (fun l => l.eraseIdx i) (ho.2 c (.head _)) fun hin => itemsIn_erase hin i))
      | listInnerSet c i j str =>
        exact good_optErr (good_listInnerSet s c i j str (ho.2 c (.head _)) (hguard.2 c (.head _)))
      | valueInnerSet p i j str =>
        exact good_optErr (good_valueInnerSet s p i j str (ho.1 p (.head _)) (hguard.1 p (.head _))
          (hkind p (.head _)))
      | newObj k name attrs vals => exact good_newObj s k name attrs vals
      | append p x =>
        exact good_optErr (good_append s p x (ho.1 p (.head _)) (ho.1 x (.tail _ (.head _)))
          (hguard.1 x (.tail _ (.head _))))
      | remove p x =>
        exact good_optErr (remove_cases (Good.refl s) fun _ hr =>
          good_removeChild s p x (ho.1 p (.head _)) (ho.1 x (.tail _ (.head _))) hr)
      | rename x new =>
        exact good_optErr (rename_cases (Good.refl s)
          (good_updN s x (fun n => { n with name := new }) (ho.1 x (.head _)) fun hn => nodeIn_data hn ..))
      | setAttr x i v => exact good_setAttr s x i v (ho.1 x (.head _))
      | newId x => exact good_newId s x (ho.1 x (.head _))
      | mergeAttrs x t record =>
        exact good_optErr (ite_fst (Good.refl s) (good_mergeAttrs s x t record (ho.1 x (.head _))))
      | unmergeAttrs x => exact good_optErr (ite_fst (Good.refl s) (good_unmergeAttrs s x (ho.1 x (.head _))))

/-- Every operation of the list is applied to objects and lists of the region. -/
def OpsIn (R : Reg) (ops : List Op) : Prop := ∀ op, op ∈ ops → op.InR R

theorem run_good {R} : ∀ (ops : List Op) (h : H), St R h → OpsIn R ops → Good R h (run h ops) := by
  intro ops
  induction ops with
  | nil => intro h s _; exact Good.refl s
  | cons op rest ih =>
    intro h s ho
    have g1 := step_good s op (ho op (List.mem_cons_self ..))
    have g2 := ih (step h op).1 g1.st (fun o hm => ho o (List.mem_cons_of_mem _ hm))
    simp only [run, List.foldl_cons] at g2 ⊢
    exact g1.trans g2

end Clone
