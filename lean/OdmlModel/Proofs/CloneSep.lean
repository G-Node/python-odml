/-
C11: separation. A block of new locations that is closed in itself and the
store it was added to never influence each other through editing operations.
-/
import OdmlModel.Proofs.CloneExport
namespace Clone

/-- Everything that exists in `h`. -/
def Old (h : H) : Reg := ⟨fun a => a < h.nN, fun a => a < h.nV, fun a => a < h.nT⟩

/-- Every reference held by an existing object or list points to something that exists
    (no dangling references; part of the well-formedness C03 is about). -/
def Scoped (h : H) : Prop := Closed h (Old h)

/-- Everything except the block `[h, h')`. -/
def NotBlock (h h' : H) : Reg :=
  ⟨fun a => a < h.nN ∨ h'.nN ≤ a, fun a => a < h.nV ∨ h'.nV ≤ a, fun a => a < h.nT ∨ h'.nT ≤ a⟩

/-- The block is unchanged between two stores. -/
def BlockSame (h h' k k' : H) : Prop :=
  (∀ a, h.nN ≤ a → a < h'.nN → k'.node a = k.node a) ∧ (∀ a, h.nV ≤ a → a < h'.nV → k'.vcell a = k.vcell a) ∧
  (∀ a, h.nT ≤ a → a < h'.nT → k'.tcell a = k.tcell a)

/-- Edits applied to the new block (and to whatever is created later) never change anything that
    existed before the block was made. -/
theorem later_edits_preserve {h h' : H} (e : Ext h h') (c : Closed h' (Sn h)) (ops : List Op)
    (ho : OpsIn (Sn h) ops) : Below h (run h' ops) :=
  have g := run_good ops h' ⟨c, future_sn e.mono⟩ ho
  ⟨fun a ha => (g.frame.1 a (Nat.not_le.2 ha)).trans (e.node a ha),
   fun a ha => (g.frame.2.1 a (Nat.not_le.2 ha)).trans (e.vcell a ha),
   fun a ha => (g.frame.2.2 a (Nat.not_le.2 ha)).trans (e.tcell a ha)⟩

theorem st_notBlock {h h' : H} (sc : Scoped h) (e : Ext h h') : St (NotBlock h h') h' :=
  have le : (Old h).le (NotBlock h h') := ⟨fun _ => Or.inl, fun _ => Or.inl, fun _ => Or.inl⟩
  ⟨⟨fun a ha hl => ha.elim (fun ha => e.node a ha ▸ (sc.1 a ha ha).mono le) fun ha => absurd hl (Nat.not_lt.2 ha),
    fun a ha hl => ha.elim (fun ha => e.vcell a ha ▸ (sc.2 a ha ha).mono le) fun ha => absurd hl (Nat.not_lt.2 ha)⟩,
   ⟨fun _ => Or.inr, fun _ => Or.inr, fun _ => Or.inr⟩⟩

/-- Edits applied to what existed before (and to whatever is created later) never change the block. -/
theorem earlier_edits_preserve {h h' : H} (sc : Scoped h) (e : Ext h h') (ops : List Op)
    (ho : OpsIn (NotBlock h h') ops) : BlockSame h h' h' (run h' ops) :=
  have g := run_good ops h' (st_notBlock sc e) ho
  have out : ∀ {lo hi a : Nat}, lo ≤ a → a < hi → ¬ (a < lo ∨ hi ≤ a) :=
    fun h1 h2 o => o.elim (Nat.not_lt.2 h1) (Nat.not_le.2 h2)
  ⟨fun a h1 h2 => g.frame.1 a (out h1 h2), fun a h1 h2 => g.frame.2.1 a (out h1 h2),
   fun a h1 h2 => g.frame.2.2 a (out h1 h2)⟩

theorem scoped_empty : Scoped empty :=
  ⟨fun _ ha => absurd ha (Nat.not_lt_zero _), fun _ ha => absurd ha (Nat.not_lt_zero _)⟩

/-- A closed block of new locations keeps the store free of dangling references. -/
theorem scoped_ext {h h' : H} (sc : Scoped h) (e : Ext h h') (c : Closed h' (rng h h')) : Scoped h' :=
  have l1 : (Old h).le (Old h') :=
    ⟨fun _ ha => Nat.lt_of_lt_of_le ha e.mono.nN, fun _ ha => Nat.lt_of_lt_of_le ha e.mono.nV,
     fun _ ha => Nat.lt_of_lt_of_le ha e.mono.nT⟩
  have l2 : (rng h h').le (Old h') := ⟨fun _ ha => ha.2, fun _ ha => ha.2, fun _ ha => ha.2⟩
  closed_of_ext e (fun a _ hlt => (sc.1 a hlt hlt).mono l1) (fun a _ hlt => (sc.2 a hlt hlt).mono l1)
    (fun a _ h1 h2 => (c.1 a ⟨h1, h2⟩ h2).mono l2) (fun a _ h1 h2 => (c.2 a ⟨h1, h2⟩ h2).mono l2)

theorem dropOnErr_ok {h h' : H} {r : H × Res} {c : Nat} (hd : dropOnErr h r = (h', .ok c)) : r = (h', .ok c) := by
  obtain ⟨h1, res⟩ := r
  cases res with
  | ok c1 => simpa [dropOnErr] using hd
  | err e => simp [dropOnErr] at hd

theorem dropOnErr_err {h : H} {r : H × Res} (hr : ∀ c, r.2 ≠ .ok c) : (dropOnErr h r).1 = h := by
  obtain ⟨h1, res⟩ := r
  cases res with
  | ok c1 => exact absurd rfl (hr c1)
  | err e => rfl

end Clone
