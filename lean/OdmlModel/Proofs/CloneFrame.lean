/-
C11: what copying a value list writes. `convertItems`, the values setters and `cloneProp` only write
locations they have allocated themselves (`Ext`), and the copy denotes the same values (`resolve`).
-/
import OdmlModel.Proofs.CloneBase
namespace Clone

/-- What a value list denotes: atoms and the contents of the inner lists. -/
inductive Val where
  | atom (s : String)
  | tup (xs : List String)
  deriving DecidableEq, Repr

def resolve (h : H) (l : List Item) : List Val :=
  l.map fun
    | .atom s => Val.atom s
    | .ref t => Val.tup (h.tcell t)

theorem resolve_congr {h h' : H} {l : List Item} (hl : ∀ t, Item.ref t ∈ l → h'.tcell t = h.tcell t) :
    resolve h' l = resolve h l :=
  List.map_congr_left fun it hit => by
    cases it with
    | atom s => rfl
    | ref t => exact congrArg Val.tup (hl t hit)

/-- Between `h` and `h'` only inner lists have been allocated, and the items `out` refer to none
    but these. -/
structure TupOnly (h h' : H) (out : List Item) : Prop where
  ext : Ext h h'
  nN : h'.nN = h.nN
  nV : h'.nV = h.nV
  nextId : h'.nextId = h.nextId
  node : h'.node = h.node
  vcell : h'.vcell = h.vcell
  dcell : h'.dcell = h.dcell
  nD : h'.nD = h.nD
  fresh : ∀ t, Item.ref t ∈ out → h.nT ≤ t ∧ t < h'.nT

theorem TupOnly.nil (h : H) : TupOnly h h [] :=
  ⟨Ext.refl h, rfl, rfl, rfl, rfl, rfl, rfl, rfl, fun _ ht => nomatch ht⟩

theorem TupOnly.atom {h h' out} (r : TupOnly h h' out) (s : String) : TupOnly h h' (.atom s :: out) :=
  { r with fresh := fun t ht => match ht with | .tail _ ht => r.fresh t ht }

theorem TupOnly.ref {h h' out l} (r : TupOnly (allocT h l).1 h' out) : TupOnly h h' (.ref h.nT :: out) :=
  { r with
    ext := (ext_allocT h l).trans r.ext
    fresh := fun t ht => by
      cases ht with
      | head => exact ⟨Nat.le_refl _, Nat.lt_of_lt_of_le (Nat.lt_succ_self _) r.ext.mono.nT⟩
      | tail _ ht => exact ⟨Nat.le_of_succ_le (r.fresh t ht).1, (r.fresh t ht).2⟩ }

/-- `convertItems`: only inner lists are new, and the new items denote what the old ones did. -/
structure ConvSpec (h h' : H) (src out : List Item) : Prop extends TupOnly h h' out where
  same : (∀ t, Item.ref t ∈ src → t < h.nT) → resolve h' out = resolve h src
  len : out.length = src.length

theorem convertItems_spec (src : List Item) : ∀ h, ConvSpec h (convertItems h src).1 src (convertItems h src).2 := by
  induction src with
  | nil => exact fun h => ⟨.nil h, fun _ => rfl, rfl⟩
  | cons it rest ih =>
    intro h
    cases it with
    | atom s =>
      have r := ih h
      exact ⟨r.toTupOnly.atom s, fun hb => congrArg (Val.atom s :: ·) (r.same fun t ht => hb t (.tail _ ht)),
        congrArg (· + 1) r.len⟩
    | ref t0 =>
      have r := ih (allocT h (h.tcell t0)).1
      refine ⟨r.toTupOnly.ref, fun hb => ?_, congrArg (· + 1) r.len⟩
      -- the copy of the inner list, and the rest of the list read in the store before the copy
      have hd : (convertItems h (.ref t0 :: rest)).1.tcell h.nT = h.tcell t0 :=
        (r.ext.tcell h.nT (Nat.lt_succ_self _)).trans (if_pos rfl)
      have tl := (r.same fun t ht => Nat.lt_succ_of_lt (hb t (.tail _ ht))).trans
        (resolve_congr fun t ht => (ext_allocT h (h.tcell t0)).tcell t (hb t (.tail _ ht)))
      exact List.cons_eq_cons.2 ⟨congrArg Val.tup hd, tl⟩

theorem litItems_tupOnly (src : List Lit) : ∀ h, TupOnly h (litItems h src).1 (litItems h src).2 := by
  induction src with
  | nil => exact .nil
  | cons it rest ih =>
    intro h
    cases it with
    | atom s => exact (ih h).atom s
    | tup xs => exact (ih (allocT h xs).1).ref

theorem litItems_length (src : List Lit) : ∀ h, (litItems h src).2.length = src.length := by
  induction src with
  | nil => exact fun _ => rfl
  | cons it rest ih =>
    intro h
    cases it with
    | atom s => exact congrArg (· + 1) (ih h)
    | tup xs => exact congrArg (· + 1) (ih (allocT h xs).1)

/-- What assigning `values` does to the store: one object gets a new value list, nothing that
    existed is written. -/
structure SetSpec (h h' : H) (p : Nat) : Prop where
  mono : Mono h h'
  nN : h'.nN = h.nN
  nextId : h'.nextId = h.nextId
  nodeO : ∀ a, a ≠ p → h'.node a = h.node a
  vB : ∀ c, c < h.nV → h'.vcell c = h.vcell c
  tB : ∀ t, t < h.nT → h'.tcell t = h.tcell t
  nodeP : h'.node p = { h.node p with vals := some h.nV }
  nV : h'.nV = h.nV + 1
  cell : ∀ t, Item.ref t ∈ h'.vcell h.nV → h.nT ≤ t ∧ t < h'.nT

/-- Both setters end alike: the converted items become a new value list, which `p` is bound to. -/
theorem TupOnly.bind {h h1 items} (r : TupOnly h h1 items) (p : Nat) :
    SetSpec h (updN (allocV h1 items).1 p fun n => { n with vals := some h1.nV }) p where
  mono := r.ext.mono.trans (ext_allocV h1 items).mono
  nN := r.nN
  nextId := r.nextId
  nodeO := fun a ha => (updN_other _ _ _ _ ha).trans (congrFun r.node a)
  vB := fun c hc => ((ext_allocV h1 items).vcell c (r.nV ▸ hc)).trans (congrFun r.vcell c)
  tB := r.ext.tcell
  nodeP := by rw [updN_same, allocV_node, r.node, r.nV]
  nV := congrArg (· + 1) r.nV
  cell := by rw [← r.nV, updN_vcell, allocV_vcell, if_pos rfl]; exact r.fresh

theorem setValuesItems_eq (h : H) (p : Nat) (src : List Item) :
    setValuesItems h p src = updN (allocV (convertItems h src).1 (convertItems h src).2).1 p
      fun n => { n with vals := some (convertItems h src).1.nV } := by
  cases src <;> rfl

theorem setValuesLits_eq (h : H) (p : Nat) (src : List Lit) :
    setValuesLits h p src = updN (allocV (litItems h src).1 (litItems h src).2).1 p
      fun n => { n with vals := some (litItems h src).1.nV } := by
  cases src <;> rfl

theorem setValuesItems_spec (h : H) (p : Nat) (src : List Item) :
    SetSpec h (setValuesItems h p src) p ∧
    ((∀ t, Item.ref t ∈ src → t < h.nT) →
      resolve (setValuesItems h p src) ((setValuesItems h p src).vcell h.nV) = resolve h src) := by
  have r := convertItems_spec src h
  rw [setValuesItems_eq]
  refine ⟨r.toTupOnly.bind p, fun hb => ?_⟩
  rw [← r.nV, updN_vcell, allocV_vcell, if_pos rfl]
  exact (resolve_congr fun _ _ => rfl).trans (r.same hb)

theorem SetSpec.ext {h0 h h' : H} {p : Nat} (s : SetSpec h h' p) (e : Ext h0 h) (hp : h0.nN ≤ p) :
    Ext h0 h' :=
  ⟨e.mono.trans s.mono,
   fun a ha => (s.nodeO a (Nat.ne_of_lt (Nat.lt_of_lt_of_le ha hp))).trans (e.node a ha),
   fun c hc => (s.vB c (Nat.lt_of_lt_of_le hc e.mono.nV)).trans (e.vcell c hc),
   fun x hx => (s.tB x (Nat.lt_of_lt_of_le hx e.mono.nT)).trans (e.tcell x hx)⟩

/-- `Property.clone`: one new object `c` (the fields of `x`, detached, id as `keep` says) with one new
    value list denoting the values of `x`. -/
structure PropCloneSpec (h h' : H) (x c : Nat) (keep : Bool) : Prop where
  ext : Ext h h'
  c_eq : c = h.nN
  nN : h'.nN = h.nN + 1
  nV : h'.nV = h.nV + 1
  node : h'.node c = { h.node x with parent := none, vals := some h.nV,
                                     id := if keep then (h.node x).id else h.nextId }
  nextId : h'.nextId = if keep then h.nextId else h.nextId + 1
  cell : ∀ t, Item.ref t ∈ h'.vcell h.nV → h.nT ≤ t ∧ t < h'.nT
  same : x < h.nN → (∀ t, Item.ref t ∈ valsOf h x → t < h.nT) →
    resolve h' (h'.vcell h.nV) = resolve h (valsOf h x)

theorem cloneProp_spec (h : H) (x : Nat) (keep : Bool) :
    PropCloneSpec h (cloneProp h x keep).1 x (cloneProp h x keep).2 keep := by
  -- the shallow copy, detached; its sizes are those of `h` with one more object
  let h2 := updN (allocN h (h.node x)).1 h.nN fun n => { n with parent := none }
  have e2 : Ext h h2 := ext_updN (ext_allocN h _) _ _ (Nat.le_refl _)
  obtain ⟨sp, sres⟩ := setValuesItems_spec h2 h.nN (valsOf h2 x)
  have e3 := sp.ext e2 (Nat.le_refl _)
  have n3 : (setValuesItems h2 h.nN (valsOf h2 x)).node h.nN =
      { h.node x with parent := none, vals := some h.nV } := by
    rw [sp.nodeP, updN_same, allocN_node, if_pos rfl]; rfl
  have same3 : x < h.nN → (∀ t, Item.ref t ∈ valsOf h x → t < h.nT) →
      resolve (setValuesItems h2 h.nN (valsOf h2 x)) ((setValuesItems h2 h.nN (valsOf h2 x)).vcell h.nV) =
        resolve h (valsOf h x) := fun hx hb => by
    have hv : valsOf h2 x = valsOf h x := by unfold valsOf; rw [e2.node x hx]; rfl
    exact (sres (hv ▸ hb)).trans (hv ▸ resolve_congr fun _ _ => rfl)
  show PropCloneSpec h (if keep = true then setValuesItems h2 h.nN (valsOf h2 x)
    else newId (setValuesItems h2 h.nN (valsOf h2 x)) h.nN) x h.nN keep
  cases keep with
  | true =>
    rw [if_pos rfl]
    exact ⟨e3, rfl, sp.nN, sp.nV, n3, sp.nextId, sp.cell, same3⟩
  | false =>
    rw [if_neg Bool.false_ne_true]
    exact ⟨ext_newId e3 _ (Nat.le_refl _), rfl, sp.nN, sp.nV,
      (newId_same ..).trans (by rw [n3, sp.nextId]; rfl), congrArg (· + 1) sp.nextId, sp.cell,
      fun hx hb => (resolve_congr fun _ _ => rfl).trans (same3 hx hb)⟩

end Clone
