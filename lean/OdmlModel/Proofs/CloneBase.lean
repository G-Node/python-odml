/-
C11: regions of the store, closure of a region under the references that
editing operations follow, and the primitive writes.
-/
import OdmlModel.Model.Clone
namespace Clone

@[simp] theorem updN_nN (h i f) : (updN h i f).nN = h.nN := rfl
@[simp] theorem updN_nV (h i f) : (updN h i f).nV = h.nV := rfl
@[simp] theorem updN_nT (h i f) : (updN h i f).nT = h.nT := rfl
@[simp] theorem updN_nextId (h i f) : (updN h i f).nextId = h.nextId := rfl
@[simp] theorem updN_vcell (h i f) : (updN h i f).vcell = h.vcell := rfl
@[simp] theorem updN_tcell (h i f) : (updN h i f).tcell = h.tcell := rfl
@[simp] theorem updN_dcell (h i f) : (updN h i f).dcell = h.dcell := rfl
@[simp] theorem updN_nD (h i f) : (updN h i f).nD = h.nD := rfl
@[simp] theorem updN_same (h i f) : (updN h i f).node i = f (h.node i) := by simp [updN]
theorem updN_other (h i j f) (hne : j ≠ i) : (updN h i f).node j = h.node j := by simp [updN, hne]
theorem updN_node (h i j f) : (updN h i f).node j = if j = i then f (h.node j) else h.node j := rfl

theorem updN_keeps {α} (π : Node → α) {f : Node → Node} (hf : ∀ n, π (f n) = π n) (h i a) :
    π ((updN h i f).node a) = π (h.node a) := by
  rw [updN_node]; split
  · exact hf _
  · rfl

@[simp] theorem updV_nN (h i f) : (updV h i f).nN = h.nN := rfl
@[simp] theorem updV_nV (h i f) : (updV h i f).nV = h.nV := rfl
@[simp] theorem updV_nT (h i f) : (updV h i f).nT = h.nT := rfl
@[simp] theorem updV_nextId (h i f) : (updV h i f).nextId = h.nextId := rfl
@[simp] theorem updV_node (h i f) : (updV h i f).node = h.node := rfl
@[simp] theorem updV_tcell (h i f) : (updV h i f).tcell = h.tcell := rfl
@[simp] theorem updV_dcell (h i f) : (updV h i f).dcell = h.dcell := rfl
@[simp] theorem updV_nD (h i f) : (updV h i f).nD = h.nD := rfl
theorem updV_vcell (h i j f) : (updV h i f).vcell j = if j = i then f (h.vcell j) else h.vcell j := rfl

@[simp] theorem updT_nN (h i f) : (updT h i f).nN = h.nN := rfl
@[simp] theorem updT_nV (h i f) : (updT h i f).nV = h.nV := rfl
@[simp] theorem updT_nT (h i f) : (updT h i f).nT = h.nT := rfl
@[simp] theorem updT_nextId (h i f) : (updT h i f).nextId = h.nextId := rfl
@[simp] theorem updT_node (h i f) : (updT h i f).node = h.node := rfl
@[simp] theorem updT_vcell (h i f) : (updT h i f).vcell = h.vcell := rfl
@[simp] theorem updT_dcell (h i f) : (updT h i f).dcell = h.dcell := rfl
@[simp] theorem updT_nD (h i f) : (updT h i f).nD = h.nD := rfl
theorem updT_tcell (h i j f) : (updT h i f).tcell j = if j = i then f (h.tcell j) else h.tcell j := rfl

@[simp] theorem allocN_ret (h n) : (allocN h n).2 = h.nN := rfl
@[simp] theorem allocN_nN (h n) : (allocN h n).1.nN = h.nN + 1 := rfl
@[simp] theorem allocN_nV (h n) : (allocN h n).1.nV = h.nV := rfl
@[simp] theorem allocN_nT (h n) : (allocN h n).1.nT = h.nT := rfl
@[simp] theorem allocN_nextId (h n) : (allocN h n).1.nextId = h.nextId := rfl
@[simp] theorem allocN_vcell (h n) : (allocN h n).1.vcell = h.vcell := rfl
@[simp] theorem allocN_tcell (h n) : (allocN h n).1.tcell = h.tcell := rfl
@[simp] theorem allocN_dcell (h n) : (allocN h n).1.dcell = h.dcell := rfl
@[simp] theorem allocN_nD (h n) : (allocN h n).1.nD = h.nD := rfl
theorem allocN_node (h n j) : (allocN h n).1.node j = if j = h.nN then n else h.node j := rfl

@[simp] theorem allocV_ret (h l) : (allocV h l).2 = h.nV := rfl
@[simp] theorem allocV_nN (h l) : (allocV h l).1.nN = h.nN := rfl
@[simp] theorem allocV_nV (h l) : (allocV h l).1.nV = h.nV + 1 := rfl
@[simp] theorem allocV_nT (h l) : (allocV h l).1.nT = h.nT := rfl
@[simp] theorem allocV_nextId (h l) : (allocV h l).1.nextId = h.nextId := rfl
@[simp] theorem allocV_node (h l) : (allocV h l).1.node = h.node := rfl
@[simp] theorem allocV_tcell (h l) : (allocV h l).1.tcell = h.tcell := rfl
@[simp] theorem allocV_dcell (h l) : (allocV h l).1.dcell = h.dcell := rfl
@[simp] theorem allocV_nD (h l) : (allocV h l).1.nD = h.nD := rfl
theorem allocV_vcell (h l j) : (allocV h l).1.vcell j = if j = h.nV then l else h.vcell j := rfl

@[simp] theorem allocT_ret (h l) : (allocT h l).2 = h.nT := rfl
@[simp] theorem allocT_nN (h l) : (allocT h l).1.nN = h.nN := rfl
@[simp] theorem allocT_nV (h l) : (allocT h l).1.nV = h.nV := rfl
@[simp] theorem allocT_nT (h l) : (allocT h l).1.nT = h.nT + 1 := rfl
@[simp] theorem allocT_nextId (h l) : (allocT h l).1.nextId = h.nextId := rfl
@[simp] theorem allocT_node (h l) : (allocT h l).1.node = h.node := rfl
@[simp] theorem allocT_vcell (h l) : (allocT h l).1.vcell = h.vcell := rfl
@[simp] theorem allocT_dcell (h l) : (allocT h l).1.dcell = h.dcell := rfl
@[simp] theorem allocT_nD (h l) : (allocT h l).1.nD = h.nD := rfl
theorem allocT_tcell (h l j) : (allocT h l).1.tcell j = if j = h.nT then l else h.tcell j := rfl

@[simp] theorem newId_nN (h x) : (newId h x).nN = h.nN := rfl
@[simp] theorem newId_nV (h x) : (newId h x).nV = h.nV := rfl
@[simp] theorem newId_nT (h x) : (newId h x).nT = h.nT := rfl
@[simp] theorem newId_nextId (h x) : (newId h x).nextId = h.nextId + 1 := rfl
@[simp] theorem newId_vcell (h x) : (newId h x).vcell = h.vcell := rfl
@[simp] theorem newId_tcell (h x) : (newId h x).tcell = h.tcell := rfl
@[simp] theorem newId_dcell (h x) : (newId h x).dcell = h.dcell := rfl
@[simp] theorem newId_nD (h x) : (newId h x).nD = h.nD := rfl
theorem newId_node (h x j) :
    (newId h x).node j = if j = x then { h.node j with id := h.nextId } else h.node j := rfl
@[simp] theorem newId_same (h x) : (newId h x).node x = { h.node x with id := h.nextId } := if_pos rfl

/-! ### Allocating and writing the dicts `_merged_attrs` -/

@[simp] theorem allocD_ret (h l) : (allocD h l).2 = h.nD := rfl
@[simp] theorem allocD_nN (h l) : (allocD h l).1.nN = h.nN := rfl
@[simp] theorem allocD_nV (h l) : (allocD h l).1.nV = h.nV := rfl
@[simp] theorem allocD_nT (h l) : (allocD h l).1.nT = h.nT := rfl
@[simp] theorem allocD_nD (h l) : (allocD h l).1.nD = h.nD + 1 := rfl
@[simp] theorem allocD_nextId (h l) : (allocD h l).1.nextId = h.nextId := rfl
@[simp] theorem allocD_node (h l) : (allocD h l).1.node = h.node := rfl
@[simp] theorem allocD_vcell (h l) : (allocD h l).1.vcell = h.vcell := rfl
@[simp] theorem allocD_tcell (h l) : (allocD h l).1.tcell = h.tcell := rfl
theorem allocD_dcell (h l j) : (allocD h l).1.dcell j = if j = h.nD then l else h.dcell j := rfl

@[simp] theorem updD_nN (h i f) : (updD h i f).nN = h.nN := rfl
@[simp] theorem updD_nV (h i f) : (updD h i f).nV = h.nV := rfl
@[simp] theorem updD_nT (h i f) : (updD h i f).nT = h.nT := rfl
@[simp] theorem updD_nD (h i f) : (updD h i f).nD = h.nD := rfl
@[simp] theorem updD_nextId (h i f) : (updD h i f).nextId = h.nextId := rfl
@[simp] theorem updD_node (h i f) : (updD h i f).node = h.node := rfl
@[simp] theorem updD_vcell (h i f) : (updD h i f).vcell = h.vcell := rfl
@[simp] theorem updD_tcell (h i f) : (updD h i f).tcell = h.tcell := rfl
theorem updD_dcell (h i j f) : (updD h i f).dcell j = if j = i then f (h.dcell j) else h.dcell j := rfl

/-- Sizes only grow. The dicts (`dcell`, `nD`) are not part of `Mono`, `Below`, `Ext`, `Reg`: their frame is
    `DFrame` in CloneRecord. -/
def Mono (h h' : H) : Prop :=
  h.nN ≤ h'.nN ∧ h.nV ≤ h'.nV ∧ h.nT ≤ h'.nT ∧ h.nextId ≤ h'.nextId

/-- Nothing that exists in `h` has been written: every object, value list and inner list of `h`
    has the same content in `h'`. -/
def Below (h h' : H) : Prop :=
  (∀ a, a < h.nN → h'.node a = h.node a) ∧ (∀ c, c < h.nV → h'.vcell c = h.vcell c) ∧
  (∀ t, t < h.nT → h'.tcell t = h.tcell t)

/-- `h'` extends `h`: it is `h` plus new locations. -/
def Ext (h h' : H) : Prop := Mono h h' ∧ Below h h'

theorem Mono.nN {h h' : H} (m : Mono h h') : h.nN ≤ h'.nN := m.1
theorem Mono.nV {h h' : H} (m : Mono h h') : h.nV ≤ h'.nV := m.2.1
theorem Mono.nT {h h' : H} (m : Mono h h') : h.nT ≤ h'.nT := m.2.2.1
theorem Mono.nextId {h h' : H} (m : Mono h h') : h.nextId ≤ h'.nextId := m.2.2.2
theorem Ext.mono {h h' : H} (e : Ext h h') : Mono h h' := e.1
theorem Ext.node {h h' : H} (e : Ext h h') (a : Nat) (ha : a < h.nN) : h'.node a = h.node a := e.2.1 a ha
theorem Ext.vcell {h h' : H} (e : Ext h h') (c : Nat) (hc : c < h.nV) : h'.vcell c = h.vcell c := e.2.2.1 c hc
theorem Ext.tcell {h h' : H} (e : Ext h h') (t : Nat) (ht : t < h.nT) : h'.tcell t = h.tcell t := e.2.2.2 t ht

theorem Mono.refl (h : H) : Mono h h := ⟨Nat.le_refl _, Nat.le_refl _, Nat.le_refl _, Nat.le_refl _⟩
theorem Mono.trans {a b c : H} (h1 : Mono a b) (h2 : Mono b c) : Mono a c :=
  ⟨Nat.le_trans h1.nN h2.nN, Nat.le_trans h1.nV h2.nV, Nat.le_trans h1.nT h2.nT,
   Nat.le_trans h1.nextId h2.nextId⟩
theorem Ext.refl (h : H) : Ext h h := ⟨Mono.refl h, fun _ _ => rfl, fun _ _ => rfl, fun _ _ => rfl⟩
theorem Ext.trans {a b c : H} (h1 : Ext a b) (h2 : Ext b c) : Ext a c :=
  ⟨h1.mono.trans h2.mono,
   fun x hx => (h2.node x (Nat.lt_of_lt_of_le hx h1.mono.nN)).trans (h1.node x hx),
   fun x hx => (h2.vcell x (Nat.lt_of_lt_of_le hx h1.mono.nV)).trans (h1.vcell x hx),
   fun x hx => (h2.tcell x (Nat.lt_of_lt_of_le hx h1.mono.nT)).trans (h1.tcell x hx)⟩

theorem ext_allocN (h n) : Ext h (allocN h n).1 :=
  ⟨⟨Nat.le_succ _, Nat.le_refl _, Nat.le_refl _, Nat.le_refl _⟩,
   fun _ ha => if_neg (Nat.ne_of_lt ha), fun _ _ => rfl, fun _ _ => rfl⟩
theorem ext_allocV (h l) : Ext h (allocV h l).1 :=
  ⟨⟨Nat.le_refl _, Nat.le_succ _, Nat.le_refl _, Nat.le_refl _⟩,
   fun _ _ => rfl, fun _ ha => if_neg (Nat.ne_of_lt ha), fun _ _ => rfl⟩
theorem ext_allocT (h l) : Ext h (allocT h l).1 :=
  ⟨⟨Nat.le_refl _, Nat.le_refl _, Nat.le_succ _, Nat.le_refl _⟩,
   fun _ _ => rfl, fun _ _ => rfl, fun _ ha => if_neg (Nat.ne_of_lt ha)⟩

theorem ext_updN {h0 h : H} (e : Ext h0 h) (i f) (hi : h0.nN ≤ i) : Ext h0 (updN h i f) :=
  ⟨e.mono, fun a ha => (updN_other h i a f (Nat.ne_of_lt (Nat.lt_of_lt_of_le ha hi))).trans (e.node a ha),
   e.vcell, e.tcell⟩
theorem ext_updV {h0 h : H} (e : Ext h0 h) (i f) (hi : h0.nV ≤ i) : Ext h0 (updV h i f) :=
  ⟨e.mono, e.node, fun a ha => (if_neg (Nat.ne_of_lt (Nat.lt_of_lt_of_le ha hi))).trans (e.vcell a ha),
   e.tcell⟩
theorem ext_newId {h0 h : H} (e : Ext h0 h) (i) (hi : h0.nN ≤ i) : Ext h0 (newId h i) :=
  ⟨e.mono.trans ⟨Nat.le_refl _, Nat.le_refl _, Nat.le_refl _, Nat.le_succ _⟩,
   fun a ha => (if_neg (Nat.ne_of_lt (Nat.lt_of_lt_of_le ha hi))).trans (e.node a ha), e.vcell, e.tcell⟩

/-- A set of locations: objects, value lists, inner lists. -/
structure Reg where
  n : Nat → Prop
  v : Nat → Prop
  t : Nat → Prop

/-- The references an object holds *and through which operations write* lie in the region.
    (`merged` is only read.) A Document has no parent, a Property no sections, … -/
def NodeIn (R : Reg) (n : Node) : Prop :=
  (n.kind ≠ .doc → ∀ p, n.parent = some p → R.n p) ∧
  (n.kind ≠ .prop → ∀ c, c ∈ n.secs → R.n c) ∧
  (n.kind = .sec → ∀ c, c ∈ n.props → R.n c) ∧
  (n.kind = .prop → ∀ c, n.vals = some c → R.v c)

def ItemsIn (R : Reg) (l : List Item) : Prop := ∀ t, Item.ref t ∈ l → R.t t

/-- No reference leads out of the region. -/
def Closed (h : H) (R : Reg) : Prop :=
  (∀ a, R.n a → a < h.nN → NodeIn R (h.node a)) ∧
  (∀ c, R.v c → c < h.nV → ItemsIn R (h.vcell c))

/-- The same, with one object still under construction. -/
def ClosedEx (h : H) (R : Reg) (c : Nat) : Prop :=
  (∀ a, R.n a → a < h.nN → a ≠ c → NodeIn R (h.node a)) ∧
  (∀ v, R.v v → v < h.nV → ItemsIn R (h.vcell v))

/-- Everything allocated from `lo` on, up to the sizes of `h`. -/
def rng (lo h : H) : Reg :=
  ⟨fun a => lo.nN ≤ a ∧ a < h.nN, fun c => lo.nV ≤ c ∧ c < h.nV, fun t => lo.nT ≤ t ∧ t < h.nT⟩

def Reg.le (R S : Reg) : Prop := (∀ a, R.n a → S.n a) ∧ (∀ a, R.v a → S.v a) ∧ (∀ a, R.t a → S.t a)

theorem NodeIn.mono {R S : Reg} (hl : R.le S) {n : Node} (hn : NodeIn R n) : NodeIn S n :=
  ⟨fun k p hp => hl.1 _ (hn.1 k p hp), fun k c hc => hl.1 _ (hn.2.1 k c hc),
   fun k c hc => hl.1 _ (hn.2.2.1 k c hc), fun k c hc => hl.2.1 _ (hn.2.2.2 k c hc)⟩

theorem ItemsIn.mono {R S : Reg} (hl : R.le S) {l : List Item} (hn : ItemsIn R l) : ItemsIn S l :=
  fun t ht => hl.2.2 _ (hn t ht)

theorem rng_le {lo lo' h h' : H} (m1 : Mono lo lo') (m2 : Mono h h') : (rng lo' h).le (rng lo h') :=
  ⟨fun _ ha => ⟨Nat.le_trans m1.nN ha.1, Nat.lt_of_lt_of_le ha.2 m2.nN⟩,
   fun _ ha => ⟨Nat.le_trans m1.nV ha.1, Nat.lt_of_lt_of_le ha.2 m2.nV⟩,
   fun _ ha => ⟨Nat.le_trans m1.nT ha.1, Nat.lt_of_lt_of_le ha.2 m2.nT⟩⟩

theorem Closed.toEx {h R} (c) (hc : Closed h R) : ClosedEx h R c :=
  ⟨fun a ha hl _ => hc.1 a ha hl, hc.2⟩

theorem ClosedEx.close {h R c} (hc : ClosedEx h R c) (hn : R.n c → c < h.nN → NodeIn R (h.node c)) :
    Closed h R :=
  ⟨fun a ha hl => by
    by_cases e : a = c
    · subst e; exact hn ha hl
    · exact hc.1 a ha hl e, hc.2⟩

theorem closed_of_ext {h h' : H} {T : Reg} (e : Ext h h')
    (on : ∀ a, T.n a → a < h.nN → NodeIn T (h.node a)) (ov : ∀ c, T.v c → c < h.nV → ItemsIn T (h.vcell c))
    (cn : ∀ a, T.n a → h.nN ≤ a → a < h'.nN → NodeIn T (h'.node a))
    (cv : ∀ c, T.v c → h.nV ≤ c → c < h'.nV → ItemsIn T (h'.vcell c)) : Closed h' T :=
  ⟨fun a ha hl => if hlt : a < h.nN then e.node a hlt ▸ on a ha hlt else cn a ha (Nat.le_of_not_lt hlt) hl,
   fun c hc hl => if hlt : c < h.nV then e.vcell c hlt ▸ ov c hc hlt else cv c hc (Nat.le_of_not_lt hlt) hl⟩

theorem ClosedEx.updN {h R c} (hc : ClosedEx h R c) (i : Nat) (f : Node → Node)
    (hf : i ≠ c → NodeIn R (h.node i) → NodeIn R (f (h.node i))) : ClosedEx (updN h i f) R c :=
  ⟨fun a ha hl hne => by
    rw [updN_node]; split
    · next e => subst e; exact hf hne (hc.1 a ha hl hne)
    · exact hc.1 a ha hl hne, hc.2⟩

theorem forall_mem_snoc {P : Nat → Prop} {l : List Nat} {x : Nat} (hl : ∀ c, c ∈ l → P c) (hx : P x) :
    ∀ c, c ∈ l ++ [x] → P c :=
  fun c hc => (List.mem_append.1 hc).elim (hl c) fun h => List.mem_singleton.1 h ▸ hx

/-- Gluing: what was built up to `h` (relative to the base `b`), plus a closed block of new
    locations `[h, h1)`, is closed relative to `b`. -/
theorem closedEx_glue {b h h1 : H} {c : Nat} (mb : Mono b h) (e : Ext h h1)
    (old : ClosedEx h (rng b h) c) (new : Closed h1 (rng h h1)) : ClosedEx h1 (rng b h1) c :=
  have l1 : (rng b h).le (rng b h1) := rng_le (Mono.refl b) e.mono
  have l2 : (rng h h1).le (rng b h1) := rng_le mb (Mono.refl h1)
  ⟨fun a ha hl hne =>
     if hlt : a < h.nN then e.node a hlt ▸ (old.1 a ⟨ha.1, hlt⟩ hlt hne).mono l1
     else (new.1 a ⟨Nat.le_of_not_lt hlt, ha.2⟩ hl).mono l2,
   fun v hv hl =>
     if hlt : v < h.nV then e.vcell v hlt ▸ (old.2 v ⟨hv.1, hlt⟩ hlt).mono l1
     else (new.2 v ⟨Nat.le_of_not_lt hlt, hv.2⟩ hl).mono l2⟩

end Clone
