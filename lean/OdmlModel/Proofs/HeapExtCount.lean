/-
How many objects a merge can add: every new object is a copy (`orig`) of a different object at or
below the source, so a merge at most doubles the number of objects. This turns the budget of the
link setter (`linkBudget`, Proofs/HeapExtFuel.lean) into a closed formula in `size`.
-/
import OdmlModel.Proofs.HeapExtFuel

namespace Heap

/-- The handles `n ≤ c < m` are copies (`o c` = the object copied) of pairwise different objects
    of the set `S`. -/
def CopiesR (n m : Nat) (S : Nat → Prop) (o : Nat → Nat) : Prop :=
  (∀ c, n ≤ c → c < m → S (o c)) ∧
  (∀ c c', n ≤ c → c < m → n ≤ c' → c' < m → o c = o c' → c = c')

theorem CopiesR.mono {n m : Nat} {S S' : Nat → Prop} {o : Nat → Nat} (h : CopiesR n m S o)
    (hs : ∀ y, S y → S' y) : CopiesR n m S' o :=
  ⟨fun c h1 h2 => hs _ (h.1 c h1 h2), h.2⟩

theorem CopiesR.empty (n : Nat) (S : Nat → Prop) (o : Nat → Nat) : CopiesR n n S o :=
  ⟨fun c h1 h2 => by omega, fun c c' h1 h2 => by omega⟩

set_option linter.unusedVariables false in
theorem CopiesR.extend {n m m' : Nat} {S S' : Nat → Prop} {o o' : Nat → Nat}
    (h : CopiesR n m S o) (hmm : m ≤ m') (hag : ∀ c, c < m → o' c = o c) (h' : CopiesR m m' S' o')
    (hdis : ∀ y, S y → S' y → False) : CopiesR n m' (fun y => S y ∨ S' y) o' := by
  refine ⟨?_, ?_⟩
  · intro c h1 h2
    rcases Nat.lt_or_ge c m with hc | hc
    · left; rw [hag c hc]; exact h.1 c h1 hc
    · right; exact h'.1 c hc h2
  · intro c c' h1 h2 h1' h2' e
    rcases Nat.lt_or_ge c m with hc | hc <;> rcases Nat.lt_or_ge c' m with hc' | hc'
    · rw [hag c hc, hag c' hc'] at e; exact h.2 c c' h1 hc h1' hc' e
    · exfalso
      have a := h.1 c h1 hc
      have b := h'.1 c' hc' h2'
      rw [← hag c hc, e] at a
      exact hdis _ a b
    · exfalso
      have a := h.1 c' h1' hc'
      have b := h'.1 c hc h2
      rw [← hag c' hc', ← e] at a
      exact hdis _ a b
    · exact h'.2 c c' hc h2 hc' h2' e

/-- Copies of pairwise different objects below `n`: there are at most `n` of them. -/
theorem CopiesR.count {n m : Nat} {S : Nat → Prop} {o : Nat → Nat} (h : CopiesR n m S o)
    (hS : ∀ y, S y → y < n) (hnm : n ≤ m) : m ≤ 2 * n := by
  have hnd : ((List.range' n (m - n)).map o).Nodup := by
    refine List.pairwise_map.mpr ((List.nodup_range' 1).imp_of_mem fun ha hb hne e => hne ?_)
    simp only [List.mem_range'_1] at ha hb
    exact h.2 _ _ ha.1 (by omega) hb.1 (by omega) e
  have hlt : ∀ y ∈ (List.range' n (m - n)).map o, y < n := by
    intro y hy
    simp only [List.mem_map, List.mem_range'_1] at hy
    obtain ⟨a, ha, rfl⟩ := hy
    exact hS _ (h.1 a ha.1 (by omega))
  have := length_le_of_nodup_lt hnd hlt
  simp only [List.length_map, List.length_range'] at this
  omega

/-- The subtrees of two different children of the same object are disjoint. -/
theorem sib_disjoint {h : H} (w : WF h) {x k k' y : Nat} (hk : (h.node k).parent = some x)
    (hk' : (h.node k').parent = some x) (hne : k ≠ k') (a : Anc h k y) (b : Anc h k' y) : False := by
  rcases anc_comparable a b with c | c
  · exact not_anc_parent w hk (c.of_parent hk' hne)
  · exact not_anc_parent w hk' (c.of_parent hk (Ne.symm hne))

/-- Set of the objects a clone of `x` may have copied after the children in `D` are done. -/
def CopiedSoFar (h0 : H) (x : Nat) (D : List Nat) : Nat → Prop := fun y => y = x ∨ ∃ k ∈ D, Anc h0 k y

theorem CopiedSoFar.anc {h0 : H} {x : Nat} {D : List Nat} (hD : ∀ k ∈ D, (h0.node k).parent = some x) :
    ∀ y, CopiedSoFar h0 x D y → Anc h0 x y := by
  intro y hy
  rcases hy with e | ⟨k, hk, ha⟩
  · rw [e]; exact Anc.refl _
  · exact ha.above (hD k hk)

theorem copyObj_orig (s : X) (x i : Nat) :
    (copyObj s x).1.orig i = if i = s.h.size then s.orig x else s.orig i := by
  unfold copyObj
  simp only
  split
  · rename_i s1 heq
    have : s1.orig = s.orig := by rw [← prim_orig s, heq]
    simp only [this]
  · rename_i s1 o hne heq
    exfalso
    have h1 := (copyObj_spec s x).2.1
    unfold copyObj at h1
    simp only [heq] at h1
    cases o <;> simp at h1 hne

theorem CopiedSoFar.mono {h0 : H} {x : Nat} {D D' : List Nat} (h : ∀ k ∈ D, k ∈ D') :
    ∀ y, CopiedSoFar h0 x D y → CopiedSoFar h0 x D' y := by
  intro y hy
  rcases hy with e | ⟨k, hk, ha⟩
  · exact Or.inl e
  · exact Or.inr ⟨k, h k hk, ha⟩

theorem append_detached_size {h : H} (w : WF h) {p x : Nat} (hxs : x < h.size)
    (hx : (h.node x).parent = none) : (step h (.append p x)).1.size = h.size := by
  rcases step_append_detached (p := p) w hxs hx with he | ⟨_, hsz, _⟩
  · rw [he]
  · exact hsz

theorem copies_child {h0 : H} (w0 : WF h0) {x k n m m' : Nat} {D : List Nat} {o o' : Nat → Nat}
    (hk : (h0.node k).parent = some x) (hkD : k ∉ D) (hD : ∀ k' ∈ D, (h0.node k').parent = some x)
    (h : CopiesR n m (CopiedSoFar h0 x D) o) (hmm : m ≤ m') (hag : ∀ c, c < m → o' c = o c)
    (h' : CopiesR m m' (Anc h0 k) o') : CopiesR n m' (CopiedSoFar h0 x (k :: D)) o' := by
  refine (h.extend hmm hag h' ?_).mono ?_
  · intro y a b
    rcases a with e | ⟨k', hk', a'⟩
    · rw [e] at b; exact not_anc_parent w0 hk b
    · exact sib_disjoint w0 (hD k' hk') hk (fun e => hkD (e ▸ hk')) a' b
  · intro y a
    rcases a with (e | ⟨k', hk', a'⟩) | b
    · exact Or.inl e
    · exact Or.inr ⟨k', List.mem_cons_of_mem _ hk', a'⟩
    · exact Or.inr ⟨k, List.mem_cons_self, b⟩

/-- What was added from `t` to `r` are copies of pairwise different objects at or below `x`. -/
def CopiesOf (h0 : H) (x : Nat) (t r : X) : Prop :=
  (∀ i, i < t.h.size → r.orig i = t.orig i) ∧ CopiesR t.h.size r.h.size (Anc h0 x) r.orig

theorem CopiesOf.refl (h0 : H) (x : Nat) (t : X) : CopiesOf h0 x t t :=
  ⟨fun _ _ => rfl, CopiesR.empty _ _ _⟩

/-- The children `L` of `x` still to be handled, and those done before, `D`. -/
structure Kids (h0 : H) (x : Nat) (L D : List Nat) : Prop where
  nodup : L.Nodup
  todo : ∀ k ∈ L, (h0.node k).parent = some x ∧ k ∉ D
  done : ∀ k ∈ D, (h0.node k).parent = some x

theorem Kids.secs {h0 : H} (w0 : WF h0) (x : Nat) : Kids h0 x (h0.node x).secs [] :=
  ⟨w0.nodupS x, fun k hk => ⟨((w0.memS x k).mp hk).1, List.not_mem_nil⟩,
    fun _ hk => absurd hk List.not_mem_nil⟩

theorem Kids.props {h0 : H} (w0 : WF h0) (x : Nat) : Kids h0 x (h0.node x).props (h0.node x).secs :=
  ⟨w0.nodupP x, fun k hk => ⟨((w0.memP x k).mp hk).1, fun hm => by
      have a := ((w0.memS x k).mp hm).2
      rw [((w0.memP x k).mp hk).2] at a
      cases a⟩,
    fun k hk => ((w0.memS x k).mp hk).1⟩

theorem Kids.tail {h0 : H} {x k : Nat} {ks D : List Nat} (K : Kids h0 x (k :: ks) D) :
    Kids h0 x ks (k :: D) := by
  have hnd := List.nodup_cons.mp K.nodup
  refine ⟨hnd.2, fun k' hk' => ⟨(K.todo k' (List.mem_cons_of_mem _ hk')).1, fun hm => ?_⟩,
    fun k' hk' => (List.mem_cons.mp hk').elim (fun e => e ▸ (K.todo k List.mem_cons_self).1) (K.done k')⟩
  exact (List.mem_cons.mp hm).elim (fun e => hnd.1 (e ▸ hk'))
    (K.todo k' (List.mem_cons_of_mem _ hk')).2

theorem Kids.all {h0 : H} {x : Nat} {L D : List Nat} (K : Kids h0 x L D) :
    ∀ k ∈ L ++ D, (h0.node k).parent = some x :=
  fun k hk => (List.mem_append.mp hk).elim (fun e => (K.todo k e).1) (K.done k)

/-- What the stages of a clone of `x` keep: `CloneInv`, `orig` of the objects that existed before,
    and that the copies made so far are copies of `x` and of what is below the children in `D`. -/
def CopyInv (h0 : H) (x n c : Nat) (hs : H) (os : Nat → Nat) (D : List Nat) (t : X) : Prop :=
  CloneInv n c hs t.h ∧ (∀ i, i < n → t.orig i = os i) ∧ CopiesR n t.h.size (CopiedSoFar h0 x D) t.orig

theorem CopyInv.mono {h0 : H} {x n c : Nat} {hs : H} {os : Nat → Nat} {D D' : List Nat} {t : X}
    (j : CopyInv h0 x n c hs os D t) (h : ∀ k ∈ D, k ∈ D') : CopyInv h0 x n c hs os D' t :=
  ⟨j.1, j.2.1, j.2.2.mono (CopiedSoFar.mono h)⟩

theorem kidsLoop_copies {rec : X → Nat → X × Nat × XOut}
    (hrec : ∀ t k, WF t.h → CloneRes t (rec t k)) {n c : Nat} {hs : H} (hcn : n ≤ c)
    {h0 : H} (w0 : WF h0) {x : Nat} {os : Nat → Nat}
    (hrc : ∀ t k, CloneInv n c hs t.h → (∀ i, i < n → t.orig i = os i) →
      (h0.node k).parent = some x → CopiesOf h0 k t (rec t k).1) :
    ∀ (ks D : List Nat) (s : X), Kids h0 x ks D →
      CopyInv h0 x n c hs os D s → CopyInv h0 x n c hs os (ks ++ D) (kidsLoop rec c ks s).1 := by
  intro ks
  induction ks with
  | nil => intro D s _ j; exact j
  | cons k ks ih =>
    intro D s K j
    obtain ⟨inv1, inv2⟩ := kids_step_inv hrec hcn s k j.1
    have hk := K.todo k List.mem_cons_self
    obtain ⟨ra, rb⟩ := hrc s k j.1 j.2.1 hk.1
    have h1 := hrec s k j.1.wf
    have hns : n ≤ s.h.size := Nat.le_trans hcn (Nat.le_of_lt j.1.lt)
    -- the state after the clone of `k`, and after the copy has been appended
    have j1 : CopyInv h0 x n c hs os (k :: D) (rec s k).1 :=
      ⟨inv1, fun i hi => by rw [ra i (by omega)]; exact j.2.1 i hi,
        copies_child w0 hk.1 hk.2 K.done j.2.2 h1.same.1 ra rb⟩
    have hsub : ∀ k' ∈ k :: D, k' ∈ (k :: ks) ++ D := fun k' hk' =>
      (List.mem_cons.mp hk').elim (fun e => e ▸ List.mem_append_left _ List.mem_cons_self)
        (List.mem_append_right _)
    rw [kidsLoop_cons]
    refine andThen_keep (Q := CopyInv h0 x n c hs os ((k :: ks) ++ D)) (fun hok => ?_) (j1.mono hsub)
    have j2 : CopyInv h0 x n c hs os (k :: D) ((rec s k).1.prim (.append c (rec s k).2.1)).1 := by
      refine ⟨inv2 hok, j1.2.1, ?_⟩
      rw [prim_orig, prim_h, append_detached_size inv1.wf (h1.ok hok).1 (h1.ok hok).2]
      exact j1.2.2
    refine andThen_keep (Q := CopyInv h0 x n c hs os ((k :: ks) ++ D)) (fun _ => ?_) (j2.mono hsub)
    refine (ih (k :: D) _ K.tail j2).mono ?_
    intro k' hk'
    rcases List.mem_append.mp hk' with e | e
    · exact List.mem_append_left _ (List.mem_cons_of_mem _ e)
    · exact hsub k' e

theorem prot_child {h0 : H} (w0 : WF h0) {P : Nat → Prop} (hP : Prot h0 P) {x k : Nat} (px : P x)
    (hk : (h0.node k).parent = some x) : P k := by
  rcases w0.kind_of_parent hk with hs | hp
  · exact hP.secs x px k ((w0.memS x k).mpr ⟨hk, hs⟩)
  · exact hP.props x px k ((w0.memP x k).mpr ⟨hk, hp⟩)

theorem newIdUnless_orig_size (kid : Bool) (O : Oracle) (s : X) (c : Nat) (hc : c < s.h.size) :
    (newIdUnless kid O s c).1.orig = s.orig ∧ (newIdUnless kid O s c).1.h.size = s.h.size := by
  unfold newIdUnless
  split
  · exact ⟨rfl, rfl⟩
  · refine ⟨prim_orig _ _, ?_⟩
    rw [prim_h, step_newId _ _ _ hc]; rfl

theorem cloneAux_orig_old (O : Oracle) (fuel : Nat) (s : X) (x : Nat) (ch kid : Bool) (w : WF s.h) :
    ∀ i, i < s.h.size → (cloneAux O fuel s x ch kid).1.orig i = s.orig i :=
  cloneAux_old X.orig (fun _ _ => rfl) (fun s x i hi => by rw [copyObj_orig, if_neg hi]) O fuel s x
    ch kid w

/-- The objects a clone of `x` adds are copies of pairwise different objects at or below `x`
    (`x` in the protected part of the heap, where `orig` is the identity). -/
theorem cloneAux_copies (O : Oracle) {h0 : H} (w0 : WF h0) {P : Nat → Prop} (hP : Prot h0 P) :
    ∀ (fuel : Nat) (s : X) (x : Nat) (ch kid : Bool),
      Kept h0 P s.h → (∀ y, P y → s.orig y = y) → P x →
      CopiesR s.h.size (cloneAux O fuel s x ch kid).1.h.size (Anc h0 x)
        (cloneAux O fuel s x ch kid).1.orig := by
  intro fuel
  induction fuel with
  | zero => intro s x ch kid _ ho px; exact CopiesR.empty _ _ _
  | succ fuel ih =>
    intro s x ch kid kp ho px
    have w := kp.wf
    have hrec := cloneAux_spec_rec O fuel kid
    have hrc : ∀ (t : X) (k : Nat), CloneInv s.h.size s.h.size s.h t.h →
        (∀ i, i < s.h.size → t.orig i = s.orig i) → (h0.node k).parent = some x →
        CopiesOf h0 k t ((fun t k => cloneAux O fuel t k true kid) t k).1 := by
      intro t k inv hot hk
      refine ⟨cloneAux_orig_old O fuel t k true kid inv.wf,
        ih t k true kid (kp.same hP inv.wf inv.same) ?_ (prot_child w0 hP px hk)⟩
      intro y py
      rw [hot y (Nat.lt_of_lt_of_le (hP.lt y py) kp.size)]; exact ho y py
    have KS := Kids.secs w0 x
    have KP := Kids.props w0 x
    have j1 : CopyInv h0 x s.h.size s.h.size s.h s.orig [] (copyObj s x).1 := by
      have hsz1 : (copyObj s x).1.h.size = s.h.size + 1 := by rw [(copyObj_spec s x).2.2]; rfl
      refine ⟨copyObj_cloneInv w x, fun i hi => by rw [copyObj_orig, if_neg (Nat.ne_of_lt hi)],
        fun c' h1 h2 => ?_, fun c' c'' h1 h2 h1' h2' _ => by omega⟩
      rw [copyObj_orig, if_pos (by omega), ho x px]; exact Or.inl rfl
    have jn : ∀ (D : List Nat) (t : X), CopyInv h0 x s.h.size s.h.size s.h s.orig D t →
        CopyInv h0 x s.h.size s.h.size s.h s.orig D (newIdUnless kid O t s.h.size).1 := by
      intro D t j
      obtain ⟨e1, e2⟩ := newIdUnless_orig_size kid O t s.h.size j.1.lt
      exact ⟨newIdUnless_spec (Nat.le_refl _) kid O t j.1, by rw [e1]; exact j.2.1,
        by rw [e1, e2]; exact j.2.2⟩
    have fin : ∀ (D : List Nat) (t : X), (∀ k ∈ D, (h0.node k).parent = some x) →
        CopyInv h0 x s.h.size s.h.size s.h s.orig D t →
        CopiesR s.h.size t.h.size (Anc h0 x) t.orig := fun D t hD j => j.2.2.mono (CopiedSoFar.anc hD)
    rw [cloneAux_succ]
    show CopiesR s.h.size (cloneBody O fuel s x ch kid).1.h.size (Anc h0 x)
      (cloneBody O fuel s x ch kid).1.orig
    unfold cloneBody
    split
    · exact fin [] _ (fun k hk => absurd hk List.not_mem_nil) (jn [] _ j1)
    · rw [kp.node x px]
      -- first loop: the child Sections (or nothing)
      have j2 : CopyInv h0 x s.h.size s.h.size s.h s.orig (h0.node x).secs
          (kidsIf ch (fun t k => cloneAux O fuel t k true kid) s.h.size (h0.node x).secs
            (copyObj s x).1).1 := by
        unfold kidsIf
        split
        · exact (kidsLoop_copies hrec (Nat.le_refl _) w0 hrc (h0.node x).secs [] _ KS j1).mono
            (fun k hk => by simpa using hk)
        · exact j1.mono (fun k hk => absurd hk List.not_mem_nil)
      have j3 := jn _ _ j2
      refine andThen_keep (Q := fun t : X => CopiesR s.h.size t.h.size (Anc h0 x) t.orig)
        (fun _ => andThen_keep (Q := fun t : X => CopiesR s.h.size t.h.size (Anc h0 x) t.orig)
          (fun _ => ?_) (fin _ _ KP.done j3))
        (fin _ _ KP.done j2)
      split
      · exact fin _ _ KP.all (kidsLoop_copies hrec (Nat.le_refl _) w0 hrc (h0.node x).props
          (h0.node x).secs _ KP j3)
      · exact fin _ _ KP.done j3


theorem not_mem_take_of_nodup : ∀ {L : List Nat}, L.Nodup → ∀ (i o : Nat), L[i]? = some o → o ∉ L.take i := by
  intro L hnd i o h hm
  obtain ⟨k, hk, e⟩ := List.mem_take_iff_getElem.mp hm
  obtain ⟨hki, hkl⟩ := Nat.lt_min.mp hk
  exact Nat.ne_of_lt hki ((List.getElem?_inj hkl hnd).mp
    ((List.getElem?_eq_getElem hkl).trans ((congrArg some e).trans h.symm)))

theorem markCopy_orig (t : X) (c obj : Nat) (mm : Option Bool) : (t.markCopy c obj mm).orig = t.orig := by
  cases mm <;> rfl

theorem cloneAppend_copies (O : Oracle) {h0 : H} (w0 : WF h0) {P : Nat → Prop} (hP : Prot h0 P)
    (f : Nat) (t : X) (dest obj : Nat) (mark : Option Bool) (kp : Kept h0 P t.h)
    (ho : ∀ y, P y → t.orig y = y) (po : P obj) :
    CopiesOf h0 obj t (cloneAppend O f t dest obj mark).1 := by
  have a := cloneAux_orig_old O f t obj true false kp.wf
  have b := cloneAux_copies O w0 hP f t obj true false kp ho po
  have h1 := cloneAux_spec O f t obj true false kp.wf
  unfold cloneAppend
  split
  · rename_i t1 c heq
    rw [heq] at a b h1
    simp only at a b
    obtain ⟨hck, hdet⟩ := h1.ok rfl
    have e1 : ((t1.markCopy c obj mark).prim (.append dest c)).1.orig = t1.orig := by
      rw [prim_orig, markCopy_orig]
    have e2 : ((t1.markCopy c obj mark).prim (.append dest c)).1.h.size = t1.h.size := by
      rw [prim_h, markCopy_h]; exact append_detached_size h1.wf hck hdet
    unfold CopiesOf
    rw [e1, e2]; exact ⟨a, b⟩
  · rename_i t1 _ o _ heq
    rw [heq] at a b
    exact ⟨a, b⟩

/-- Kept by the two loops of a merge started in `t`: `L` the list iterated, `j` the index
    reached, `D0` the children done before the loop. -/
structure MergeCopyInv (h0 : H) (t : X) (dest src : Nat) (L D0 : List Nat) (j : Nat) (t' : X) :
    Prop where
  mfr : MFr t.h dest t'.h
  orig : ∀ i, i < t.h.size → t'.orig i = t.orig i
  copies : CopiesR t.h.size t'.h.size (CopiedSoFar h0 src (L.take j ++ D0)) t'.orig

/-- One child handled (by a recursive merge, by a clone, or not at all: `r = t'`). -/
theorem MergeCopyInv.step {h0 : H} (w0 : WF h0) {t t' r : X} {dest src obj j : Nat}
    {L D0 : List Nat} (K : Kids h0 src L D0) (inv : MergeCopyInv h0 t dest src L D0 j t')
    (hj : L[j]? = some obj) (mfr : MFr t.h dest r.h) (sp : CopiesOf h0 obj t' r)
    (hle : t'.h.size ≤ r.h.size) : MergeCopyInv h0 t dest src L D0 (j + 1) r := by
  have hobj := K.todo obj (List.mem_of_getElem? hj)
  have htl : t.h.size ≤ t'.h.size := inv.mfr.size_le
  refine ⟨mfr, fun i hi => by rw [sp.1 i (by omega)]; exact inv.orig i hi, ?_⟩
  have := copies_child w0 (D := L.take j ++ D0) hobj.1
    (fun hm => (List.mem_append.mp hm).elim (not_mem_take_of_nodup K.nodup j obj hj) hobj.2)
    (fun k' hk' => (List.mem_append.mp hk').elim
      (fun e => (K.todo k' (List.mem_of_mem_take e)).1) (K.done k'))
    inv.copies hle sp.1 sp.2
  refine this.mono (CopiedSoFar.mono fun k hk => ?_)
  simpa [List.take_add_one, hj, or_comm, or_left_comm, or_assoc] using hk

theorem MergeCopyInv.fin {h0 : H} {t t' : X} {dest src j : Nat} {L D0 : List Nat}
    (K : Kids h0 src L D0) (inv : MergeCopyInv h0 t dest src L D0 j t') : CopiesOf h0 src t t' :=
  ⟨inv.orig, inv.copies.mono (CopiedSoFar.anc fun k hk =>
    (List.mem_append.mp hk).elim (fun e => (K.todo k (List.mem_of_mem_take e)).1) (K.done k))⟩

theorem MergeCopyInv.next {h0 : H} {t t' : X} {dest src j : Nat} {L L' : List Nat}
    (inv : MergeCopyInv h0 t dest src L [] j t') : MergeCopyInv h0 t dest src L' L 0 t' := by
  refine ⟨inv.mfr, inv.orig, inv.copies.mono (CopiedSoFar.mono fun k hk => ?_)⟩
  simp only [List.append_nil, List.take_zero, List.nil_append] at hk ⊢
  exact List.mem_of_mem_take hk

/-- The objects a merge adds are copies of pairwise different objects at or below the source. -/
theorem mergeAux_copies (O : Oracle) {h0 : H} (w0 : WF h0) {P : Nat → Prop} (hP : Prot h0 P) :
    ∀ (fuel : Nat) (t : X) (record : Bool) (dest src : Nat),
      Kept h0 P t.h → (∀ y, P y → t.orig y = y) → (∀ y, P y → ¬ Anc t.h dest y) → P src →
      CopiesOf h0 src t (mergeAux O fuel t record dest src).1 := by
  intro fuel
  induction fuel with
  | zero =>
    intro t record dest src _ ho hna ps
    exact CopiesOf.refl _ _ _
  | succ f ih =>
    intro t record dest src kp ho hna ps
    have w := kp.wf
    have triv := CopiesOf.refl h0 src t
    have KS := Kids.secs w0 src
    have KP := Kids.props w0 src
    have hs' : ∀ t' : X, MFr t.h dest t'.h → ∀ y, P y → t'.h.node y = h0.node y :=
      fun t' a => (kp.mfr hP hna a).node
    have hoo : ∀ t' : X, (∀ i, i < t.h.size → t'.orig i = t.orig i) → ∀ y, P y → t'.orig y = y :=
      fun t' e y py => by rw [e y (Nat.lt_of_lt_of_le (hP.lt y py) kp.size)]; exact ho y py
    have cloneInv : ∀ (L D0 : List Nat) (j : Nat) (t' : X) (obj : Nat) (mark : Option Bool),
        Kids h0 src L D0 → MergeCopyInv h0 t dest src L D0 j t' → L[j]? = some obj →
        MergeCopyInv h0 t dest src L D0 (j + 1) (cloneAppend O f t' dest obj mark).1 := by
      intro L D0 j t' obj mark K inv hj
      have hobj := K.todo obj (List.mem_of_getElem? hj)
      have a := inv.mfr
      have sp := cloneAppend_copies O w0 hP f t' dest obj mark (kp.mfr hP hna a)
        (hoo t' inv.orig) (prot_child w0 hP ps hobj.1)
      have m2 := cloneAppend_mfr O f t' obj mark a
      have hle : t'.h.size ≤ (cloneAppend O f t' dest obj mark).1.h.size :=
        (cloneAppend_adds O f (Nat.le_refl _) t' dest obj mark ⟨a.wf, Adds.refl _ _⟩).adds.size_le
      exact inv.step w0 K hj m2 sp hle
    rw [mergeAux_succ]
    split
    · exact triv
    · exact triv
    · split
      · exact triv
      · exact triv
      · obtain ⟨j1, i1⟩ := liveLoop_idx (fun t' : X => (t'.h.node src).secs)
          (mergeSecBody O f (mergeAux O f) record dest)
          (MergeCopyInv h0 t dest src (h0.node src).secs [])
          (by
            intro j t' obj inv hj
            rw [hs' t' inv.mfr src ps] at hj
            have hobj := KS.todo obj (List.mem_of_getElem? hj)
            have a := inv.mfr
            have hmfr := mergeSecBody_mfr O f (mergeAux_frame O f) w record dest t' obj a
            unfold mergeSecBody at hmfr ⊢
            split
            · rename_i mine hc
              rw [hc] at hmfr
              simp only at hmfr
              have hp : (t'.h.node mine).parent = some dest :=
                ((a.wf.memS dest mine).mp (containsS_mem hc).1).1
              have sp := ih t' (record && !t'.resolved mine) mine obj (kp.mfr hP hna a)
                (hoo t' inv.orig) (kp.away hP hna a hp) (prot_child w0 hP ps hobj.1)
              have hle := (mergeAux_frame O f t' (record && !t'.resolved mine) mine obj a.wf).size_le
              exact inv.step w0 KS hj hmfr sp hle
            · exact cloneInv _ [] j t' obj _ KS inv hj)
          f 0 t ⟨MFr.refl w dest, fun _ _ => rfl, by simpa using CopiesR.empty _ _ _⟩
        refine andThen_keep (Q := CopiesOf h0 src t) (fun _ => ?_) (i1.fin KS)
        · obtain ⟨j2, i2⟩ := liveLoop_idx (fun t' : X => (t'.h.node src).props)
            (mergePropBody O f dest)
            (MergeCopyInv h0 t dest src (h0.node src).props (h0.node src).secs)
            (by
              intro j t' obj inv hj
              rw [hs' t' inv.mfr src ps] at hj
              unfold mergePropBody
              split
              · split <;> exact inv.step w0 KP hj inv.mfr (CopiesOf.refl _ _ _) (Nat.le_refl _)
              · exact cloneInv _ _ j t' obj _ KP inv hj)
            f 0 _ i1.next
          have r2 := i2.fin KP
          refine andThen_keep (Q := CopiesOf h0 src t) (fun _ => ?_) r2
          split <;> exact r2

/-- A merge of a source that is apart from the destination at most doubles the number of objects
    (in a state in which `orig` is the identity on the allocated objects, as at the beginning of
    every operation of a history). -/
theorem mergeAux_size_le (O : Oracle) (fuel : Nat) (t : X) (record : Bool) (dest src : Nat)
    (w : WF t.h) (a : Apart t.h dest src) (ho : ∀ y, y < t.h.size → t.orig y = y) :
    (mergeAux O fuel t record dest src).1.h.size ≤ 2 * t.h.size := by
  have hP := prot_subtree w a.lt
  obtain ⟨_, c⟩ := mergeAux_copies O w hP fuel t record dest src (Kept.refl w _)
    (fun y py => ho y (hP.lt y py)) (fun y hy hd => (anc_comparable hy hd).elim a.not_above a.not_below)
    (Anc.refl _)
  exact c.count (fun y hy => hP.lt y hy) (mergeAux_frame O fuel t record dest src w).size_le

theorem cleanIfLinked_orig (O : Oracle) (f : Nat) (s : X) (x : Nat) :
    (cleanIfLinked O f s x).1.orig = s.orig :=
  cleanIfLinked_inv (P := fun t => t.orig = s.orig) (fun _ _ _ h => h) (fun _ _ h => h) O f s x rfl

theorem linkBudget_le (O : Oracle) (s : X) (x : Nat) (v : LinkVal) (w : WF s.h)
    (hv : ∀ t, v = .path (some t) → Apart s.h x t)
    (ho : ∀ y, y < s.h.size → s.orig y = y) : linkBudget O s x v ≤ 6 * s.h.size + 3 := by
  cases v with
  | none => simp only [linkBudget]; omega
  | falsy => simp only [linkBudget]; omega
  | path tt =>
    cases tt with
    | none => simp only [linkBudget]; omega
    | some t =>
      simp only [linkBudget]
      have i0 := cleanIfLinked_cinv O (3 * s.h.size + 2) s x w
      have hsz1 : (cleanIfLinked O (3 * s.h.size + 2) s x).1.h.size = s.h.size := i0.size_eq
      have := mergeAux_size_le O (3 * s.h.size + 2) (cleanIfLinked O (3 * s.h.size + 2) s x).1 true x t
        i0.wf ((hv t rfl).detaches i0) (fun y hy => by rw [cleanIfLinked_orig]; exact ho y (by rw [← hsz1]; exact hy))
      rw [hsz1] at this
      omega
