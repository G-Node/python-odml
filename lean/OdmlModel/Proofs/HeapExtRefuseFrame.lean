/-
Refusals of the compound operations (property C06): what a merge into `dest` can touch.

Relative to the state `s0` in which a merge into `d0` starts: the heap stays well-formed and free
of empty names, the objects that existed only gain children (`Adds`), an object that is not below
`d0` is exactly as it was, and the scratch component `orig` of the existing objects is untouched
(`MergeFrame`). This holds whatever the outcome.
-/
import OdmlModel.Proofs.HeapExtRefuseClone

namespace Heap.Refuse

/-- See the header; `fr` is the part about the heap alone (`MFr`, Proofs/HeapExtFuel.lean). -/
structure MergeFrame (s0 : X) (d0 : Nat) (t : X) : Prop where
  fr : MFr s0.h d0 t.h
  noEmpty : NoEmptyName t.h
  orig : ∀ i, i < s0.h.size → t.orig i = s0.orig i

section
variable {s0 t : X} {d0 : Nat} (h : MergeFrame s0 d0 t)
include h

theorem MergeFrame.wf : WF t.h := h.fr.wf

theorem MergeFrame.adds : Adds s0.h.size s0.h t.h := h.fr.adds

theorem MergeFrame.out : ∀ i, i < s0.h.size → ¬ Anc s0.h d0 i → t.h.node i = s0.h.node i := h.fr.frame

theorem MergeFrame.kind {i : Nat} (hi : i < s0.h.size) : (t.h.node i).kind = (s0.h.node i).kind :=
  (h.adds.2 i hi).1

theorem MergeFrame.name {i : Nat} (hi : i < s0.h.size) : (t.h.node i).name = (s0.h.node i).name :=
  (h.adds.2 i hi).2.1

theorem MergeFrame.child {u : X} {mine : Nat} (w0 : WF s0.h) (hm : mine ∈ (t.h.node d0).secs)
    (b : MergeFrame t mine u) : MergeFrame s0 d0 u :=
  ⟨h.fr.child w0 hm b.fr, b.noEmpty, fun i hi => by
    rw [b.orig i (Nat.lt_of_lt_of_le hi h.adds.1)]; exact h.orig i hi⟩

end

theorem MergeFrame.refl {s0 : X} (d0 : Nat) (w : WF s0.h) (hn : NoEmptyName s0.h) : MergeFrame s0 d0 s0 :=
  ⟨MFr.refl w d0, hn, fun _ _ => rfl⟩

theorem cloneAppend_mf (O : Oracle) (fuel : Nat) {s0 : X} {d0 : Nat}
    (t : X) (obj : Nat) (mm : Option Bool) (h : MergeFrame s0 d0 t) (ho : obj < t.h.size) :
    MergeFrame s0 d0 (cloneAppend O fuel t d0 obj mm).1 := by
  have key : NoEmptyName (cloneAppend O fuel t d0 obj mm).1.h ∧
      (cloneAppend O fuel t d0 obj mm).1.orig = (cloneAux O fuel t obj true false).1.orig := by
    have r0 := cloneAux_spec O fuel t obj true false h.wf
    have r1 := cloneAux_full O fuel t obj true false h.wf h.noEmpty ho
    unfold cloneAppend
    split
    · rename_i t1 c heq
      rw [heq] at r0 r1 ⊢
      refine ⟨?_, by rw [prim_orig, markCopy_orig]⟩
      rw [prim_h, markCopy_h]
      rcases step_append_detached (p := d0) r0.wf (r0.ok rfl).1 (r0.ok rfl).2 with he | ⟨_, ha⟩
      · rw [he]; exact r1.noEmpty
      · exact appended_noEmpty ha r1.noEmpty
    · rename_i t1 c o hne heq
      rw [heq] at r1 ⊢
      exact ⟨r1.noEmpty, rfl⟩
  refine ⟨cloneAppend_mfr O fuel t obj mm h.fr, key.1, fun i hi => ?_⟩
  rw [key.2, (cloneAux_full O fuel t obj true false h.wf h.noEmpty ho).orig i
    (Nat.lt_of_lt_of_le hi h.adds.1)]
  exact h.orig i hi

theorem mergeAux_mf (O : Oracle) : ∀ (fuel : Nat) (t : X) (record : Bool) (dest src : Nat),
    WF t.h → NoEmptyName t.h → MergeFrame t dest (mergeAux O fuel t record dest src).1 := by
  intro fuel
  induction fuel with
  | zero => intro t record dest src w hn; exact MergeFrame.refl dest w hn
  | succ fuel ih =>
    intro t record dest src w hn
    have h := MergeFrame.refl dest w hn
    rw [mergeAux_succ]
    split
    · exact h
    · exact h
    · split
      · exact h
      · exact h
      · have h1 := liveLoop_keep (fun u => (u.h.node src).secs)
          (mergeSecBody O fuel (mergeAux O fuel) record dest) (MergeFrame t dest)
          (by
            intro u o hu hmem
            unfold mergeSecBody
            split
            · rename_i mine hc
              exact hu.child w (containsS_mem hc).1 (ih _ _ _ _ hu.wf hu.noEmpty)
            · exact cloneAppend_mf O fuel u o (some record) hu
                (hu.wf.child_lt ((hu.wf.memS src o).mp hmem).1)) fuel 0 t h
        refine andThen_keep (Q := MergeFrame t dest) (fun _ => ?_) h1
        have h2 := liveLoop_keep (fun u => (u.h.node src).props)
          (mergePropBody O fuel dest) (MergeFrame t dest)
          (by
            intro u o hu hmem
            unfold mergePropBody
            split
            · split <;> exact hu
            · exact cloneAppend_mf O fuel u o none hu
                (hu.wf.child_lt ((hu.wf.memP src o).mp hmem).1)) fuel 0 _ h1
        refine andThen_keep (Q := MergeFrame t dest) (fun _ => ?_) h2
        split
        · exact ⟨h2.fr, h2.noEmpty, h2.orig⟩
        · exact h2

end Heap.Refuse
