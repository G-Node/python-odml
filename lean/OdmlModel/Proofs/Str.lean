/-
Lemmas about the model `Py/Str.lean` (decimal text of naturals, strip, split, lower case).
-/
import OdmlModel.Py.Str

namespace Py

theorem natOfDigits_append_single (s : List Char) (c : Char) :
    natOfDigits (s ++ [c]) = 10 * natOfDigits s + (c.toNat - 48) := by
  simp [natOfDigits, List.foldl_append]

theorem natOfDigits_natToDigits (n : Nat) : natOfDigits (natToDigits n) = n := by
  induction n using Nat.strongRecOn with
  | _ n ih =>
    unfold natToDigits
    rw [Nat.toDigits_eq_if (by decide)]
    split
    · rename_i h
      simp [natOfDigits, Nat.toNat_digitChar_sub_48_of_lt_ten h]
    · rename_i h
      have hlt : n / 10 < n := Nat.div_lt_self (by omega) (by decide)
      have := ih (n / 10) hlt
      unfold natToDigits at this
      rw [natOfDigits_append_single, this,
        Nat.toNat_digitChar_sub_48_of_lt_ten (Nat.mod_lt n (by decide))]
      omega

theorem natToDigits_ne_nil (n : Nat) : natToDigits n ≠ [] :=
  Nat.toDigits_ne_nil

theorem natToDigits_all_digit (n : Nat) : (natToDigits n).all Char.isDigit = true := by
  simp only [List.all_eq_true]
  intro c hc
  exact Nat.isDigit_of_mem_toDigits (by decide) (by decide) hc

theorem natToDigits_cons (n : Nat) : ∃ c cs, natToDigits n = c :: cs ∧ c.isDigit = true := by
  have hne := natToDigits_ne_nil n
  have hall := natToDigits_all_digit n
  cases h : natToDigits n with
  | nil => exact absurd h hne
  | cons c cs =>
    rw [h] at hall
    simp only [List.all_cons, Bool.and_eq_true] at hall
    exact ⟨c, cs, rfl, hall.1⟩

theorem isDigitStr_natToDigits (n : Nat) : isDigitStr (natToDigits n) = true := by
  simp [isDigitStr, natToDigits_all_digit, natToDigits_ne_nil]

theorem isDigit_bounds {c : Char} (h : c.isDigit = true) : 48 ≤ c.toNat ∧ c.toNat ≤ 57 := by
  simp only [Char.isDigit, Bool.and_eq_true, decide_eq_true_eq, ge_iff_le] at h
  obtain ⟨h1, h2⟩ := h
  rw [UInt32.le_iff_toNat_le] at h1 h2
  exact ⟨h1, h2⟩

theorem isDigit_not_space {c : Char} (h : c.isDigit = true) : isSpace c = false := by
  have := isDigit_bounds h
  simp only [isSpace, Bool.or_eq_false_iff, Bool.and_eq_false_iff, decide_eq_false_iff_not,
    beq_eq_false_iff_ne]
  omega

theorem isDigit_ne_comma {c : Char} (h : c.isDigit = true) : (c == ',') = false := by
  have := isDigit_bounds h
  simp only [beq_eq_false_iff_ne, ne_eq]
  rintro rfl
  simp at this

theorem lstrip_of_head {c : Char} {cs : List Char} (h : isSpace c = false) :
    lstrip (c :: cs) = c :: cs := by
  simp [lstrip, h]

/-- `strip` is the identity on a string whose first and last characters are not white space. -/
theorem strip_ends {a b : Char} (m : List Char) (ha : isSpace a = false) (hb : isSpace b = false) :
    strip (a :: (m ++ [b])) = a :: (m ++ [b]) := by
  have h1 : lstrip (a :: (m ++ [b])) = a :: (m ++ [b]) := lstrip_of_head ha
  have h2 : lstrip (a :: (m ++ [b])).reverse = (a :: (m ++ [b])).reverse := by
    simp only [List.reverse_cons, List.reverse_append]
    exact lstrip_of_head hb
  simp only [strip, rstrip, h1, h2, List.reverse_reverse]

theorem splitOn_mem_no_sep (sep : Char) : ∀ (s : List Char) (f : List Char), f ∈ splitOn sep s →
    ∀ c ∈ f, (c == sep) = false := by
  intro s
  induction s with
  | nil => intro f hf c hc; simp [splitOn] at hf; subst hf; cases hc
  | cons a t ih =>
    intro f hf c hc
    unfold splitOn at hf
    by_cases ha : (a == sep) = true
    · simp only [ha, ↓reduceIte, List.mem_cons] at hf
      rcases hf with rfl | hf
      · cases hc
      · exact ih f hf c hc
    · simp only [ha, Bool.false_eq_true, ↓reduceIte] at hf
      cases hsp : splitOn sep t with
      | nil =>
        simp only [hsp, List.mem_singleton] at hf
        subst hf
        cases List.mem_singleton.mp hc
        simpa using ha
      | cons g gs =>
        simp only [hsp, List.mem_cons] at hf
        rcases hf with rfl | hf
        · rcases List.mem_cons.mp hc with rfl | hc
          · simpa using ha
          · exact ih g (by simp [hsp]) c hc
        · exact ih f (by simp [hsp, hf]) c hc

theorem lstrip_head {c : Char} {r : List Char} : ∀ {s : List Char}, lstrip s = c :: r →
    isSpace c = false := by
  intro s
  induction s with
  | nil => intro h; cases h
  | cons a t ih =>
    intro h
    unfold lstrip at h
    split at h
    · exact ih h
    · cases h; simpa using ‹¬isSpace c = true›

theorem lstrip_idem (s : List Char) : lstrip (lstrip s) = lstrip s := by
  cases h : lstrip s with
  | nil => rfl
  | cons c r => exact lstrip_of_head (lstrip_head h)

theorem lstrip_append_nonspace {a : Char} (ha : isSpace a = false) :
    ∀ (l : List Char), lstrip (l ++ [a]) = lstrip l ++ [a] := by
  intro l
  induction l with
  | nil => simp [lstrip, ha]
  | cons b t ih =>
    by_cases hb : isSpace b = true
    · simp [lstrip, hb, ih]
    · simp [lstrip, hb]

theorem strip_idem (s : List Char) : strip (strip s) = strip s := by
  unfold strip
  -- `rstrip` keeps a text that does not begin with white space that way
  have key : lstrip (rstrip (lstrip s)) = rstrip (lstrip s) := by
    cases h : lstrip s with
    | nil => rfl
    | cons a t =>
      have ha := lstrip_head h
      unfold rstrip
      simp only [List.reverse_cons, lstrip_append_nonspace ha, List.reverse_append]
      exact lstrip_of_head ha
  rw [key]
  unfold rstrip
  simp only [List.reverse_reverse, lstrip_idem]

theorem mem_lstrip {c : Char} : ∀ {s : List Char}, c ∈ lstrip s → c ∈ s := by
  intro s
  induction s with
  | nil => intro h; exact h
  | cons a t ih =>
    intro h
    unfold lstrip at h
    split at h
    · exact List.mem_cons_of_mem _ (ih h)
    · exact h

theorem mem_strip {c : Char} {s : List Char} (h : c ∈ strip s) : c ∈ s := by
  unfold strip rstrip at h
  have h1 : c ∈ (lstrip s).reverse := mem_lstrip (List.mem_reverse.mp h)
  exact mem_lstrip (List.mem_reverse.mp h1)

theorem strip_space_cons (s : List Char) : strip (' ' :: s) = strip s := by
  have : lstrip (' ' :: s) = lstrip s := by
    have h : isSpace ' ' = true := by decide
    simp [lstrip, h]
  simp [strip, this]

theorem lstrip_digits {s : List Char} (h : s.all Char.isDigit = true) : lstrip s = s := by
  cases s with
  | nil => rfl
  | cons c cs =>
    simp only [List.all_cons, Bool.and_eq_true] at h
    exact lstrip_of_head (isDigit_not_space h.1)

theorem strip_digits {s : List Char} (h : s.all Char.isDigit = true) : strip s = s := by
  have hr : s.reverse.all Char.isDigit = true := by simpa using h
  simp [strip, rstrip, lstrip_digits h, lstrip_digits hr]

theorem splitOn_no_sep (sep : Char) (s : List Char) (h : ∀ c ∈ s, (c == sep) = false) :
    splitOn sep s = [s] := by
  induction s with
  | nil => rfl
  | cons c cs ih =>
    have hc := h c (by simp)
    have := ih (fun c' hc' => h c' (by simp [hc']))
    simp [splitOn, hc, this]

theorem splitOn_append_sep (sep : Char) (s t : List Char) (h : ∀ c ∈ s, (c == sep) = false) :
    splitOn sep (s ++ sep :: t) = s :: splitOn sep t := by
  induction s with
  | nil => simp [splitOn]
  | cons c cs ih =>
    have hc := h c (by simp)
    have := ih (fun c' hc' => h c' (by simp [hc']))
    simp [splitOn, hc, this]

/-- `sep.join(xs)` on character lists. -/
def joinSep (sep : Char) : List (List Char) → List Char
  | [] => []
  | [a] => a
  | a :: r => a ++ sep :: joinSep sep r

theorem splitOn_joinSep (sep : Char) (xs : List (List Char)) (hne : xs ≠ [])
    (h : ∀ a ∈ xs, ∀ c ∈ a, (c == sep) = false) : splitOn sep (joinSep sep xs) = xs := by
  induction xs with
  | nil => exact absurd rfl hne
  | cons a r ih =>
    cases r with
    | nil => exact splitOn_no_sep sep a (h a (by simp))
    | cons b r' =>
      simp only [joinSep]
      rw [splitOn_append_sep sep a _ (h a (by simp))]
      have := ih (by simp) (fun x hx => h x (by simp [hx]))
      rw [this]

theorem mem_joinSep {sep c : Char} {xs : List (List Char)} (h : c ∈ joinSep sep xs) :
    c = sep ∨ ∃ a ∈ xs, c ∈ a := by
  induction xs with
  | nil => simp [joinSep] at h
  | cons a r ih =>
    cases r with
    | nil => exact Or.inr ⟨a, by simp, h⟩
    | cons b r' =>
      simp only [joinSep, List.mem_append, List.mem_cons] at h
      rcases h with h | h | h
      · exact Or.inr ⟨a, by simp, h⟩
      · exact Or.inl h
      · rcases ih h with h' | ⟨x, hx, hc⟩
        · exact Or.inl h'
        · exact Or.inr ⟨x, by simp [hx], hc⟩

theorem joinSep_cons_head (sep c : Char) (q : List Char) (l : List (List Char)) :
    joinSep sep ((c :: q) :: l) = c :: joinSep sep (q :: l) := by
  cases l <;> rfl

theorem strip_nil : Py.strip [] = [] := by decide

theorem lstrip_eq_nil_iff (s : List Char) : Py.lstrip s = [] ↔ s.all Py.isSpace = true := by
  induction s with
  | nil => simp [Py.lstrip]
  | cons c cs ih =>
    by_cases hc : Py.isSpace c = true
    · simp [Py.lstrip, hc, ih]
    · simp [Py.lstrip, hc]

theorem lstrip_all_of_ne (s : List Char) (h : Py.lstrip s ≠ []) :
    (Py.lstrip s).all Py.isSpace = false :=
  Bool.eq_false_iff.2 fun h' => h ((lstrip_idem s).symm.trans ((lstrip_eq_nil_iff _).2 h'))

theorem strip_eq_nil_iff (s : List Char) : Py.strip s = [] ↔ s.all Py.isSpace = true := by
  unfold Py.strip Py.rstrip
  rw [List.reverse_eq_nil_iff, lstrip_eq_nil_iff, List.all_reverse]
  constructor
  · intro h
    by_cases hl : Py.lstrip s = []
    · exact (lstrip_eq_nil_iff s).1 hl
    · rw [lstrip_all_of_ne s hl] at h; cases h
  · intro h
    rw [(lstrip_eq_nil_iff s).2 h]; rfl

theorem strip_not_all_space (t : List Char) (h : Py.strip t ≠ []) :
    (Py.strip t).all Py.isSpace = false :=
  Bool.eq_false_iff.2 fun h' => h ((strip_idem t).symm.trans ((strip_eq_nil_iff _).2 h'))

theorem strip_ne_nil_of_part (a v b : List Char) (hv : v.all Py.isSpace = false) :
    Py.strip (a ++ v ++ b) ≠ [] := by
  intro h
  rw [strip_eq_nil_iff] at h
  simp only [List.all_append, Bool.and_eq_true] at h
  rw [h.1.2] at hv
  cases hv

theorem toLower_toNat (c : Char) :
    c.toLower.toNat = if 65 ≤ c.toNat ∧ c.toNat ≤ 90 then c.toNat + 32 else c.toNat := by
  have hc : (c.val ≥ 'A'.val ∧ c.val ≤ 'Z'.val) ↔ (65 ≤ c.toNat ∧ c.toNat ≤ 90) := by
    simp only [ge_iff_le, UInt32.le_iff_toNat_le]; exact Iff.rfl
  unfold Char.toLower
  split
  · rename_i h
    have := hc.1 h
    rw [if_pos this]
    show (c.val + 32).toNat = c.val.toNat + 32
    rw [UInt32.toNat_add]
    show (c.toNat + 32) % 4294967296 = c.toNat + 32
    omega
  · rename_i h; rw [if_neg (mt hc.2 h)]

theorem toLower_idem (c : Char) : c.toLower.toLower = c.toLower := by
  apply Char.toNat_inj.1
  simp only [toLower_toNat]
  repeat' split
  all_goals omega

theorem lower_idem (s : List Char) : lower (lower s) = lower s := by
  unfold lower
  rw [List.map_map]
  exact List.map_congr_left fun c _ => toLower_idem c

end Py
