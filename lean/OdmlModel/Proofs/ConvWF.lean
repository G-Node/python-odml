/-
C15, whole-tree composition: the well-formedness predicate of the model (`WF10`, the one
the driver evaluates and the harness generates for) implies the hypothesis of the composition
theorem (`ConvWF`).  `ConvWF` is weaker: it does not ask for the modelled shape, for root
attributes, for a single root id, for Section types, for non-blank names or for the absence of
XML attributes.
-/
import OdmlModel.Proofs.ConvTree

namespace Conv
open Conv.Xml

theorem uniqueTags_subset (ks : List Xml) (ts ts' : List String) (hsub : ∀ t ∈ ts', t ∈ ts)
    (h : uniqueTags ks ts = true) : uniqueTags ks ts' = true := by
  simp only [uniqueTags, List.all_eq_true] at h ⊢
  intro t ht
  exact h t (hsub t ht)

theorem propOKb_of_wfProp (p : Xml) (h : wfProp p = true) : propOKb p = true := by
  simp only [wfProp, Bool.and_eq_true] at h
  obtain ⟨⟨⟨⟨_, huniq⟩, hboth⟩, _⟩, hvals⟩ := h
  unfold propOKb
  simp only [Bool.and_eq_true]
  refine ⟨⟨uniqueTags_subset _ _ _ (by decide +kernel) huniq, ?_⟩, ?_⟩
  · simp only [Bool.or_eq_true, List.isEmpty_iff]
    cases h1 : find "dependency_value" p.kids with
    | none => exact Or.inr (find_none_sel_nil h1)
    | some _ =>
      cases h2 : find "dependencyvalue" p.kids with
      | none => exact Or.inl (find_none_sel_nil h2)
      | some _ => rw [h1, h2] at hboth; cases hboth
  · simp only [List.all_eq_true] at hvals ⊢
    intro v hv d hd
    have := hvals v hv
    simp only [wfValue, List.all_eq_true] at this
    have hd' := this d hd
    simp only [Bool.and_eq_true, bne_iff_ne, ne_eq]
    constructor
    · intro e; rw [e] at hd'; revert hd'; decide
    · intro e; rw [e] at hd'; revert hd'; decide

theorem secOwnOKb_of_wfSecOwn (s : Xml) (h : wfSecOwn s = true) : secOwnOKb s.kids = true := by
  simp only [wfSecOwn, Bool.and_eq_true] at h
  obtain ⟨⟨⟨_, huniq⟩, hname⟩, _⟩ := h
  unfold secOwnOKb
  rw [Bool.and_eq_true]
  refine ⟨?_, uniqueTags_subset _ _ _ (by simp) huniq⟩
  unfold goodName at hname
  cases hf : find "name" s.kids with
  | none => rw [hf] at hname; cases hname
  | some n => rfl

theorem mem_allPropsL (ks : List Xml) (p : Xml) (hp : p ∈ ks) (ht : p.tag = "property") :
    p ∈ allPropsL ks := by
  induction ks with
  | nil => cases hp
  | cons k ks ih =>
    simp only [allPropsL, List.mem_append]
    rcases List.mem_cons.1 hp with e | hm
    · subst e; left; simp [ht]
    · right; exact ih hm

theorem allSecs_eq (k : Xml) : allSecs k = allSecsL k.kids := by cases k; simp [allSecs]
theorem allProps_eq (k : Xml) : allProps k = allPropsL k.kids := by cases k; simp [allProps]

/-- One induction for every check that walks the Section skeleton the way `convOKKids` does. -/
theorem skeleton_ok (okKids : List Xml → Bool) (ok : Xml → Bool) (hnil : okKids [] = true)
    (hcons : ∀ k ks, okKids (k :: ks) = ((if k.tag = "section" then ok k else true) && okKids ks))
    (hown : ∀ k, wfSecOwn k = true → (∀ p ∈ sel "property" k.kids, wfProp p = true) →
      okKids k.kids = true → ok k = true) :
    ∀ k : Xml, (∀ s ∈ allSecsL k.kids, wfSecOwn s = true) →
      (∀ p ∈ allPropsL k.kids, wfProp p = true) → okKids k.kids = true := by
  apply Xml.ind
  intro t a x ks ih
  simp only [kids_elem]
  induction ks with
  | nil => intros; exact hnil
  | cons k ks ihl =>
    intro hsecs hprops
    have htl := ihl (fun k' hm => ih k' (List.mem_cons_of_mem _ hm))
      (fun s hm => hsecs s (by simp only [allSecsL, List.mem_append]; exact Or.inr hm))
      (fun p hm => hprops p (by simp only [allPropsL, List.mem_append]; exact Or.inr hm))
    rw [hcons, htl, Bool.and_true]
    split
    · rename_i hs
      have hsub_p : ∀ p ∈ allPropsL k.kids, wfProp p = true := fun p hm => hprops p (by
        simp only [allPropsL, hs, ↓reduceIte, List.mem_append, allProps_eq]; exact Or.inl hm)
      refine hown k (hsecs k ?_) (fun p hp => hsub_p p (mem_allPropsL _ p (mem_sel.1 hp).1 (mem_sel.1 hp).2))
        (ih k (by simp) (fun s hm => hsecs s ?_) hsub_p)
      · simp only [allSecsL, hs, ↓reduceIte, List.mem_append, List.mem_cons]
        exact Or.inl (Or.inl trivial)
      · simp only [allSecsL, hs, ↓reduceIte, List.mem_append, List.mem_cons, allSecs_eq]
        exact Or.inl (Or.inr hm)
    · rfl

theorem ConvWF_of_WF10 (x : Xml) (h : WF10 x = true) : ConvWF x = true := by
  simp only [WF10, Bool.and_eq_true, List.all_eq_true] at h
  obtain ⟨⟨⟨⟨_, henc⟩, _⟩, hsecs⟩, hprops⟩ := h
  unfold ConvWF
  rw [Bool.and_eq_true]
  refine ⟨henc, skeleton_ok convOKKids convOK rfl (fun _ _ => by simp only [convOKKids]) ?_ x ?_ ?_⟩
  · intro k hk hp hkids
    have hown := secOwnOKb_of_wfSecOwn k hk
    simp only [secOwnOKb, Bool.and_eq_true] at hown
    refine (convOK_iff k).2 ⟨hown.1, hown.2, ?_, hkids⟩
    simp only [propsOKb, List.all_eq_true, Bool.or_eq_true]
    exact fun p hm => Or.inr (propOKb_of_wfProp p (hp p hm))
  · rw [← allSecs_eq]; exact hsecs
  · rw [← allProps_eq]; exact hprops

end Conv
