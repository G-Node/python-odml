/-
C15, whole-tree composition: Sections (structural induction over the nested tree) and the
Document.

`readDoc (convertTree fresh x) = content10 fresh x` for every element tree `x` - any depth, any
number of Sections / Properties / values - that satisfies the decidable predicate `ConvWF`.
-/
import OdmlModel.Proofs.ConvProp

namespace Conv
open Conv.Xml

/-- A named Property: `PropOK` as a decidable check. -/
def propOKb (p : Xml) : Bool :=
  uniqueTags p.kids uTags &&
  ((sel "dependencyvalue" p.kids).isEmpty || (sel "dependency_value" p.kids).isEmpty) &&
  (valuesOf p).all (fun v => (valueElems v).all (fun d => d.tag != "id" && d.tag != "dependencyvalue"))

/-- The named Property children of a Section (unnamed ones are dropped by the converter). -/
def propsOKb (ks : List Xml) : Bool :=
  (sel "property" ks).all (fun p => (find "name" p.kids).isNone || propOKb p)

/-- A Section has a name, and at most one `name`, `type`, `definition` child. -/
def secOwnOKb (ks : List Xml) : Bool :=
  (find "name" ks).isSome && uniqueTags ks ["name", "type", "definition"]

mutual
/-- A Section element and everything below it in the Section skeleton. -/
def convOK : Xml → Bool
  | .elem _ _ _ ks => secOwnOKb ks && propsOKb ks && convOKKids ks
def convOKKids : List Xml → Bool
  | [] => true
  | k :: ks => (if k.tag = "section" then convOK k else true) && convOKKids ks
end

/-- **Hypothesis of the composition theorem** (decidable).  The root does not already declare
    format version 1.1, and every Section of the skeleton (at any depth) has a name, at most one
    `name` / `type` / `definition` child, and named Properties in which each tag the reader looks
    at occurs at most once, the dependency value is spelled one way, and no value element carries
    an `id` / `dependencyvalue` of its own.  Nothing is asked of root attributes, ids, texts,
    the number or names of siblings, unsupported elements, unnamed or root-level Properties. -/
def ConvWF (x : Xml) : Bool := !encodedValues x && convOKKids x.kids

theorem convOK_iff (k : Xml) : convOK k = true ↔
    (find "name" k.kids).isSome = true ∧ uniqueTags k.kids ["name", "type", "definition"] = true ∧
    propsOKb k.kids = true ∧ convOKKids k.kids = true := by
  cases k; simp [convOK, secOwnOKb, and_assoc]

theorem PropOK_of_b (p : Xml) (hn : (find "name" p.kids).isSome = true) (h : propOKb p = true) :
    PropOK p := by
  simp only [propOKb, Bool.and_eq_true, Bool.or_eq_true, List.isEmpty_iff, List.all_eq_true,
    bne_iff_ne, ne_eq] at h
  refine ⟨hn, fun t ht => uniqueTags_le_one h.1.1 ht, h.1.2, ?_⟩
  intro v hv d hd
  exact h.2 v hv d hd

theorem propsOKb_cons (k : Xml) (ks : List Xml) :
    propsOKb (k :: ks) =
      ((if k.tag = "property" then (find "name" k.kids).isNone || propOKb k else true) &&
        propsOKb ks) := by
  unfold propsOKb
  rw [sel_cons]
  by_cases h : k.tag = "property" <;> simp [h]

theorem p3_kids (enc : Bool) (k : Xml) :
    (p3 enc k).1.kids = (p3Kids enc (parentLabel "name" "unnamed" k.kids)
      (parentLabel "type" "untyped" k.kids) k.kids).1 := by
  cases k; simp [p3]

theorem p4_kids (k : Xml) : (p4 k).1.kids = if k.tag = "section" then
    (secCleanup (pyStr (findText "name" k.kids)) (p4Kids k.kids).1).1 else (p4Kids k.kids).1 := by
  cases k
  simp only [p4, tag_elem, kids_elem, apply_ite Prod.fst, apply_ite Xml.kids]
  rfl

theorem p6_eq (fresh : List Char) (d : Nat) (k : Xml) :
    p6 fresh d k = addId fresh (.elem k.tag k.attrs k.text
      (p6Kids fresh (if k.tag = "section" then d + 1 else d) k.kids)) := by
  cases k; rfl

theorem p6_attrs (fresh : List Char) (d : Nat) (k : Xml) : (p6 fresh d k).attrs = k.attrs := by
  rw [p6_eq, addId_attrs]; rfl

theorem p2_kids (k : Xml) : (p2 k).kids = k.kids := by cases k; rfl
theorem p2_tag (k : Xml) : (p2 k).tag = k.tag := by cases k; rfl
theorem p2_attrs (k : Xml) :
    (p2 k).attrs = setAttr "version" Gen.Format.formatVersion.toList k.attrs := by cases k; rfl
theorem p5_kids (k : Xml) : (p5 k).1.kids = (docCleanup k.kids).1 := by cases k; rfl
theorem p5_tag (k : Xml) : (p5 k).1.tag = k.tag := by cases k; rfl
theorem p5_attrs (k : Xml) : (p5 k).1.attrs = k.attrs := by cases k; rfl

theorem readSec_eq (e : Xml) :
    readSec e = .mk (lastText "name" e.kids) (lastText "type" e.kids) (lastText "definition" e.kids)
      (lastText "id" e.kids) (readProps e.kids) (readSecs e.kids) := by
  cases e; simp [readSec]

theorem secC10_eq (fresh n : List Char) (k : Xml) :
    secC10 fresh n k = .mk (Py.strip n) (Py.strip (findText "type" k.kids))
      (Py.strip (findText "definition" k.kids)) (id10 fresh k.kids) (props10 fresh [] [] k.kids)
      (secs10 fresh [] [] k.kids) := by
  cases k; simp [secC10]

/-- A Section after all six passes (`n`: its name from stage 1) is `_add_id` applied to an element
    whose children `K` are known through `sel`: vocabulary, plain tags, name, Properties, Sections. -/
theorem sec_converted (fresh : List Char) (enc : Bool) (d : Nat) (n : List Char) (k : Xml)
    (hs : k.tag = "section") :
    ∃ sn st x' K, p6 fresh d (p4 (p3 enc (rename n (p1 k))).1).1 =
        addId fresh (.elem "section" k.attrs x' K) ∧
      (∀ c ∈ K, c.tag ∈ secKeys) ∧
      (∀ u ∈ secKeys, u ≠ "section" → u ≠ "property" → u ≠ "name" → sel u K = sel u k.kids) ∧
      sel "name" K = sel "name" (setFirstText "name" n (p1Kids true [] [] [] [] k.kids)) ∧
      sel "property" K = ((sel "property" (p1Kids true [] [] [] [] k.kids)).filterMap
        (p3Prop enc sn st)).map (iter (addId fresh) (d + 1)) ∧
      sel "section" K = (sel "section" (p1Kids true [] [] [] [] k.kids)).map
        (fun c => p6 fresh (d + 1) (p4 (p3 enc c).1).1) := by
  have htag3 : (p3 enc (rename n (p1 k))).1.tag = "section" := by
    rw [p3_tag, rename_tag, p1_tag]; exact hs
  have hk4 := p4_kids (p3 enc (rename n (p1 k))).1
  rw [if_pos htag3, p3_kids, rename_kids, p1_kids] at hk4
  simp only [hs, beq_self_eq_true] at hk4
  refine ⟨parentLabel "name" "unnamed" (rename n (p1 k)).kids,
    parentLabel "type" "untyped" (rename n (p1 k)).kids, (p4 (p3 enc (rename n (p1 k))).1).1.text,
    p6Kids fresh (d + 1) (p4 (p3 enc (rename n (p1 k))).1).1.kids, ?_, ?_, ?_, ?_, ?_, ?_⟩
  · rw [p6_eq, p4_tag, htag3, if_pos rfl, p4_attrs, p3_attrs, rename_attrs, p1_attrs]
  · apply p6Kids_tags
    intro c hc
    rw [hk4, secCleanup_eq_filter] at hc
    simpa using (List.mem_filter.1 hc).2
  · intro u hu h1 h2 h3
    rw [hk4, sel_p6Kids_other u h1 h2, sel_secCleanup u hu, sel_p4Kids_other u h1,
      sel_p3Kids_other u h1 h2, sel_setFirstText_other u n _ h3, sel_p1Kids_other u h1 h2]
  · rw [hk4, sel_p6Kids_other _ (by simp) (by simp), sel_secCleanup _ (secKeys_read _ (by simp)),
      sel_p4Kids_other _ (by simp), sel_p3Kids_other _ (by simp) (by simp)]
  · rw [hk4, sel_p6Kids_property, sel_secCleanup _ (secKeys_read _ (by simp)), sel_p4Kids_other _ (by simp),
      sel_p3Kids_property, sel_setFirstText_other _ n _ (by simp), rename_kids, p1_kids]
    simp only [hs, beq_self_eq_true]
  · rw [hk4, sel_p6Kids_section, sel_secCleanup _ (secKeys_read _ (by simp)), sel_p4Kids_section,
      sel_p3Kids_section, sel_setFirstText_other _ n _ (by simp), List.map_map, List.map_map]
    rfl

theorem props_list (fresh : List Char) (hf : idOf fresh fresh = fresh)
    (sn st : List Char) (d : Nat) (ks : List Xml) (sm pm : Counter) (sd pd prev : List (List Char))
    (hrep : Rep pm prev) (hok : propsOKb ks = true) :
    ((sel "property" (p1Kids true sm pm sd pd ks)).filterMap (p3Prop false sn st)).map
        (fun q => readProp (iter (addId fresh) (d + 1) q)) = props10 fresh pd prev ks := by
  induction ks generalizing sm pm sd pd prev with
  | nil => simp [p1Kids, sel_nil, props10]
  | cons k ks ihl =>
    rw [propsOKb_cons, Bool.and_eq_true] at hok
    by_cases hp : k.tag = "property"
    · have hs : ¬ k.tag = "section" := by rw [hp]; simp
      cases hfn : find "name" k.kids with
      | none =>
        simp only [p1Kids, hs, ↓reduceIte]
        simp only [hp, Bool.and_true, decide_true, ↓reduceIte, hfn, props10]
        rw [sel_cons, if_pos hp, List.filterMap_cons]
        simp only [p3Prop, hfn, Option.isNone_none, ↓reduceIte]
        exact ihl _ _ _ _ _ hrep hok.2
      | some nm =>
        have hnamed : (find "name" k.kids).isSome = true := by rw [hfn]; rfl
        have hkok : PropOK k := by
          have := hok.1
          rw [if_pos hp, hfn] at this
          exact PropOK_of_b k hnamed (by simpa using this)
        obtain ⟨h1, h2⟩ := bump_spec pm (pd ++ propNames ks) prev nm.text hrep
        simp only [p1Kids, hs, ↓reduceIte]
        simp only [hp, Bool.and_true, decide_true, ↓reduceIte, hfn, props10]
        rw [sel_cons, if_pos (by rw [rename_tag]; exact hp), List.filterMap_cons]
        rw [p3Prop_eq_some.2 ⟨(find_name_rename _ k).trans hnamed, rfl⟩, List.map_cons]
        rw [readProp_converted fresh hf sn st d _ (PropOK_rename _ k hkok),
          findText_name_rename _ k hnamed, propC10_rename, h1,
          ihl _ _ _ _ _ h2 hok.2]
    · obtain ⟨c, _, _, heq, ht⟩ := p1Kids_cons_not_property true sm pm sd pd ks hp
      rw [heq, sel_cons, if_neg (ht ▸ hp)]
      simp only [props10, hp, ↓reduceIte]
      exact ihl _ _ _ _ _ hrep hok.2

/-- The statement of the Section level for one element. -/
def SecStmt (fresh : List Char) (k : Xml) : Prop :=
  k.tag = "section" → convOK k = true → ∀ (d : Nat) (n : List Char),
    readSec (p6 fresh d (p4 (p3 false (rename n (p1 k))).1).1) = secC10 fresh n k

theorem secs_list (fresh : List Char) (d : Nat) (ks : List Xml)
    (ih : ∀ k ∈ ks, SecStmt fresh k) (b : Bool) (sm pm : Counter) (sd pd prev : List (List Char))
    (hrep : Rep sm prev) (hok : convOKKids ks = true) :
    (sel "section" (p1Kids b sm pm sd pd ks)).map
        (fun k => readSec (p6 fresh d (p4 (p3 false k).1).1)) = secs10 fresh sd prev ks := by
  induction ks generalizing sm pm sd pd prev with
  | nil => simp [p1Kids, sel_nil, secs10]
  | cons k ks ihl =>
    have ih' : ∀ k' ∈ ks, SecStmt fresh k' := fun k' hm => ih k' (List.mem_cons_of_mem _ hm)
    simp only [convOKKids, Bool.and_eq_true] at hok
    by_cases hs : k.tag = "section"
    · have hck : convOK k = true := by simpa [hs] using hok.1
      have hnamed : (find "name" k.kids).isSome = true := ((convOK_iff k).1 hck).1
      cases hfn : find "name" k.kids with
      | none => rw [hfn] at hnamed; cases hnamed
      | some nm =>
        have hft : findText "name" k.kids = nm.text := by simp [findText, hfn]
        obtain ⟨h1, h2⟩ := bump_spec sm (sd ++ secNames ks) prev nm.text hrep
        simp only [p1Kids, hs, ↓reduceIte, hfn, secs10, hft]
        rw [sel_cons, if_pos (by rw [rename_tag, p1_tag]; exact hs), List.map_cons,
          ih k (by simp) hs hck d _, h1, ihl ih' _ _ _ _ _ h2 hok.2]
    · obtain ⟨c, _, _, heq, ht⟩ := p1Kids_cons_not_section b sm pm sd pd ks hs
      rw [heq, sel_cons, if_neg (ht ▸ hs)]
      simp only [secs10, hs, ↓reduceIte]
      exact ihl ih' _ _ _ _ _ hrep hok.2

theorem section_level (fresh : List Char) (hf : idOf fresh fresh = fresh) :
    ∀ k, SecStmt fresh k := by
  apply Xml.ind
  intro t a x ks ih hs hck d n
  obtain ⟨hnamed, huniq, hprops, hkids⟩ := (convOK_iff _).1 hck
  obtain ⟨sn, st, x', K, hK, -, hplain, hname, hprop, hsec⟩ :=
    sec_converted fresh false d n (.elem t a x ks) hs
  simp only [kids_elem, attrs_elem] at hnamed huniq hprops hkids hK hplain hname hprop hsec
  obtain ⟨nm, hnm⟩ := sel_singleton hnamed (uniqueTags_le_one huniq (t := "name") (by simp))
  -- children of a tag other than `id` are those of `K`
  have hsel : ∀ u, u ≠ "id" → sel u (addId fresh (.elem "section" a x' K)).kids = sel u K :=
    fun u hu => sel_addId_other u hu fresh _
  have hown : ∀ u ∈ secKeys, u ≠ "section" → u ≠ "property" → u ≠ "name" → u ≠ "id" →
      (sel u ks).length ≤ 1 →
      lastText u (addId fresh (.elem "section" a x' K)).kids = Py.strip (findText u ks) := by
    intro u hu h1 h2 h3 h4 hle
    rw [lastText_congr ((hsel u h4).trans (hplain u hu h1 h2 h3)), lastText_of_le_one u ks hle]
  have e_props : readProps (addId fresh (.elem "section" a x' K)).kids = props10 fresh [] [] ks := by
    rw [readProps_eq, hsel _ (by simp), hprop, List.map_map]
    exact props_list fresh hf sn st d ks [] [] [] [] [] rep_nil hprops
  have e_secs : readSecs (addId fresh (.elem "section" a x' K)).kids = secs10 fresh [] [] ks := by
    rw [readSecs_eq, hsel _ (by simp), hsec, List.map_map]
    exact secs_list fresh (d + 1) ks ih true [] [] [] [] [] rep_nil hkids
  rw [hK, readSec_eq, secC10_eq, e_props, e_secs,
    hown "type" (secKeys_read _ (by simp)) (by simp) (by simp) (by simp) (by simp)
      (uniqueTags_le_one huniq (by simp)),
    hown "definition" (secKeys_read _ (by simp)) (by simp) (by simp) (by simp) (by simp)
      (uniqueTags_le_one huniq (by simp)),
    lastText_congr (hsel "name" (by simp)), lastText_eq, hname,
    sel_setFirstText_name n _ nm (by rw [sel_p1Kids_other _ (by simp) (by simp)]; exact hnm),
    lastText_addId]
  simp only [kids_elem]
  unfold id10
  rw [find_congr (hplain "id" (secKeys_read _ (by simp)) (by simp) (by simp) (by simp))]
  rfl

theorem stage3_kids (x : Xml) :
    (stage3 x).1.kids = (p3Kids (encodedValues x) (parentLabel "name" "unnamed" (p1 x).kids)
      (parentLabel "type" "untyped" (p1 x).kids)
      (p1Kids (x.tag == "section") [] [] [] [] x.kids)).1 := by
  simp only [stage3]
  rw [p3_kids, p2_kids, p1_kids]

theorem sel_stage5 (t : String) (hd : t ∈ docKeys) (hs : t ∈ secKeys) (x : Xml) :
    sel t (stage5 x).1.kids = sel t (p4Kids (stage3 x).1.kids).1 := by
  simp only [stage5, stage4]
  rw [p5_kids, sel_docCleanup _ hd, p4_kids]
  split
  · rw [sel_secCleanup _ hs]
  · rfl

theorem stage5_sel_section (x : Xml) :
    sel "section" (stage5 x).1.kids =
      (sel "section" (p1Kids (x.tag == "section") [] [] [] [] x.kids)).map
        (fun k => (p4 (p3 (encodedValues x) k).1).1) := by
  rw [sel_stage5 _ docKeys_read.2 (secKeys_read _ (by simp)), sel_p4Kids_section, stage3_kids,
    sel_p3Kids_section, List.map_map]
  rfl

/-- **Whole-tree composition.**  For every element tree `x` with `ConvWF x` - any depth, any
    number of Sections, Properties and value elements, any names, ids, texts and unsupported
    elements - the document the strict reader extracts from the converted tree is the content
    specification of the source.  `hf`: the fresh id is one `_add_id` leaves alone (the text of a
    `uuid4()`, see `C15.fresh_uuid4_ok`). -/
theorem readDoc_convertTree (fresh : List Char) (hf : idOf fresh fresh = fresh)
    (x : Xml) (hwf : ConvWF x = true) : readDoc (convertTree fresh x) = content10 fresh x := by
  simp only [ConvWF, Bool.and_eq_true, Bool.not_eq_true'] at hwf
  obtain ⟨henc, hkids⟩ := hwf
  have hsel_id : sel "id" (stage5 x).1.kids = sel "id" x.kids := by
    rw [sel_stage5 _ docKeys_read.1 (secKeys_read _ (by simp)), sel_p4Kids_other _ (by simp), stage3_kids,
      sel_p3Kids_other _ (by simp) (by simp), sel_p1Kids_other _ (by simp) (by simp)]
  unfold convertTree readDoc content10
  rw [p6_eq]
  congr 1
  · rw [lastText_addId]
    simp only [kids_elem]
    unfold id10
    rw [find_congr (sel_p6Kids_other "id" (by simp) (by simp) fresh _ _), find_congr hsel_id]
  · rw [readSecs_eq, sel_addId_other _ (by simp), kids_elem, sel_p6Kids_section, stage5_sel_section, henc,
      List.map_map, List.map_map]
    exact secs_list fresh _ x.kids (fun k _ => section_level fresh hf k) _ [] [] [] [] [] rep_nil
      hkids

end Conv
