/-
C01 helper lemmas: what the XML writer's refusals decide. `docRefused` = ParserException for an
n-tuple item containing a comma or a line break and for a child name that is blank or equal after
trimming to the name of an earlier sibling. On a valid document the writer refuses exactly the
documents the XML form cannot carry in these respects, so "refused or round trip" holds with
`xmlRepr` reduced to its uncertainty part (`xmlReprU`, the open finding).
-/
import OdmlModel.Model.Xml
import OdmlModel.Proofs.XmlRepr

namespace Xml
open Py

/-- `propRepr` without what the writer decides itself: no numeric `uncertainty`. -/
def propReprU (p : PropT) : Bool := uncRepr p.uncertainty

mutual
def secReprU : SecT → Bool
  | .mk _ _ _ _ _ _ _ _ secs props _ _ => props.all propReprU && secsReprU secs
def secsReprU : List SecT → Bool
  | [] => true
  | s :: ss => secReprU s && secsReprU ss
end

/-- Representable as far as the writer does not decide it: no numeric `uncertainty` anywhere
    (the open finding: it is loaded back as text). -/
def xmlReprU (d : DocT) : Bool := secsReprU d.secs

theorem nodup_map_some {α : Type} (l : List α) : (l.map some).Nodup ↔ l.Nodup := by
  induction l with
  | nil => simp
  | cons a r ih => simp [List.nodup_cons, ih]

theorem secNames_eq_map : (l : List SecT) → secNames l = l.map secNameOf
  | [] => rfl
  | .mk _ _ _ _ _ _ _ _ _ _ _ _ :: ss => by
    simp [secNames, secNameOf, secNames_eq_map ss]

theorem eq_map_some_of_allSome : (names : List (Option Str)) → names.all Option.isSome = true →
    ∃ l : List Str, names = l.map some
  | [], _ => ⟨[], rfl⟩
  | none :: _, h => by simp at h
  | some s :: r, h => by
    obtain ⟨l, rfl⟩ := eq_map_some_of_allSome r (by simpa using h)
    exact ⟨s :: l, rfl⟩

theorem allSome_of_nameRepr : (names : List (Option Str)) → names.all nameRepr = true →
    names.all Option.isSome = true
  | [], _ => rfl
  | none :: _, h => by simp [nameRepr] at h
  | some _ :: r, h => by
    have : r.all nameRepr = true := by
      simp only [List.all_cons, Bool.and_eq_true] at h; exact h.2
    simp [allSome_of_nameRepr r this]

theorem namesRefused_map_some (l : List Str) :
    namesRefused (l.map some) = false ↔
      (l.map some).all nameRepr = true ∧ distinctTrimmed (l.map some) = true := by
  have hn : (l.map some).all nameRepr = !(l.map strip).any (·.isEmpty) := by
    induction l with
    | nil => rfl
    | cons s r ih =>
      simp only [List.map_cons, List.all_cons, List.any_cons, nameRepr, ih, Bool.not_or]
  have ht : trimmedNames (l.map some) = l.map strip := by
    simp [trimmedNames, List.filterMap_map, Function.comp_def]
  have hd : (l.map some).map (Option.map strip) = (l.map strip).map some := by
    simp [List.map_map, Function.comp_def]
  simp only [namesRefused, distinctTrimmed, ht, hd, hn, nodup_map_some, Bool.or_eq_false_iff,
    Bool.not_eq_false', Bool.not_eq_true', decide_eq_true_eq]

theorem names_ok_of_not_refused (names : List (Option Str)) (hs : names.all Option.isSome = true)
    (h : namesRefused names = false) :
    names.all nameRepr = true ∧ distinctTrimmed names = true := by
  obtain ⟨l, rfl⟩ := eq_map_some_of_allSome names hs
  exact (namesRefused_map_some l).mp h

theorem not_refused_of_names_ok (names : List (Option Str)) (hr : names.all nameRepr = true)
    (hd : distinctTrimmed names = true) : namesRefused names = false := by
  obtain ⟨l, rfl⟩ := eq_map_some_of_allSome names (allSome_of_nameRepr names hr)
  exact (namesRefused_map_some l).mpr ⟨hr, hd⟩

theorem valHasSep_eq (v : Val) : valHasSep v = !valRepr v := by
  cases v <;> simp [valHasSep, valRepr, List.not_all_eq_any_not]
  exact congrArg _ (funext fun x => by simp [itemHasSep, itemRepr])

theorem valuesRepr_of_not_refused (lib : TokLib) (p : PropT) (hwf : propWf lib p = true)
    (hnr : propRefused p = false) : p.values.all valRepr = true := by
  rw [List.all_eq_true]
  intro v hv
  cases v with
  | tuple xs =>
    -- a tuple value is valid only under an n-tuple dtype, where the writer tests every value
    have hne : p.values.isEmpty = false := by
      cases hp : p.values with
      | nil => rw [hp] at hv; cases hv
      | cons _ _ => rfl
    cases hd : p.dtype with
    | none => rw [propWf_none hwf hd] at hne; cases hne
    | some d =>
      have hok := (propWf_some hwf hd).2.2.2 _ hv
      simp only [valOk, Bool.and_eq_true] at hok
      simp only [propRefused, hd, hok.1.1, hne, Bool.not_false, Bool.true_and] at hnr
      simpa [valHasSep_eq] using List.any_eq_false.mp hnr _ hv
  | _ => rfl

theorem propsRepr_of_not_refused (lib : TokLib) (ps : List PropT)
    (hwf : ps.all (propWf lib) = true) (hu : ps.all propReprU = true)
    (hnr : ps.any propRefused = false) (hn : (ps.map (·.name)).all nameRepr = true) :
    ps.all propRepr = true := by
  rw [List.all_eq_true] at hwf hu hn ⊢
  intro p hp
  simp only [propRepr, Bool.and_eq_true]
  exact ⟨⟨hn _ (List.mem_map_of_mem hp), valuesRepr_of_not_refused lib p (hwf p hp)
    (by simpa using List.any_eq_false.mp hnr p hp)⟩, hu p hp⟩

theorem props_allSome (lib : TokLib) (ps : List PropT) (hwf : ps.all (propWf lib) = true) :
    (ps.map (·.name)).all Option.isSome = true := by
  rw [List.all_map, List.all_eq_true]
  exact fun p hp => propWf_name (List.all_eq_true.mp hwf p hp)

theorem secs_allSome (lib : TokLib) : (l : List SecT) → secsWf lib l = true →
    (l.map secNameOf).all Option.isSome = true
  | [], _ => rfl
  | .mk _ name _ _ _ _ _ _ _ _ _ _ :: ss, h => by
    simp only [secsWf, Bool.and_eq_true] at h
    simp only [List.map_cons, secNameOf, List.all_cons, Bool.and_eq_true]
    exact ⟨(secWf_mk.mp h.1).2.1, secs_allSome lib ss h.2⟩

mutual
theorem secRepr_of_not_refused (lib : TokLib) : (s : SecT) → secWf lib s = true →
    secReprU s = true → secRefused s = false → nameRepr (secNameOf s) = true → secRepr s = true
  | .mk _ _ _ _ _ _ _ _ secs props _ _, hwf, hu, hnr, hn => by
    simp only [secWf, secReprU, secRefused, secRepr, Bool.and_eq_true, Bool.or_eq_false_iff]
      at hwf hu hnr ⊢
    obtain ⟨⟨⟨hpr, hpn⟩, hsn⟩, hsr⟩ := hnr
    have hP := names_ok_of_not_refused _ (props_allSome lib props hwf.1.2) hpn
    have hS := names_ok_of_not_refused _ (secs_allSome lib secs hwf.2) hsn
    refine ⟨⟨⟨⟨by simpa [secNameOf] using hn,
      propsRepr_of_not_refused lib props hwf.1.2 hu.1 hpr hP.1⟩, hP.2⟩, ?_⟩, ?_⟩
    · rw [secNames_eq_map]; exact hS.2
    · exact secsRepr_of_not_refused lib secs hwf.2 hu.2 hsr hS.1
theorem secsRepr_of_not_refused (lib : TokLib) : (l : List SecT) → secsWf lib l = true →
    secsReprU l = true → secsRefused l = false → (l.map secNameOf).all nameRepr = true →
    secsRepr l = true
  | [], _, _, _, _ => rfl
  | s :: r, hwf, hu, hnr, hn => by
    simp only [secsWf, secsReprU, secsRefused, secsRepr, List.map_cons, List.all_cons,
      Bool.and_eq_true, Bool.or_eq_false_iff] at hwf hu hnr hn ⊢
    exact ⟨secRepr_of_not_refused lib s hwf.1 hu.1 hnr.1 hn.1,
      secsRepr_of_not_refused lib r hwf.2 hu.2 hnr.2 hn.2⟩
end

theorem xmlRepr_of_not_refused (lib : TokLib) (d : DocT) (hwf : wfDoc lib d = true)
    (hu : xmlReprU d = true) (hnr : docRefused d = false) : xmlRepr d = true := by
  simp only [wfDoc, docRefused, xmlRepr, Bool.and_eq_true, Bool.or_eq_false_iff] at hwf hnr ⊢
  have hS := names_ok_of_not_refused _ (secs_allSome lib d.secs hwf.2) hnr.1
  refine ⟨?_, secsRepr_of_not_refused lib d.secs hwf.2 hu hnr.2 hS.1⟩
  rw [secNames_eq_map]; exact hS.2

theorem not_refused_of_propsRepr (ps : List PropT) (h : ps.all propRepr = true) :
    ps.any propRefused = false ∧ (ps.map (·.name)).all nameRepr = true := by
  induction ps with
  | nil => exact ⟨rfl, rfl⟩
  | cons p r ih =>
    simp only [List.all_cons, Bool.and_eq_true] at h
    have hp := h.1
    simp only [propRepr, Bool.and_eq_true] at hp
    have hv : p.values.any valHasSep = false := by
      rw [List.any_eq_false]
      intro v hv
      simp [valHasSep_eq, (List.all_eq_true.1 hp.1.2) v hv]
    have hpr : propRefused p = false := by simp [propRefused, hv]
    obtain ⟨h1, h2⟩ := ih h.2
    simp only [List.any_cons, Bool.or_eq_false_iff, List.map_cons, List.all_cons, Bool.and_eq_true]
    exact ⟨⟨hpr, h1⟩, hp.1.1, h2⟩

mutual
theorem not_refused_of_secRepr : (s : SecT) → secRepr s = true →
    secRefused s = false ∧ nameRepr (secNameOf s) = true
  | .mk _ name _ _ _ _ _ _ secs props _ _, hr => by
    simp only [secRepr, Bool.and_eq_true] at hr
    obtain ⟨⟨⟨⟨hn, hp⟩, hpd⟩, hsd⟩, hs⟩ := hr
    obtain ⟨hp1, hp2⟩ := not_refused_of_propsRepr props hp
    obtain ⟨hs1, hs2⟩ := not_refused_of_secsRepr secs hs
    rw [secNames_eq_map] at hsd
    simp only [secRefused, Bool.or_eq_false_iff]
    exact ⟨⟨⟨⟨hp1, not_refused_of_names_ok _ hp2 hpd⟩, not_refused_of_names_ok _ hs2 hsd⟩, hs1⟩,
      by simpa [secNameOf] using hn⟩
theorem not_refused_of_secsRepr : (l : List SecT) → secsRepr l = true →
    secsRefused l = false ∧ (l.map secNameOf).all nameRepr = true
  | [], _ => ⟨rfl, rfl⟩
  | s :: r, hr => by
    simp only [secsRepr, Bool.and_eq_true] at hr
    obtain ⟨a1, a2⟩ := not_refused_of_secRepr s hr.1
    obtain ⟨b1, b2⟩ := not_refused_of_secsRepr r hr.2
    simp only [secsRefused, Bool.or_eq_false_iff, List.map_cons, List.all_cons, Bool.and_eq_true]
    exact ⟨⟨a1, b1⟩, a2, b2⟩
end

theorem not_refused_of_xmlRepr (d : DocT) (h : xmlRepr d = true) : docRefused d = false := by
  simp only [xmlRepr, Bool.and_eq_true] at h
  obtain ⟨h1, h2⟩ := not_refused_of_secsRepr d.secs h.2
  have hd := h.1
  rw [secNames_eq_map] at hd
  simp only [docRefused, Bool.or_eq_false_iff]
  exact ⟨not_refused_of_names_ok _ h2 hd, h1⟩

end Xml
