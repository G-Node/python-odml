/-
Helper lemmas for the XML writer / reader model: decimal text of integers, n-tuple text, typed
re-reading of value texts; the element vocabulary (`tagsOf`, `vocab`) and that the writer stays
inside it (`tags_writeTree`).
-/
import OdmlModel.Model.Xml
import OdmlModel.Proofs.XmlRepr
import OdmlModel.Proofs.Str
import OdmlModel.Proofs.Csv

namespace Xml
open Py

theorem strip_single (c : Char) (hc : isSpace c = false) : strip [c] = [c] := by
  simp [strip, rstrip, lstrip, hc]

theorem strip_digits' {s : List Char} (h : s.all Char.isDigit = true) : strip s = s :=
  strip_digits h

/-- `int(str(i)) = i` for every integer. -/
theorem parseInt_intToStr (i : Int) : parseInt (intToStr i) = some i := by
  cases i with
  | ofNat n =>
    obtain ⟨c, cs, h, hc⟩ := natToDigits_cons n
    have hd := isDigitStr_natToDigits n
    have hv := natOfDigits_natToDigits n
    simp only [intToStr]
    rw [h] at hd hv ⊢
    have hne : c ≠ '-' := by rintro rfl; simp at hc
    unfold parseInt
    split
    · rename_i ds heq
      simp only [List.cons.injEq] at heq
      exact absurd heq.1 hne
    · simp [hd, hv]
  | negSucc n =>
    have hd := isDigitStr_natToDigits (n + 1)
    have hv := natOfDigits_natToDigits (n + 1)
    simp only [intToStr, parseInt, hd, hv, if_true]
    congr 1

theorem strip_intToStr (i : Int) : strip (intToStr i) = intToStr i := by
  cases i with
  | ofNat n => exact strip_digits (natToDigits_all_digit n)
  | negSucc n =>
    obtain ⟨c, cs, h, hc⟩ := natToDigits_cons (n + 1)
    have hall := natToDigits_all_digit (n + 1)
    simp only [intToStr]
    rw [h] at hall ⊢
    rcases List.eq_nil_or_concat cs with rfl | ⟨m, e, rfl⟩
    · simpa using strip_ends (a := '-') [] (by decide) (isDigit_not_space hc)
    · have he : e.isDigit = true := List.all_eq_true.mp hall e (by simp)
      simpa using strip_ends (a := '-') (c :: m) (by decide) (isDigit_not_space he)

theorem splitOn_intercal (xs : List Str) (hne : xs ≠ [])
    (h : ∀ x ∈ xs, ∀ c ∈ x, (c == ';') = false) : splitOn ';' (intercal [';'] xs) = xs := by
  induction xs with
  | nil => exact absurd rfl hne
  | cons x xs ih =>
    cases xs with
    | nil => simpa [intercal] using splitOn_no_sep ';' x (h x (by simp))
    | cons y ys =>
      have := ih (by simp) (fun z hz => h z (by simp [hz]))
      simp only [intercal, List.append_assoc, List.singleton_append]
      rw [splitOn_append_sep ';' x _ (h x (by simp)), this]

/-- `tuple_get("(a;b;c)", 3) = ['a','b','c']` for items that are trimmed and free of `;`. -/
theorem tupleGet_export (xs : List Str) (hne : xs ≠ [])
    (hs : ∀ x ∈ xs, strip x = x) (hsemi : ∀ x ∈ xs, ∀ c ∈ x, (c == ';') = false) :
    tupleGet ('(' :: (intercal [';'] xs ++ [')'])) xs.length = .ok (.tuple xs) := by
  have hst := strip_ends (a := '(') (b := ')') (intercal [';'] xs) (by decide) (by decide)
  have hlast : ('(' :: (intercal [';'] xs ++ [')'])).getLast? = some ')' := by
    rw [← List.cons_append, List.getLast?_concat]
  have hsl : slice1m1 ('(' :: (intercal [';'] xs ++ [')'])) = intercal [';'] xs := by
    simp [slice1m1]
  simp only [tupleGet, hst, hlast, hsl, splitOn_intercal xs hne hsemi,
    (List.map_congr_left hs).trans (List.map_id' xs)]
  simp

theorem normName_of {d : Str} {s : String} (h : String.ofList d = s) (hs : normName s.toList = s) :
    normName d = s := by
  subst h; simpa using hs

theorem getTyped_int (lib : TokLib) (d : Str) (i : Int) (hd : (String.ofList d == "int") = true) :
    getTyped lib d (strip (intToStr i)) = .ok (.int i) := by
  have hn : normName d = "int" := normName_of (by simpa using hd) (by decide +kernel)
  have hne : (intToStr i).isEmpty = false := by
    cases i <;> simp [intToStr, natToDigits_ne_nil]
  simp [getTyped, hn, strip_intToStr, parseInt_intToStr, hne]

theorem getTyped_bool (lib : TokLib) (d : Str) (b : Bool)
    (hd : (String.ofList d == "boolean") = true) :
    getTyped lib d (strip (valStr (.bool b))) = .ok (.bool b) := by
  have hn : normName d = "boolean" := normName_of (by simpa using hd) (by decide +kernel)
  have h1 : parseBool (strip ['T', 'r', 'u', 'e']) = .ok true := by decide +kernel
  have h2 : parseBool (strip ['F', 'a', 'l', 's', 'e']) = .ok false := by decide +kernel
  cases b
  · simp [getTyped, hn, valStr, h2, Except.map]
  · simp [getTyped, hn, valStr, h1, Except.map]

theorem tokKinds_norm : ∀ s ∈ tokKinds,
    normName s.toList = s ∧ (s == "int") = false ∧ (s == "boolean" || s == "bool") = false ∧
    (s == "float" || s == "date" || s == "time" || s == "datetime") = true := by
  decide +kernel

theorem strKinds_norm : ∀ s ∈ strKinds,
    normName s.toList = s ∧ (s == "int") = false ∧ (s == "boolean" || s == "bool") = false ∧
    (s == "float" || s == "date" || s == "time" || s == "datetime") = false := by
  decide +kernel

theorem getTyped_tok (lib : TokLib) (d : Str) (t : Str)
    (hk : tokKinds.contains (String.ofList d) = true) (ht : tokOk lib (String.ofList d) t = true) :
    getTyped lib d (strip t) = .ok (.tok t) := by
  simp only [tokOk, Bool.and_eq_true, Bool.not_eq_true', beq_iff_eq] at ht
  obtain ⟨⟨h1, h2⟩, h3⟩ := ht
  obtain ⟨hn, e1, e2, e3⟩ := tokKinds_norm _ (List.contains_iff_mem.mp hk)
  have hne : t.isEmpty = false := h1
  simp [getTyped, normName_of rfl hn, e1, e2, e3, h2, hne, h3]

theorem getTyped_str (lib : TokLib) (d : Str) (s : Str)
    (hk : strKinds.contains (String.ofList d) = true) :
    getTyped lib d (strip s) = .ok (.str (strip s)) := by
  obtain ⟨hn, e1, e2, e3⟩ := strKinds_norm _ (List.contains_iff_mem.mp hk)
  simp [getTyped, normName_of rfl hn, e1, e2, e3]

mutual
/-- every element tag of a tree, in document order -/
def tagsOf : X → List String
  | .elem t _ _ kids => t :: tagsOfList kids
def tagsOfList : List X → List String
  | [] => []
  | x :: xs => tagsOf x ++ tagsOfList xs
end

/-- the odML 1.1 element vocabulary according to the regenerated format tables -/
def vocab : List String :=
  readerTags ++ (fmtOf .doc).keys ++ (fmtOf .sec).keys ++ (fmtOf .prop).keys

theorem tagsOfList_append (a b : List X) : tagsOfList (a ++ b) = tagsOfList a ++ tagsOfList b := by
  induction a with
  | nil => simp [tagsOfList]
  | cons x xs ih => simp [tagsOfList, ih]

theorem tagsOfList_flatMap {α} (f : α → List X) (L : List α) (t : String)
    (h : t ∈ tagsOfList (L.flatMap f)) : ∃ k ∈ L, t ∈ tagsOfList (f k) := by
  induction L with
  | nil => simp [tagsOfList] at h
  | cons a as ih =>
    simp only [List.flatMap_cons, tagsOfList_append, List.mem_append] at h
    rcases h with h | h
    · exact ⟨a, by simp, h⟩
    · obtain ⟨k, hk, ht⟩ := ih h
      exact ⟨k, by simp [hk], ht⟩

theorem tags_leaf (k : String) (s : Str) : tagsOfList [leaf k s] = [k] := by
  simp [tagsOfList, tagsOf, leaf]

theorem tags_optLeaf (k : String) (o : Option Str) (t : String)
    (h : t ∈ tagsOfList (optLeaf k o)) : t = k := by
  cases o with
  | none => simp [optLeaf, tagsOfList] at h
  | some s => simpa [optLeaf, tags_leaf] using h

theorem tags_cardLeaf (k : String) (c : Card.Card) (t : String)
    (h : t ∈ tagsOfList (cardLeaf k c)) : t = k := by
  cases c with
  | none => simp [cardLeaf, tagsOfList] at h
  | some s => simpa [cardLeaf, tags_leaf] using h

theorem tags_propKey (p : PropT) (k t : String) (h : t ∈ tagsOfList (propKey p k)) : t = k := by
  unfold propKey at h
  split at h
  all_goals first
    | (simpa [tags_leaf] using h)
    | exact tags_optLeaf _ _ _ h
    | exact tags_cardLeaf _ _ _ h
    | (simp [tagsOfList] at h)

/-- below an element built from a key table every tag is a key of the table or comes from
    what one key emits beside its own leaf -/
theorem tags_table (κ : Kind) (key : String → List X) (t : String)
    (h : t ∈ tagsOfList ((fmtOf κ).args.flatMap fun kv => key kv.1))
    (hkey : ∀ k, t ∈ tagsOfList (key k) → t = k ∨ t ∈ vocab) : t ∈ vocab := by
  obtain ⟨kv, hkv, ht⟩ := tagsOfList_flatMap _ _ _ h
  rcases hkey kv.1 ht with rfl | h1
  · have : kv.1 ∈ (fmtOf κ).keys := List.mem_map_of_mem hkv
    cases κ <;> simp [vocab, this]
  · exact h1

theorem tags_writeProp (p : PropT) (t : String) (h : t ∈ tagsOf (writeProp p)) : t ∈ vocab := by
  simp only [writeProp, tagsOf, List.mem_cons] at h
  rcases h with rfl | h
  · decide +kernel
  · exact tags_table .prop _ t h fun k hk => .inl (tags_propKey p k t hk)

theorem tags_props (ps : List PropT) (t : String) (h : t ∈ tagsOfList (ps.map writeProp)) :
    t ∈ vocab := by
  induction ps with
  | nil => simp [tagsOfList] at h
  | cons p ps ih =>
    simp only [List.map_cons, tagsOfList, List.mem_append] at h
    rcases h with h | h
    · exact tags_writeProp p t h
    · exact ih h

theorem tags_secKey (id name type defn ref link repo incl : Option Str) (secs props : List X)
    (sc pc : Card.Card) (k t : String)
    (h : t ∈ tagsOfList (secKey id name type defn ref link repo incl secs props sc pc k)) :
    t = k ∨ t ∈ tagsOfList secs ∨ t ∈ tagsOfList props := by
  unfold secKey at h
  split at h
  all_goals first
    | (left; simpa [tags_leaf] using h)
    | (left; exact tags_optLeaf _ _ _ h)
    | (left; exact tags_cardLeaf _ _ _ h)
    | (right; left; exact h)
    | (right; right; exact h)
    | (simp [tagsOfList] at h)

mutual
theorem tags_writeSec : (s : SecT) → ∀ t ∈ tagsOf (writeSec s), t ∈ vocab
  | .mk id name type defn ref link repo incl secs props sc pc => by
    intro t h
    simp only [writeSec, tagsOf, List.mem_cons] at h
    rcases h with rfl | h
    · decide +kernel
    · exact tags_table .sec _ t h fun k hk =>
        (tags_secKey _ _ _ _ _ _ _ _ _ _ _ _ _ _ hk).imp_right fun h1 =>
          h1.elim (tags_writeSecs secs t) (tags_props props t)
theorem tags_writeSecs : (l : List SecT) → ∀ t ∈ tagsOfList (writeSecs l), t ∈ vocab
  | [] => by intro t h; simp [writeSecs, tagsOfList] at h
  | s :: ss => by
    intro t h
    simp only [writeSecs, tagsOfList, List.mem_append] at h
    rcases h with h | h
    · exact tags_writeSec s t h
    · exact tags_writeSecs ss t h
end

theorem tags_docKey (d : DocT) (k t : String) (h : t ∈ tagsOfList (docKey d k)) :
    t = k ∨ t ∈ tagsOfList (writeSecs d.secs) := by
  unfold docKey at h
  split at h
  all_goals first
    | (left; simpa [tags_leaf] using h)
    | (left; exact tags_optLeaf _ _ _ h)
    | (right; exact h)
    | (simp [tagsOfList] at h)

theorem tags_writeTree (d : DocT) (t : String) (h : t ∈ tagsOf (writeTree d)) : t ∈ vocab := by
  simp only [writeTree, tagsOf, List.mem_cons] at h
  rcases h with rfl | h
  · decide +kernel
  · exact tags_table .doc _ t h fun k hk =>
      (tags_docKey d k t hk).imp_right (tags_writeSecs d.secs t)

end Xml
