/-
List lemmas behind the heap model: identity index, `del`, Python `insert`, `_reorder`, item set.
-/
import OdmlModel.Model.Heap


namespace Heap

theorem length_le_of_nodup_lt {l : List Nat} {n : Nat} (hl : l.Nodup) (hb : ∀ x ∈ l, x < n) :
    l.length ≤ n :=
  List.length_range (n := n) ▸ hl.length_le_of_subset fun x hx => List.mem_range.mpr (hb x hx)

theorem indexOf?_none {l : List Nat} {x : Nat} : indexOf? l x = none ↔ x ∉ l := by
  induction l with
  | nil => simp [indexOf?]
  | cons y ys ih =>
    simp only [indexOf?]
    by_cases h : y = x
    · simp [h]
    · simp [h, ih]
      exact fun _ e => h e.symm

theorem indexOf?_some {l : List Nat} {x i : Nat} (h : indexOf? l x = some i) :
    l[i]? = some x ∧ x ∈ l := by
  induction l generalizing i with
  | nil => simp [indexOf?] at h
  | cons y ys ih =>
    simp only [indexOf?] at h
    by_cases hy : y = x
    · simp [hy] at h; subst h; simp [hy]
    · simp [hy] at h
      obtain ⟨j, hj, rfl⟩ := h
      have := ih hj
      simp [this.1, this.2]

theorem indexOf?_of_mem {l : List Nat} {x : Nat} (h : x ∈ l) : ∃ i, indexOf? l x = some i := by
  cases hi : indexOf? l x with
  | none => exact absurd h (indexOf?_none.mp hi)
  | some i => exact ⟨i, rfl⟩

/-- `del l[l.index(x)]` removes the first occurrence of `x`. -/
theorem delAt_indexOf {l : List Nat} {x i : Nat} (h : indexOf? l x = some i) :
    delAt l i = l.erase x := by
  induction l generalizing i with
  | nil => simp [indexOf?] at h
  | cons y ys ih =>
    simp only [indexOf?] at h
    by_cases hy : y = x
    · simp [hy] at h; subst h; simp [delAt, hy]
    · simp [hy] at h
      obtain ⟨j, hj, rfl⟩ := h
      have := ih hj
      simp only [delAt] at this
      simp [delAt, List.eraseIdx_cons_succ, this, hy]

theorem cons_eraseIdx_perm {l : List Nat} {j x : Nat} (h : l[j]? = some x) :
    (x :: l.eraseIdx j).Perm l := by
  induction l generalizing j with
  | nil => simp at h
  | cons y ys ih =>
    cases j with
    | zero => simp at h; subst h; simp
    | succ j =>
      simp at h
      have := ih h
      simp only [List.eraseIdx_cons_succ]
      exact (List.Perm.swap y x _).trans (this.cons y)

theorem pyPos_le (len : Nat) (i : Int) : pyPos len i ≤ len := by
  unfold pyPos
  split <;> split <;> omega

theorem pyPos_nonneg {len : Nat} {i : Int} (h : 0 ≤ i) : pyPos len i = min i.toNat len := by
  unfold pyPos
  split
  · omega
  · split <;> omega

theorem pyInsert_eq (l : List Nat) (i : Int) (x : Nat) :
    pyInsert l i x = l.insertIdx (pyPos l.length i) x := by
  have key : ∀ (l : List Nat) (k : Nat), k ≤ l.length → l.take k ++ x :: l.drop k = l.insertIdx k x := by
    intro l
    induction l with
    | nil => intro k hk; simp [Nat.le_zero.mp hk]
    | cons y ys ih =>
      intro k hk
      cases k with
      | zero => simp
      | succ k => simp [ih k (Nat.le_of_succ_le_succ hk)]
  exact key l _ (pyPos_le _ _)

theorem pyInsert_perm (l : List Nat) (i : Int) (x : Nat) : (pyInsert l i x).Perm (x :: l) := by
  rw [pyInsert_eq]; exact List.perm_insertIdx x l (pyPos_le _ _)

theorem mem_pyInsert {l : List Nat} {i : Int} {x c : Nat} :
    c ∈ pyInsert l i x ↔ c = x ∨ c ∈ l := by
  rw [(pyInsert_perm l i x).mem_iff]; simp

theorem nodup_pyInsert {l : List Nat} {i : Int} {x : Nat} (hx : x ∉ l) (hl : l.Nodup) :
    (pyInsert l i x).Nodup := by
  rw [(pyInsert_perm l i x).nodup_iff]
  exact List.nodup_cons.mpr ⟨hx, hl⟩

/-- `_reorder` only permutes the child list. -/
theorem reorderList_perm {l l' : List Nat} {x : Nat} {ni : Int}
    (h : reorderList l x ni = some l') : l'.Perm l := by
  unfold reorderList at h
  cases hi : indexOf? l x with
  | none => simp [hi] at h
  | some old =>
    simp only [hi] at h
    obtain ⟨hget, _⟩ := indexOf?_some hi
    have hlt : old < l.length := by
      rcases Nat.lt_or_ge old l.length with h1 | h1
      · exact h1
      · rw [List.getElem?_eq_none h1] at hget; cases hget
    generalize hnn : (if ni < 0 then (if (l.length : Int) + ni < 0 then 0 else (l.length : Int) + ni) else ni) = nn at h
    have hnn0 : 0 ≤ nn := by subst hnn; split <;> (try split) <;> omega
    generalize hn2 : (if nn > (old : Int) then nn + 1 else nn) = ni2 at h
    have hn20 : 0 ≤ ni2 := by subst hn2; split <;> omega
    have hk := pyPos_nonneg (len := l.length) hn20
    have hkle := pyPos_le l.length ni2
    -- whichever position is deleted, it holds `x`: the old entry, or the inserted one
    have key : ∀ j, (pyInsert l ni2 x)[j]? = some x → l' = delAt (pyInsert l ni2 x) j → l'.Perm l := by
      intro j hj he
      rw [he]
      exact List.Perm.cons_inv ((cons_eraseIdx_perm hj).trans (pyInsert_perm l ni2 x))
    split at h
    · apply key (old + 1) _ (by simpa using h.symm)
      rw [pyInsert_eq, List.getElem?_insertIdx, if_neg (by omega), if_neg (by omega)]
      simpa using hget
    · apply key old _ (by simpa using h.symm)
      rw [pyInsert_eq, List.getElem?_insertIdx]
      split
      · exact hget
      · rw [if_pos (by omega), if_pos (by omega)]

/-- Replacing the entry `r` by `v` is, up to order, `v` plus the list without `r`. -/
theorem setAt_perm {l : List Nat} {idx r v : Nat} (hr : l[idx]? = some r) :
    (setAt l idx v).Perm (v :: l.erase r) := by
  induction l generalizing idx with
  | nil => simp at hr
  | cons y ys ih =>
    cases idx with
    | zero =>
      simp at hr; subst hr
      simp [setAt]
    | succ i =>
      simp at hr
      have := ih hr
      simp only [setAt] at this
      simp only [setAt, List.set_cons_succ]
      by_cases hy : y = r
      · subst hy
        -- the first occurrence of r is the head: erase removes it, but position i+1 also holds r
        simp only [List.erase_cons_head]
        have h2 : (ys.set i v).Perm (v :: ys.erase y) := this
        have h3 : (y :: ys.erase y).Perm ys := List.perm_cons_erase (List.mem_of_getElem? hr) |>.symm
        exact ((h2.cons y).trans (List.Perm.swap v y _)).trans (h3.cons v)
      · rw [List.erase_cons_tail (by simpa using hy)]
        exact (this.cons y).trans (List.Perm.swap v y _)

theorem mem_setAt {l : List Nat} {idx r v c : Nat} (hr : l[idx]? = some r) (hl : l.Nodup) :
    c ∈ setAt l idx v ↔ c = v ∨ (c ∈ l ∧ c ≠ r) := by
  rw [(setAt_perm hr).mem_iff, List.mem_cons, hl.mem_erase_iff, and_comm]

theorem nodup_setAt {l : List Nat} {idx r v : Nat} (hr : l[idx]? = some r) (hl : l.Nodup)
    (hv : v ∉ l) : (setAt l idx v).Nodup :=
  (setAt_perm hr).nodup_iff.mpr
    (List.nodup_cons.mpr ⟨fun h => hv (List.mem_of_mem_erase h), hl.erase r⟩)

end Heap
