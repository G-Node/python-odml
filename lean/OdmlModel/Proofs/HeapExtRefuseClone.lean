/-
Refusals of the compound operations (property C06): `clone` never raises.

On a well-formed heap without empty names, every `append` that `clone` performs succeeds - the
copy is a new detached object (no cycle), of the kind of its original (right kind of container),
and the copies of earlier children carry the names of their originals, which differ from the name
of the next child because sibling names are unique (`WF.namesS`, `WF.namesP`). So a clone ends
`.ok` (or with the recursion budget used up), its copy has the kind and name of the original, and
the scratch component `orig` of the objects that existed before is untouched.
-/
import OdmlModel.Proofs.HeapExtRefuse
import OdmlModel.Proofs.HeapNames

namespace Heap.Refuse

/-- No allocated object has the empty name (names fall back to the id, a rendered UUID). Needed
    because a copy is constructed with `name or id` (`alloc`): the copy of an object named `""`
    would not carry its original's name. -/
def NoEmptyName (h : H) : Prop := ∀ i, i < h.size → (h.node i).name ≠ ""

instance (h : H) : Decidable (NoEmptyName h) := by unfold NoEmptyName; infer_instance

theorem _root_.Heap.NamesNE.noEmptyName {h : H} (w : NamesNE h) : NoEmptyName h :=
  fun _ hi => w.name_ne hi

theorem Appended.kids {h h' : H} {p x m : Nat} (ha : Appended h h' p x)
    (hm : m ∈ (h'.node p).secs ∨ m ∈ (h'.node p).props) :
    m = x ∨ m ∈ (h.node p).secs ∨ m ∈ (h.node p).props := by
  rcases ha.2.2.2.2 with hp | hp <;> rw [hp] at hm <;> rcases hm with hm | hm
  · rcases List.mem_append.mp hm with h1 | h1
    · exact Or.inr (Or.inl h1)
    · exact Or.inl (List.mem_singleton.mp h1)
  · exact Or.inr (Or.inr hm)
  · exact Or.inr (Or.inl hm)
  · rcases List.mem_append.mp hm with h1 | h1
    · exact Or.inr (Or.inr h1)
    · exact Or.inl (List.mem_singleton.mp h1)

/-- Which of the two lists of `p` has grown is decided by the kind of `x`. -/
theorem Appended.lists {h h' : H} (w' : WF h') {p x : Nat} (ha : Appended h h' p x) :
    ((h.node x).kind = .sec → (h'.node p).secs = (h.node p).secs ++ [x] ∧
      (h'.node p).props = (h.node p).props) ∧
    ((h.node x).kind = .prop → (h'.node p).secs = (h.node p).secs ∧
      (h'.node p).props = (h.node p).props ++ [x]) := by
  obtain ⟨_, _, _, hxn, hpn⟩ := ha
  have hk : (h'.node x).kind = (h.node x).kind := by rw [hxn]
  have hx : x ∈ [x] := List.mem_singleton.mpr rfl
  rcases hpn with hp | hp
  · refine ⟨fun _ => by rw [hp]; exact ⟨rfl, rfl⟩, fun hkx => ?_⟩
    have := ((w'.memS p x).mp (by rw [hp]; exact List.mem_append_right _ hx)).2
    rw [hk, hkx] at this; cases this
  · refine ⟨fun hkx => ?_, fun _ => by rw [hp]; exact ⟨rfl, rfl⟩⟩
    have := ((w'.memP p x).mp (by rw [hp]; exact List.mem_append_right _ hx)).2
    rw [hk, hkx] at this; cases this

theorem appended_name {h h' : H} {p x : Nat} (ha : Appended h h' p x) (j : Nat) :
    (h'.node j).name = (h.node j).name ∧ (h'.node j).kind = (h.node j).kind := by
  obtain ⟨_, hne, hoth, hxn, hpn⟩ := ha
  by_cases hjp : j = p
  · subst hjp; rcases hpn with hp | hp <;> rw [hp] <;> exact ⟨rfl, rfl⟩
  · by_cases hjx : j = x
    · subst hjx; rw [hxn]; exact ⟨rfl, rfl⟩
    · rw [hoth j hjp hjx]; exact ⟨rfl, rfl⟩

theorem appended_noEmpty {h h' : H} {p x : Nat} (ha : Appended h h' p x) (hn : NoEmptyName h) :
    NoEmptyName h' := by
  intro i hi
  rw [(appended_name ha i).1]
  exact hn i (by rw [← ha.1]; exact hi)

/-- While `x` (in the heap `h0` the clone started from, scratch `o0`) is copied into `c`:
    `done` are the children of `x` whose copies have been attached. -/
structure CloneNamed (h0 : H) (o0 : Nat → Nat) (x c : Nat) (done : List Nat) (t : X) : Prop where
  base : CloneInv h0.size c h0 t.h
  noEmpty : NoEmptyName t.h
  orig : ∀ i, i < h0.size → t.orig i = o0 i
  kind : (t.h.node c).kind = (h0.node x).kind
  name : (t.h.node c).name = (h0.node x).name
  kids : ∀ m, m ∈ (t.h.node c).secs ∨ m ∈ (t.h.node c).props →
    ∃ k ∈ done, (t.h.node m).name = (h0.node k).name ∧ (t.h.node m).kind = (h0.node k).kind

theorem CloneNamed.mono {h0 : H} {o0 : Nat → Nat} {x c : Nat} {done done' : List Nat} {t : X}
    (h : CloneNamed h0 o0 x c done t) (hs : ∀ k ∈ done, k ∈ done') : CloneNamed h0 o0 x c done' t :=
  ⟨h.base, h.noEmpty, h.orig, h.kind, h.name, fun m hm => by
    obtain ⟨k, hk, h1⟩ := h.kids m hm
    exact ⟨k, hs k hk, h1⟩⟩

/-- What a (sub-)clone of `k` started in `t` guarantees on top of `CloneRes`. -/
structure CloneOut (t : X) (k : Nat) (r : X × Nat × XOut) : Prop where
  noEmpty : NoEmptyName r.1.h
  orig : ∀ i, i < t.h.size → r.1.orig i = t.orig i
  out : Calm r.2.2
  root : r.2.2 = .ok → (r.1.h.node r.2.1).kind = (t.h.node k).kind ∧
    (r.1.h.node r.2.1).name = (t.h.node k).name

theorem kidsLoop_full {rec : X → Nat → X × Nat × XOut}
    (hrec0 : ∀ t k, WF t.h → CloneRes t (rec t k))
    (hrec : ∀ t k, WF t.h → NoEmptyName t.h → k < t.h.size → CloneOut t k (rec t k))
    {h0 : H} {o0 : Nat → Nat} {x c : Nat} (w0 : WF h0) (hc : h0.size ≤ c) :
    ∀ (ks done : List Nat) (s : X), CloneNamed h0 o0 x c done s → (done ++ ks).Nodup →
      (∀ k ∈ done ++ ks, (h0.node k).parent = some x) →
      CloneNamed h0 o0 x c (done ++ ks) (kidsLoop rec c ks s).1 ∧
      Calm (kidsLoop rec c ks s).2 := by
  intro ks
  induction ks with
  | nil =>
    intro done s h _ _
    rw [List.append_nil]
    exact ⟨h, Or.inl rfl⟩
  | cons k ks ih =>
    intro done s h hnodup hpar
    have hkpar : (h0.node k).parent = some x :=
      hpar k (List.mem_append_right _ List.mem_cons_self)
    have hk0 : k < h0.size := w0.child_lt hkpar
    have hks : k < s.h.size := Nat.lt_of_lt_of_le hk0 h.base.same.1
    have r0 := hrec0 s k h.base.wf
    have r1 := hrec s k h.base.wf h.noEmpty hks
    obtain ⟨inv1, inv2⟩ := kids_step_inv hrec0 hc s k h.base
    rw [kidsLoop_cons]
    generalize rec s k = R at r0 r1 inv1 inv2 ⊢
    have hcs : c < s.h.size := h.base.lt
    have hnodec : R.1.h.node c = s.h.node c := r0.same.2 c hcs
    have ci1 : CloneNamed h0 o0 x c done R.1 := by
      refine ⟨inv1, r1.noEmpty, ?_, ?_, ?_, ?_⟩
      · intro i hi
        rw [r1.orig i (Nat.lt_of_lt_of_le hi h.base.same.1)]; exact h.orig i hi
      · rw [hnodec]; exact h.kind
      · rw [hnodec]; exact h.name
      · intro m hm
        rw [hnodec] at hm
        have hms : m < s.h.size := by
          rcases hm with hm | hm
          · exact h.base.wf.child_lt ((h.base.wf.memS c m).mp hm).1
          · exact h.base.wf.child_lt ((h.base.wf.memP c m).mp hm).1
        rw [r0.same.2 m hms]
        exact h.kids m hm
    refine andThen_safe r1.out (fun hok => ?_)
      (ci1.mono fun k' hk' => List.mem_append_left _ hk')
    obtain ⟨hck, hdet⟩ := r0.ok hok
    obtain ⟨hkk, hkn⟩ := r1.root hok
    rw [h.base.same.2 k hk0] at hkk hkn
    have hanc : ¬ Anc R.1.h R.2.1 c := by
      intro ha
      cases ha with
      | refl => exact Nat.ne_of_lt hcs (by rw [← r0.root])
      | step hp _ => rw [inv1.det] at hp; cases hp
    -- the copies attached so far are named like other children of `x`, of which no two of a
    -- kind have the same name
    have hfree : ∀ m, m ∈ (R.1.h.node c).secs ∨ m ∈ (R.1.h.node c).props →
        (R.1.h.node m).kind = (h0.node k).kind →
        (R.1.h.node m).name ≠ (R.1.h.node R.2.1).name := by
      intro m hm hkd hname
      obtain ⟨k', hk', hn', hkd'⟩ := ci1.kids m hm
      exact (List.nodup_append.mp hnodup).2.2 k' hk' k List.mem_cons_self
        (w0.sib (hpar k' (List.mem_append_left _ hk')) hkpar (hkd'.symm.trans hkd)
          (by rw [← hn', hname, hkn]))
    obtain ⟨hout, happd⟩ := step_append_ok inv1.wf inv1.lt hck hdet hanc (by
      rcases w0.kind_of_parent hkpar with hk0 | hk0
      · refine Or.inl ⟨hkk.trans hk0, by rw [ci1.kind]; exact w0.parS k x hkpar hk0,
          nameIn_false.mpr fun m hm => hfree m (Or.inl hm) ?_⟩
        rw [((inv1.wf.memS c m).mp hm).2, hk0]
      · refine Or.inr ⟨hkk.trans hk0, by rw [ci1.kind]; exact w0.parP k x hkpar hk0,
          nameIn_false.mpr fun m hm => hfree m (Or.inr hm) ?_⟩
        rw [((inv1.wf.memP c m).mp hm).2, hk0])
    have happd : Appended R.1.h (R.1.prim (.append c R.2.1)).1.h c
        R.2.1 := happd
    have ci2 : CloneNamed h0 o0 x c (done ++ [k]) (R.1.prim (.append c R.2.1)).1 := by
      refine ⟨inv2 hok, appended_noEmpty happd ci1.noEmpty, ?_, ?_, ?_, ?_⟩
      · intro i hi; rw [prim_orig]; exact ci1.orig i hi
      · rw [(appended_name happd c).2]; exact ci1.kind
      · rw [(appended_name happd c).1]; exact ci1.name
      · intro m hm
        rw [(appended_name happd m).1, (appended_name happd m).2]
        rcases Appended.kids happd hm with e | hm'
        · subst e
          exact ⟨k, List.mem_append_right _ (List.mem_singleton.mpr rfl), hkn, hkk⟩
        · obtain ⟨k', hk', h1⟩ := ci1.kids m hm'
          exact ⟨k', List.mem_append_left _ hk', h1⟩
    rw [List.append_cons] at hnodup hpar ⊢
    exact andThen_safe (Or.inl (by
        show XOut.ofOutcome (step R.1.h (.append c R.2.1)).2 = .ok
        rw [hout]; rfl))
      (fun _ => ih (done ++ [k]) _ ci2 hnodup hpar) (ci2.mono fun k' hk' => List.mem_append_left _ hk')

theorem newIdUnless_full {h0 : H} {o0 : Nat → Nat} {x c : Nat} {done : List Nat}
    (hc : h0.size ≤ c) (keepId : Bool) (O : Oracle) (s : X) (h : CloneNamed h0 o0 x c done s) :
    CloneNamed h0 o0 x c done (newIdUnless keepId O s c).1 ∧ (newIdUnless keepId O s c).2 = .ok := by
  have hb := newIdUnless_spec hc keepId O s h.base
  unfold newIdUnless at hb ⊢
  split
  · exact ⟨h, rfl⟩
  · rename_i hk
    rw [if_neg hk] at hb
    have hstep := step_newId s.h c (O.ids c) h.base.lt
    have hnode : ∀ j, ((s.prim (.newId c (some (O.ids c)))).1.h.node j).name = (s.h.node j).name ∧
        ((s.prim (.newId c (some (O.ids c)))).1.h.node j).kind = (s.h.node j).kind ∧
        ((s.prim (.newId c (some (O.ids c)))).1.h.node j).secs = (s.h.node j).secs ∧
        ((s.prim (.newId c (some (O.ids c)))).1.h.node j).props = (s.h.node j).props := by
      intro j
      rw [prim_h, hstep]
      by_cases hj : j = c
      · subst hj; rw [upd_same]; exact ⟨rfl, rfl, rfl, rfl⟩
      · rw [upd_other _ _ _ _ hj]; exact ⟨rfl, rfl, rfl, rfl⟩
    refine ⟨⟨hb, ?_, ?_, ?_, ?_, ?_⟩, ?_⟩
    · intro i hi
      rw [(hnode i).1]
      apply h.noEmpty i
      rw [prim_h, hstep] at hi; exact hi
    · intro i hi; rw [prim_orig]; exact h.orig i hi
    · rw [(hnode c).2.1]; exact h.kind
    · rw [(hnode c).1]; exact h.name
    · intro m hm
      rw [(hnode c).2.2.1, (hnode c).2.2.2] at hm
      rw [(hnode m).1, (hnode m).2.1]
      exact h.kids m hm
    · show XOut.ofOutcome (step s.h (.newId c (some (O.ids c)))).2 = .ok
      rw [hstep]; rfl

/-- `clone` never raises (and what its copy looks like). -/
theorem cloneAux_full (O : Oracle) : ∀ (fuel : Nat) (s : X) (x : Nat) (ch keepId : Bool),
    WF s.h → NoEmptyName s.h → x < s.h.size → CloneOut s x (cloneAux O fuel s x ch keepId) := by
  intro fuel
  induction fuel with
  | zero =>
    intro s x ch keepId w hn hx
    exact ⟨hn, fun _ _ => rfl, Or.inr rfl, fun h => by cases h⟩
  | succ fuel ih =>
    intro s x ch keepId w hn hx
    have hrec0 := cloneAux_spec_rec O fuel keepId
    have hrec := fun (t : X) (k : Nat) => ih t k true keepId
    obtain ⟨_, _, hh⟩ := copyObj_spec s x
    rw [cloneAux_succ]
    have inv1 := copyObj_cloneInv w x
    have hnx : (s.h.node x).name ≠ "" := hn x hx
    have hnew : (copyObj s x).1.h.node s.h.size = ⟨(s.h.node x).kind, (s.h.node x).name,
        (s.h.node x).id, none, [], []⟩ := by
      rw [hh]; simp [alloc, hnx]
    have ci1 : CloneNamed s.h s.orig x s.h.size [] (copyObj s x).1 := by
      refine ⟨inv1, ?_, ?_, ?_, ?_, ?_⟩
      · intro i hi
        rw [hh, alloc_size] at hi
        by_cases hi' : i = s.h.size
        · subst hi'; rw [hnew]; exact hnx
        · rw [hh, alloc_other _ _ _ _ hi']
          exact hn i (Nat.lt_of_le_of_ne (Nat.le_of_lt_succ hi) hi')
      · intro i hi
        rw [copyObj_orig s x i, if_neg (Nat.ne_of_lt hi)]
      · rw [hnew]
      · rw [hnew]
      · intro m hm; rw [hnew] at hm; simp at hm
    have hcn : s.h.size ≤ s.h.size := Nat.le_refl _
    have hparS : ∀ k, k ∈ (s.h.node x).secs → (s.h.node k).parent = some x :=
      fun k hk => ((w.memS x k).mp hk).1
    have hparP : ∀ k, k ∈ (s.h.node x).props → (s.h.node k).parent = some x :=
      fun k hk => ((w.memP x k).mp hk).1
    suffices h : CloneNamed s.h s.orig x s.h.size ((s.h.node x).secs ++ (s.h.node x).props)
        (cloneBody O fuel s x ch keepId).1 ∧ Calm (cloneBody O fuel s x ch keepId).2 from
      ⟨h.1.noEmpty, h.1.orig, h.2, fun _ => ⟨h.1.kind, h.1.name⟩⟩
    unfold cloneBody
    split
    · obtain ⟨h2, o2⟩ := newIdUnless_full hcn keepId O _ ci1
      exact ⟨h2.mono nofun, Or.inl o2⟩
    · have hS : CloneNamed s.h s.orig x s.h.size (s.h.node x).secs (kidsIf ch (fun t k =>
            cloneAux O fuel t k true keepId) s.h.size (s.h.node x).secs (copyObj s x).1).1 ∧
          Calm (kidsIf ch (fun t k => cloneAux O fuel t k true keepId) s.h.size
            (s.h.node x).secs (copyObj s x).1).2 := by
        unfold kidsIf
        split
        · exact kidsLoop_full hrec0 hrec w hcn (s.h.node x).secs [] _ ci1 (w.nodupS x) hparS
        · exact ⟨ci1.mono nofun, Or.inl rfl⟩
      refine andThen_safe hS.2 (fun _ => ?_) (hS.1.mono fun k hk => List.mem_append_left _ hk)
      obtain ⟨h3, o3⟩ := newIdUnless_full hcn keepId O _ hS.1
      refine andThen_safe (Or.inl o3) (fun _ => ?_) (h3.mono fun k hk => List.mem_append_left _ hk)
      split
      · exact kidsLoop_full hrec0 hrec w hcn (s.h.node x).props (s.h.node x).secs _ h3
          (List.nodup_append.mpr ⟨w.nodupS x, w.nodupP x, fun a ha b hb e => by
            have h1 := ((w.memS x a).mp ha).2
            rw [e, ((w.memP x b).mp hb).2] at h1; cases h1⟩)
          (fun k hk => (List.mem_append.mp hk).elim (hparS k) (hparP k))
      · exact ⟨h3.mono fun k hk => List.mem_append_left _ hk, Or.inl rfl⟩

end Heap.Refuse
