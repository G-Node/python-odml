/-
M-Loader (C18): a document object is only ever built from a parsed document, so every object
in a table, in a `pub` frame or returned by an operation carries a `node` tree, never `fail`.
Consequence: `load` of a resource that cannot be fetched or parsed returns `None` itself (not an
object with empty content).
-/
import OdmlModel.Proofs.Loader

namespace Loader

variable {g : Url → Res} {rank : Url → Nat} {cache0 : Url → CacheSt}

/-- A value is `None` or a document object (with a `node` tree). -/
def NodeVal (v : Val) : Prop := ∀ o, v = some o → ∃ u kids, o.tree = .node u kids

def FrameNV : Frame → Prop
  | .pub _ v => NodeVal v
  | _ => True

def TableNV (sh : Shared) : Prop := ∀ k v, sh.loaded k = some v → NodeVal v

theorem nodeVal_none : NodeVal none := nofun

theorem advance_nv (k : Key) (todo : List Url) (acc : List Tree) (id : Nat) :
    FrameNV (advance k todo acc id) := by
  cases todo with
  | nil => intro o ho; cases ho; exact ⟨_, _, rfl⟩
  | cons u t => trivial

section Transition
variable {sh sh' : Shared} {n : Nat} {f : Frame} {nx : Next} {sp : Option Key} {rest st : List Frame}
  {b : Option Val}

theorem Top.nv (h : Top g sh n f sh' nx sp) (ht : TableNV sh) (hf : FrameNV f) :
    TableNV sh' ∧ (∀ fs, nx = .cont fs → ∀ x ∈ fs, FrameNV x) ∧ (∀ v, nx = .ret v → NodeVal v) := by
  have hfs : ∀ fs, nx = .cont fs → ∀ x ∈ fs, FrameNV x := by
    intro fs hfs
    cases h <;> cases hfs
    case garbage => exact List.forall_mem_singleton.2 nodeVal_none
    case doc => exact List.forall_mem_singleton.2 (advance_nv ..)
    case last => exact List.forall_mem_singleton.2 (advance_nv ..)
    case await => exact List.forall_mem_singleton.2 hf
    case next => exact List.forall_mem_cons.2 ⟨trivial, List.forall_mem_singleton.2 trivial⟩
    case spawn => exact List.forall_mem_cons.2 ⟨trivial, List.forall_mem_singleton.2 trivial⟩
    all_goals exact List.forall_mem_singleton.2 trivial
  have htab : TableNV sh' := by
    intro k v hv
    rcases h.loaded hv with h1 | rfl
    · exact ht k v h1
    · exact hf
  refine ⟨htab, hfs, fun v hv => ?_⟩
  subst hv
  rcases h.returns with ⟨rfl, _⟩ | hl
  · exact nodeVal_none
  · exact htab _ _ hl

end Transition

structure NodeInv (s : State) : Prop where
  tableNV : TableNV s.sh
  stacks : AllStacks (fun _ st => ∀ f ∈ st, FrameNV f) s
  resNV : ∀ r ∈ s.results, NodeVal r.val

theorem frameNV_opStack (ops : List Op) : ∀ f ∈ opStack ops, FrameNV f := by
  intro f hf
  obtain ⟨o, _, rfl⟩ := mem_opStack.mp hf
  cases o <;> trivial

theorem init_nodeInv (cache0 : Url → CacheSt) (prog : List Op) : NodeInv (init cache0 prog) := by
  obtain ⟨b, e⟩ := init_eq cache0 prog
  rw [e]
  exact ⟨fun _ _ h => (nomatch h), ⟨frameNV_opStack prog, List.forall_mem_nil _⟩, List.forall_mem_nil _⟩

theorem step_nodeInv {s : State} (hi : Inv g rank cache0 s) (h3 : NodeInv s) (t : Nat) : NodeInv (step g s t) := by
  have hmid : ∀ {f rest sh' nx sp st b}, stackOf s t = f :: rest →
      Top g s.sh (s.threads.length + 1) f sh' nx sp → Applied nx rest st b →
      NodeInv (mid s sh' t st sp) ∧ ∀ v, nx = .ret v → NodeVal v := by
    intro f rest sh' nx sp st b hstk h ha
    obtain ⟨_, hold⟩ := h3.stacks.pick hstk
    obtain ⟨htab, hfs, hret⟩ := h.nv h3.tableNV (hold f (List.mem_cons_self ..))
    refine ⟨⟨htab, h3.stacks.to_mid hstk (fun _ _ hp => hp) (fun _ hp => ?_) ?_, h3.resNV⟩, hret⟩
    · exact ha.forall_mem hfs advance_nv fun x hx => hp x (List.mem_cons_of_mem _ hx)
    · intro k _ x hx
      cases List.mem_singleton.mp hx
      trivial
  refine hi.step_cases t (fun _ => h3) (fun f rest sh' nx sp st b hstk h ha _ => (hmid hstk h ha).1) ?_
  intro f sh' v sp op ops ht hc hp _ h
  subst ht
  obtain ⟨hm, hv⟩ := hmid hc h .exit
  obtain ⟨b, e⟩ := finishOp_eq (s := mid s sh' 0 [] sp) hp v
  rw [e]
  exact ⟨hm.tableNV, ⟨frameNV_opStack ops, hm.stacks.2⟩, List.forall_mem_cons.2 ⟨hv v rfl, hm.resNV⟩⟩

theorem runSched_nodeInv (hacy : Acyclic g rank) (sched : List Nat) :
    ∀ s, Inv g rank cache0 s → NodeInv s → NodeInv (runSched g s sched) := by
  induction sched with
  | nil => exact fun s _ h3 => h3
  | cons t ts ih => exact fun s hi h3 => ih _ (step_inv hacy hi t) (step_nodeInv hi h3 t)

end Loader
