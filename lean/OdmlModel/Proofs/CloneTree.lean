/-
C11: the tree an object denotes, and equality of the tree of a clone with the
tree of the original at every depth.

`absG h w n x`: the pure tree below `x` in the store `h`, unfolded to depth `n`: kind, name, compared
attributes, `_merged`, the values a Property denotes (atoms and tuples by content, not by address), the
child Sections and Properties in order; with `w = true` also the id at every position.  No handle of
the store occurs in it (except the `_merged` reference, which `clone` copies as it is), so equality of
trees is equality of content, whatever objects carry it.
-/
import OdmlModel.Proofs.CloneScoped
import OdmlModel.Proofs.CloneIds
namespace Clone

inductive Tree where
  | mk (kind : Kind) (name : String) (id : Option Nat) (attrs : List String) (merged : Option Nat)
       (vals : List Val) (secs props : List Tree)

/-- The root of a tree: the compared fields of `x`, the given children. -/
def rootT (h : H) (w : Bool) (x : Nat) (secs props : List Tree) : Tree :=
  .mk (h.node x).kind (h.node x).name (if w then some (h.node x).id else none) (h.node x).attrs (h.node x).merged
    (if (h.node x).kind = .prop then resolve h (valsOf h x) else []) secs props

/-- The tree below `x`, to depth `n`. A Property has no children, a Document no Properties (the
    lists the code never looks at are not part of the tree). -/
def absG (h : H) (w : Bool) : Nat → Nat → Tree
  | 0, x => rootT h w x [] []
  | n + 1, x =>
    rootT h w x (if (h.node x).kind = .prop then [] else (h.node x).secs.map (absG h w n))
      (if (h.node x).kind = .sec then (h.node x).props.map (absG h w n) else [])

theorem absG_zero (h : H) (w : Bool) (x : Nat) : absG h w 0 x = rootT h w x [] [] := rfl

theorem absG_succ (h : H) (w : Bool) (n x : Nat) :
    absG h w (n + 1) x =
      rootT h w x (if (h.node x).kind = .prop then [] else (h.node x).secs.map (absG h w n))
        (if (h.node x).kind = .sec then (h.node x).props.map (absG h w n) else []) := rfl

theorem absG_prop_const {h : H} {w : Bool} {p : Nat} (hk : (h.node p).kind = .prop) (n : Nat) :
    absG h w n p = absG h w 0 p := by
  cases n with
  | zero => rfl
  | succ n => simp [absG_succ, absG_zero, hk]

/-- Content only: ids ignored. -/
abbrev absTree (h : H) (n x : Nat) : Tree := absG h false n x
/-- Content and the id at every position. -/
abbrev idTree (h : H) (n x : Nat) : Tree := absG h true n x

/-- Same object up to the parent reference. -/
def TSame (n m : Node) : Prop :=
  m.kind = n.kind ∧ m.name = n.name ∧ m.id = n.id ∧ m.attrs = n.attrs ∧ m.secs = n.secs ∧ m.props = n.props ∧
  m.vals = n.vals ∧ m.merged = n.merged

theorem TSame.refl (n : Node) : TSame n n := ⟨rfl, rfl, rfl, rfl, rfl, rfl, rfl, rfl⟩
theorem TSame.of_eq {n m : Node} (e : m = n) : TSame n m := by subst e; exact TSame.refl _
theorem TSame.trans {a b c : Node} (h1 : TSame a b) (h2 : TSame b c) : TSame a c := by
  obtain ⟨a1, a2, a3, a4, a5, a6, a7, a8⟩ := h1
  obtain ⟨b1, b2, b3, b4, b5, b6, b7, b8⟩ := h2
  exact ⟨b1.trans a1, b2.trans a2, b3.trans a3, b4.trans a4, b5.trans a5, b6.trans a6, b7.trans a7, b8.trans a8⟩

theorem rootT_eq {h h' : H} {w : Bool} {a b : Nat} (s p : List Tree)
    (hk : (h'.node b).kind = (h.node a).kind) (hn : (h'.node b).name = (h.node a).name)
    (ha : (h'.node b).attrs = (h.node a).attrs) (hm : (h'.node b).merged = (h.node a).merged)
    (hid : w = true → (h'.node b).id = (h.node a).id)
    (hv : (h.node a).kind = .prop → resolve h' (valsOf h' b) = resolve h (valsOf h a)) :
    rootT h' w b s p = rootT h w a s p := by
  unfold rootT
  rw [hk, hn, ha, hm]
  congr 1
  · cases w
    · rfl
    · rw [hid rfl]
  · split
    · exact hv ‹_›
    · rfl

/-- A set of objects closed under the children the tree follows, whose values are allocated. -/
def TClosed (h : H) (P : Nat → Prop) : Prop := ∀ a, P a →
  ((h.node a).kind ≠ .prop → ∀ c, c ∈ (h.node a).secs → P c) ∧
  ((h.node a).kind = .sec → ∀ c, c ∈ (h.node a).props → P c) ∧
  ((h.node a).kind = .prop → ∀ v, (h.node a).vals = some v → v < h.nV ∧ ∀ t, Item.ref t ∈ h.vcell v → t < h.nT)

theorem valsOf_congr {h h' : H} {a : Nat} (hv : (h'.node a).vals = (h.node a).vals)
    (hc : ∀ v, (h.node a).vals = some v →
      h'.vcell v = h.vcell v ∧ ∀ t, Item.ref t ∈ h.vcell v → h'.tcell t = h.tcell t) :
    resolve h' (valsOf h' a) = resolve h (valsOf h a) := by
  unfold valsOf
  rw [hv]
  cases hval : (h.node a).vals with
  | none => rfl
  | some v =>
    obtain ⟨b1, b2⟩ := hc v hval
    simp only
    rw [b1]
    exact resolve_congr b2

theorem absG_congr {h h' : H} {P : Nat → Prop} (w : Bool)
    (cl : ∀ a, P a → ((h.node a).kind ≠ .prop → ∀ c, c ∈ (h.node a).secs → P c) ∧
      ((h.node a).kind = .sec → ∀ c, c ∈ (h.node a).props → P c))
    (hn : ∀ a, P a → TSame (h.node a) (h'.node a))
    (hv : ∀ a, P a → (h.node a).kind = .prop → resolve h' (valsOf h' a) = resolve h (valsOf h a)) :
    ∀ n a, P a → absG h' w n a = absG h w n a := by
  have root : ∀ a, P a → ∀ s p, rootT h' w a s p = rootT h w a s p := by
    intro a ha s p
    obtain ⟨k, nm, i, at_, _, _, _, mg⟩ := hn a ha
    exact rootT_eq s p k nm at_ mg (fun _ => i) (hv a ha)
  intro n
  induction n with
  | zero => intro a ha; exact root a ha [] []
  | succ n ih =>
    intro a ha
    obtain ⟨k, _, _, _, sc, pr, _, _⟩ := hn a ha
    rw [absG_succ, absG_succ, root a ha, k, sc, pr]
    congr 1
    · split
      · rfl
      · rename_i hk
        exact List.map_congr_left (fun c hc => ih c ((cl a ha).1 hk c hc))
    · split
      · rename_i hk
        exact List.map_congr_left (fun c hc => ih c ((cl a ha).2 hk c hc))
      · rfl

theorem valsOf_frame {h h' : H} {a : Nat} (hv : (h'.node a).vals = (h.node a).vals)
    (hb : ∀ v, (h.node a).vals = some v → v < h.nV ∧ ∀ t, Item.ref t ∈ h.vcell v → t < h.nT)
    (cv : ∀ v, v < h.nV → h'.vcell v = h.vcell v) (ct : ∀ t, t < h.nT → h'.tcell t = h.tcell t) :
    resolve h' (valsOf h' a) = resolve h (valsOf h a) :=
  valsOf_congr hv (fun v hval => ⟨cv v (hb v hval).1, fun t ht => ct t ((hb v hval).2 t ht)⟩)

theorem absG_frame {h h' : H} {P : Nat → Prop} (w : Bool) (cl : TClosed h P)
    (hn : ∀ a, P a → TSame (h.node a) (h'.node a))
    (cv : ∀ v, v < h.nV → h'.vcell v = h.vcell v) (ct : ∀ t, t < h.nT → h'.tcell t = h.tcell t) :
    ∀ n a, P a → absG h' w n a = absG h w n a :=
  absG_congr w (fun a ha => ⟨(cl a ha).1, (cl a ha).2.1⟩) hn
    (fun a ha hk => valsOf_frame (hn a ha).2.2.2.2.2.2.1 ((cl a ha).2.2 hk) cv ct)

theorem absG_block {h h1 k : H} (w : Bool) (cl : Closed h1 (rng h h1)) (bs : BlockSame h h1 h1 k) :
    ∀ n a, h.nN ≤ a → a < h1.nN → absG k w n a = absG h1 w n a := by
  intro n a h1' h2'
  refine absG_congr (P := fun a => h.nN ≤ a ∧ a < h1.nN) w (fun b hb => ?_) (fun b hb => TSame.of_eq (bs.1 b hb.1 hb.2))
    (fun b hb hk => ?_) n a ⟨h1', h2'⟩
  · obtain ⟨_, c2, c3, _⟩ := cl.1 b hb hb.2
    exact ⟨fun k c hc => c2 k c hc, fun k c hc => c3 k c hc⟩
  · refine valsOf_congr (by rw [bs.1 b hb.1 hb.2]) (fun v hv => ?_)
    have hv' := (cl.1 b hb hb.2).2.2.2 hk v hv
    refine ⟨bs.2.1 v hv'.1 hv'.2, fun t ht => ?_⟩
    have ht' := cl.2 v hv' hv'.2 t ht
    exact bs.2.2 t ht'.1 ht'.2

theorem tclosed_wf {K h} (w : WFG K h) : TClosed h (fun a => a < h.nN) := by
  intro a ha
  obtain ⟨_, w2, w3, w4⟩ := w.node a ha
  exact ⟨fun k c hc => (w2 k c hc).1, fun k c hc => (w3 k c hc).1,
    fun k v hv => ⟨w4 k v hv, w.cell v (w4 k v hv)⟩⟩

theorem absG_ext {K h h'} (wf : WFG K h) (e : Ext h h') (w : Bool) (n a : Nat) (ha : a < h.nN) :
    absG h' w n a = absG h w n a :=
  absG_frame w (tclosed_wf wf) (fun b hb => TSame.of_eq (e.node b hb)) e.vcell e.tcell n a ha

theorem tclosed_block {h h1 : H} (cl : Closed h1 (rng h h1)) : TClosed h1 (fun a => h.nN ≤ a ∧ a < h1.nN) := by
  intro a ha
  obtain ⟨c1, c2, c3, c4⟩ := cl.1 a ha ha.2
  refine ⟨fun k c hc => c2 k c hc, fun k c hc => c3 k c hc, fun k v hv => ?_⟩
  have hv' := c4 k v hv
  exact ⟨hv'.2, fun t ht => (cl.2 v hv' hv'.2 t ht).2⟩

/-- Later stores in which everything that exists now keeps all but parent references. -/
structure AfterAll (h h'' : H) : Prop where
  mono : Mono h h''
  node : ∀ a, a < h.nN → TSame (h.node a) (h''.node a)
  vcell : ∀ v, v < h.nV → h''.vcell v = h.vcell v
  tcell : ∀ t, t < h.nT → h''.tcell t = h.tcell t

/-- The same, with the object `c` left out. -/
structure After (c : Nat) (h h'' : H) : Prop where
  mono : Mono h h''
  node : ∀ a, a < h.nN → a ≠ c → TSame (h.node a) (h''.node a)
  vcell : ∀ v, v < h.nV → h''.vcell v = h.vcell v
  tcell : ∀ t, t < h.nT → h''.tcell t = h.tcell t

theorem AfterAll.refl (h : H) : AfterAll h h := ⟨Mono.refl h, fun _ _ => TSame.refl _, fun _ _ => rfl, fun _ _ => rfl⟩

theorem AfterAll.after {h h'' : H} (a : AfterAll h h'') (c : Nat) : After c h h'' :=
  ⟨a.mono, fun x hx _ => a.node x hx, a.vcell, a.tcell⟩

theorem AfterAll.of_ext {h h' : H} (e : Ext h h') : AfterAll h h' :=
  ⟨e.mono, fun a ha => TSame.of_eq (e.node a ha), e.vcell, e.tcell⟩

theorem AfterAll.trans {h1 h2 h3 : H} (a : AfterAll h1 h2) (b : AfterAll h2 h3) : AfterAll h1 h3 :=
  ⟨a.mono.trans b.mono, fun x hx => (a.node x hx).trans (b.node x (Nat.lt_of_lt_of_le hx a.mono.nN)),
    fun v hv => by rw [b.vcell v (Nat.lt_of_lt_of_le hv a.mono.nV), a.vcell v hv],
    fun t ht => by rw [b.tcell t (Nat.lt_of_lt_of_le ht a.mono.nT), a.tcell t ht]⟩

theorem LoopFrame.after {c : Nat} {h h' : H} (f : LoopFrame c h h') : After c h h' :=
  ⟨f.mono, fun a ha hne => TSame.of_eq (f.node a ha hne), f.vcell, f.tcell⟩

/-- A loop that only writes an object made since `h1` keeps what exists in `h1`. -/
theorem AfterAll.frame {c : Nat} {h1 h2 h3 : H} (a : AfterAll h1 h2) (f : LoopFrame c h2 h3) (hc : h1.nN ≤ c) :
    AfterAll h1 h3 :=
  ⟨a.mono.trans f.mono, fun x hx => by
      rw [f.node x (Nat.lt_of_lt_of_le hx a.mono.nN) (Nat.ne_of_lt (Nat.lt_of_lt_of_le hx hc))]; exact a.node x hx,
    fun v hv => by rw [f.vcell v (Nat.lt_of_lt_of_le hv a.mono.nV)]; exact a.vcell v hv,
    fun t ht => by rw [f.tcell t (Nat.lt_of_lt_of_le ht a.mono.nT)]; exact a.tcell t ht⟩

theorem attach_tsame {h h' : H} {c child : Nat} (ha : attach h c child = (h', none)) (a : Nat) (hne : a ≠ c) :
    TSame (h.node a) (h'.node a) := by
  rw [attach_ok ha, updN_node, setChildList, updN_other _ _ _ _ hne]
  split <;> exact TSame.refl _

/-- The copy a (recursive) clone call returns denotes the tree of the original (in the base store `h0`). -/
def RecTree (h0 : H) (w : Bool) (rec : H → Nat → H × Res) : Prop :=
  ∀ h s h1 sc, Ext h0 h → s < h0.nN → rec h s = (h1, .ok sc) → ∀ n, absG h1 w n sc = absG h0 w n s

/-- The copies appended to `c` denote the trees of the originals - in every later store that leaves them
    alone but for parents (`After`), because the caller goes on writing `c` and new objects. -/
theorem cloneLoop_tree {rec} {h0 : H} {w : Bool} (hrec : RecOk rec) (ht : RecTree h0 w rec) {c : Nat} (sl : Bool) :
    ∀ {l : List Nat} {h h' : H}, cloneLoop rec h c l = (h', none) → Ext h0 h → c < h.nN → h0.nN ≤ c →
      (∀ s, s ∈ l → s < h0.nN ∧ ((h0.node s).kind != .prop) = sl) →
      ∃ news, childList h' c sl = childList h c sl ++ news ∧ childList h' c (!sl) = childList h c (!sl) ∧
        ∀ h'', After c h' h'' → ∀ n, news.map (absG h'' w n) = l.map (absG h0 w n) := by
  intro l
  induction l with
  | nil =>
    intro h h' hl _ _ _ _
    rw [cloneLoop_nil hl]
    exact ⟨[], by simp, rfl, fun _ _ _ => rfl⟩
  | cons s rest ih =>
    intro h h' hl e hc hc0 hs
    obtain ⟨h1, sc, h2, hr, hat, hl⟩ := cloneLoop_cons hl
    have ok := hrec h s h1 sc hr
    obtain ⟨hs1, hs2⟩ := hs s (List.mem_cons_self ..)
    have hsc := ok.c_eq
    have m12 := attach_mono hat
    have hc2 : c < h2.nN := Nat.lt_of_lt_of_le hc (ok.ext.1.trans m12).1
    have e2 : Ext h0 h2 := ext_attach (e.trans ok.ext) hat hc0 (hsc ▸ e.mono.nN)
    have f2 := (cloneLoop_loop _ hl).frame hrec hc2
    obtain ⟨news, l1, l2, l3⟩ := ih hl e2 hc2 hc0 (fun s' hs' => hs s' (List.mem_cons_of_mem _ hs'))
    have ksc : ((h1.node sc).kind != .prop) = sl := by rw [ok.kind, e.node s hs1]; exact hs2
    obtain ⟨a1, a2⟩ := attach_childList hat (hsc ▸ Nat.ne_of_lt hc)
    rw [ksc] at a1 a2
    have hc1 : h1.node c = h.node c := ok.ext.node c hc
    refine ⟨sc :: news, ?_, ?_, fun h'' af n => ?_⟩
    · rw [l1, a1]; simp [childList, hc1]
    · rw [l2, a2]; simp [childList, hc1]
    · simp only [List.map_cons]
      rw [l3 h'' af n]
      congr 1
      rw [← ht h s h1 sc e hs1 hr n]
      have m2 := f2.mono
      -- the block of the copy `sc` is untouched by the attach (up to the parent of `sc`), the rest of
      -- the loop and whatever comes after
      refine absG_frame w (tclosed_block ok.closed) (fun a ha => ?_) (fun v hv => ?_) (fun t ht => ?_) n sc
        ⟨Nat.le_of_eq hsc.symm, hsc ▸ ok.lt⟩
      · have hne : a ≠ c := Nat.ne_of_gt (Nat.lt_of_lt_of_le hc ha.1)
        have ha2 : a < h2.nN := Nat.lt_of_lt_of_le ha.2 m12.nN
        refine (attach_tsame hat a hne).trans ?_
        rw [← f2.node a ha2 hne]
        exact af.node a (Nat.lt_of_lt_of_le ha2 m2.nN) hne
      · have hv2 : v < h2.nV := Nat.lt_of_lt_of_le hv m12.nV
        rw [af.vcell v (Nat.lt_of_lt_of_le hv2 m2.nV), f2.vcell v hv2, attach_vcell hat]
      · have ht2 : t < h2.nT := Nat.lt_of_lt_of_le ht m12.nT
        rw [af.tcell t (Nat.lt_of_lt_of_le ht2 m2.nT), f2.tcell t ht2, attach_tcell hat]

theorem cloneBody_shape {rec} {h0 : H} {w : Bool} (hrec : RecOk rec) (ht : RecTree h0 w rec) (wf : WF h0)
    {h : H} {x : Nat} {ch keep : Bool} {h' : H} {c : Nat} (e : Ext h0 h) (hx : x < h0.nN)
    (hk : (h0.node x).kind ≠ .prop) (hb : cloneBody rec h x ch keep = (h', .ok c)) :
    (∀ n, (h'.node c).secs.map (absG h' w n) = (if ch = true then (h0.node x).secs else []).map (absG h0 w n)) ∧
    ((h0.node x).kind = .sec →
      ∀ n, (h'.node c).props.map (absG h' w n) = (if ch = true then (h0.node x).props else []).map (absG h0 w n)) := by
  obtain ⟨rfl, h4, hl4, h5, hh5, hrest⟩ := cloneBody_run hb
  have hx0 : h.node x = h0.node x := e.node x hx
  have m0 : h0.nN ≤ h.nN := e.mono.nN
  have wx := wf.node x hx
  have e3 : Ext h0 (bodyStart h x) := e.trans (ext_bodyStart h x)
  rw [e3.node x hx] at hl4
  obtain ⟨news1, a1, _, a3⟩ := cloneLoop_tree hrec ht true hl4 e3 (Nat.lt_succ_self _) m0
    (fun s hs => by
      obtain ⟨p, q⟩ := wx.2.1 hk s (List.mem_ite_nil_right.1 hs).2
      exact ⟨p, by rw [q rfl]; rfl⟩)
  have f4 := (cloneLoop_loop _ hl4).frame hrec (Nat.lt_succ_self _)
  simp only [childList, if_true, bodyStart_node, List.nil_append] at a1
  have s5 : LoopFrame h.nN h4 h5 ∧ (h5.node h.nN).secs = news1 := by
    rw [hh5]; split
    · exact ⟨.refl _ _, a1⟩
    · exact ⟨.newId _ _, by rw [newId_node, if_pos rfl]; exact a1⟩
  obtain ⟨f5, s5⟩ := s5
  split at hrest
  · rename_i hdoc
    rw [hrest]
    refine ⟨fun n => ?_, fun hs => ?_⟩
    · rw [s5]; exact a3 _ f5.after n
    · rw [hx0] at hdoc; rw [hdoc] at hs; cases hs
  · rename_i hnd
    obtain ⟨h6, hh6, hl7⟩ := hrest
    have hsec : (h0.node x).kind = .sec := kind_sec_of hk (by rw [← hx0]; exact hnd)
    have f6 : LoopFrame h.nN h4 h6 := f5.trans (by rw [hh6]; exact .updN _ _ _ rfl)
    have e6 : Ext h0 h6 := ext_of_frame (ext_of_frame e3 f4 m0) f6 m0
    have m6 : h.nN < h6.nN := (f4.trans f6).mono.1
    rw [e6.node x hx] at hl7
    obtain ⟨news2, b1, b2, b3⟩ := cloneLoop_tree hrec ht false hl7 e6 m6 m0
      (fun s hs => by
        obtain ⟨p, q⟩ := wx.2.2.1 hsec s (List.mem_ite_nil_right.1 hs).2
        exact ⟨p, by rw [q rfl]; rfl⟩)
    have f7 := (cloneLoop_loop _ hl7).frame hrec m6
    have n6 : h6.node h.nN = { h5.node h.nN with props := [] } := by rw [hh6, updN_same]
    simp only [childList, Bool.false_eq_true, if_false, n6, List.nil_append, Bool.not_false, if_true] at b1 b2
    refine ⟨fun n => ?_, fun _ n => ?_⟩
    · rw [b2, s5]; exact a3 _ (f6.trans f7).after n
    · rw [b1]; exact b3 _ ((AfterAll.refl _).after _) n

theorem cloneBody_tree {rec} {h0 : H} {w : Bool} (hrec : RecOk rec) (ht : RecTree h0 w rec) (wf : WF h0)
    {h : H} {x : Nat} {ch keep : Bool} {h' : H} {c : Nat} (e : Ext h0 h) (hx : x < h0.nN)
    (hk : (h0.node x).kind ≠ .prop) (hw : w = true → keep = true)
    (hb : cloneBody rec h x ch keep = (h', .ok c)) :
    ∀ n, absG h' w n c = if ch = true then absG h0 w n x else absG h0 w 0 x := by
  have hx0 : h.node x = h0.node x := e.node x hx
  have root := cloneBody_fields hrec hb
  obtain ⟨sh1, sh2⟩ := cloneBody_shape hrec ht wf e hx hk hb
  have kc : (h'.node c).kind = (h0.node x).kind := by rw [root.kind, hx0]
  have rt : ∀ s p, rootT h' w c s p = rootT h0 w x s p := fun s p =>
    rootT_eq s p kc (by rw [root.name, hx0]) (by rw [root.attrs, hx0]) (by rw [root.merged, hx0])
      (fun hw' => by rw [root.idKept (hw hw'), hx0]) (fun hp => absurd hp hk)
  intro n
  cases n with
  | zero =>
    simp only [absG_zero, rt]
    split <;> rfl
  | succ n =>
    simp only [absG_succ, rt, kc, if_neg hk]
    rw [sh1 n]
    by_cases hs : (h0.node x).kind = .sec
    · simp only [if_pos hs]
      rw [sh2 hs n]
      cases ch <;> simp [absG_zero]
    · simp only [if_neg hs]
      cases ch <;> simp [absG_zero]

theorem cloneProp_tree {K} {h0 : H} (w : Bool) (wf : WFG K h0) (h : H) (x : Nat) (keep : Bool) (e : Ext h0 h)
    (hx : x < h0.nN) (hk : (h0.node x).kind = .prop) (hw : w = true → keep = true) :
    ∀ n, absG (cloneProp h x keep).1 w n (cloneProp h x keep).2 = absG h0 w 0 x := by
  have hx0 : h.node x = h0.node x := e.node x hx
  have s := cloneProp_spec h x keep
  have root := cloneProp_fields h x keep
  have kc : ((cloneProp h x keep).1.node (cloneProp h x keep).2).kind = (h0.node x).kind := by rw [root.kind, hx0]
  have vals : resolve (cloneProp h x keep).1 (valsOf (cloneProp h x keep).1 (cloneProp h x keep).2) =
      resolve h0 (valsOf h0 x) := by
    have hb0 := (tclosed_wf wf x hx).2.2 hk
    have v0 : resolve h (valsOf h x) = resolve h0 (valsOf h0 x) :=
      valsOf_frame (by rw [hx0]) hb0 e.vcell e.tcell
    rw [← v0]
    have hvv : ((cloneProp h x keep).1.node (cloneProp h x keep).2).vals = some h.nV := by rw [s.node]
    have : valsOf (cloneProp h x keep).1 (cloneProp h x keep).2 = (cloneProp h x keep).1.vcell h.nV := by
      simp only [valsOf, hvv]
    rw [this]
    refine s.same (Nat.lt_of_lt_of_le hx e.mono.nN) (fun t ht => ?_)
    unfold valsOf at ht
    rw [hx0] at ht
    cases hv : (h0.node x).vals with
    | none => rw [hv] at ht; simp at ht
    | some v =>
      rw [hv] at ht
      simp only at ht
      obtain ⟨b1, b2⟩ := hb0 v hv
      rw [e.vcell v b1] at ht
      exact Nat.lt_of_lt_of_le (b2 t ht) e.mono.nT
  have rt : ∀ s' p, rootT (cloneProp h x keep).1 w (cloneProp h x keep).2 s' p = rootT h0 w x s' p := fun s' p =>
    rootT_eq s' p kc (by rw [root.name, hx0]) (by rw [root.attrs, hx0]) (by rw [root.merged, hx0])
      (fun hw' => by rw [root.idKept (hw hw'), hx0]) (fun _ => vals)
  intro n
  cases n with
  | zero => simp only [absG_zero, rt]
  | succ n => simp [absG_succ, absG_zero, rt, kc, hk]

theorem cloneF_tree {h0 : H} (w : Bool) (wf : WF h0) : ∀ (f : Nat) {h : H} {x : Nat} {ch keep : Bool} {h' : H} {c : Nat},
    Ext h0 h → x < h0.nN → (w = true → keep = true) → cloneF f h x ch keep = (h', .ok c) →
    ∀ n, absG h' w n c = if ch = true then absG h0 w n x else absG h0 w 0 x := by
  intro f
  induction f with
  | zero => intro h x ch keep h' c _ _ _ hc; cases hc
  | succ f ih =>
    intro h x ch keep h' c e hx hw hc
    have hx0 : h.node x = h0.node x := e.node x hx
    have hc := cloneF_ok hc
    rw [hx0] at hc
    split at hc
    · rename_i hk
      obtain ⟨rfl, rfl⟩ := Prod.mk.inj (hc.symm.trans (Prod.eta _).symm)
      intro n
      rw [cloneProp_tree w wf h x keep e hx hk hw n]
      split
      · exact (absG_prop_const hk n).symm
      · rfl
    · rename_i hk
      exact cloneBody_tree (cloneF_recOk f keep) (fun _ _ _ _ e' hs hr n => by simpa using ih e' hs hw hr n)
        wf e hx hk hw hc

/-- Every id that occurs in the tree satisfies `P`. -/
inductive Tree.AllIds (P : Nat → Prop) : Tree → Prop
  | mk {kind name id attrs merged vals secs props} :
    (∀ i, id = some i → P i) → (∀ t, t ∈ secs → Tree.AllIds P t) → (∀ t, t ∈ props → Tree.AllIds P t) →
    Tree.AllIds P (.mk kind name id attrs merged vals secs props)

theorem absG_allIds {h : H} {B : Nat → Prop} {P : Nat → Prop} (cl : TClosed h B)
    (hid : ∀ a, B a → P (h.node a).id) : ∀ n a, B a → (absG h true n a).AllIds P := by
  intro n
  induction n with
  | zero =>
    intro a ha
    refine .mk (fun i hi => ?_) (fun t ht => by simp at ht) (fun t ht => by simp at ht)
    simp only [if_true, Option.some.injEq] at hi
    subst hi; exact hid a ha
  | succ n ih =>
    intro a ha
    refine .mk (fun i hi => ?_) (fun t ht => ?_) (fun t ht => ?_)
    · simp only [if_true, Option.some.injEq] at hi
      subst hi; exact hid a ha
    · split at ht
      · simp at ht
      · rename_i hk
        obtain ⟨c, hc, rfl⟩ := List.mem_map.1 ht
        exact ih c ((cl a ha).1 hk c hc)
    · split at ht
      · rename_i hk
        obtain ⟨c, hc, rfl⟩ := List.mem_map.1 ht
        exact ih c ((cl a ha).2.1 hk c hc)
      · simp at ht

/-- Without `keep_id`, every id at every position of the tree of the copy was generated during the call. -/
theorem cloneF_ids_tree (f : Nat) (h : H) (x : Nat) (ch : Bool) (h' : H) (c : Nat)
    (hc : cloneF f h x ch false = (h', .ok c)) : ∀ n, (absG h' true n c).AllIds (fun i => h.nextId ≤ i) := by
  have ok := cloneF_spec hc
  intro n
  exact absG_allIds (tclosed_block ok.closed) (fun a ha => cloneF_ids hc a ha.1 ha.2) n c
    ⟨by rw [ok.c_eq]; exact Nat.le_refl _, by rw [ok.c_eq]; exact ok.lt⟩

end Clone
