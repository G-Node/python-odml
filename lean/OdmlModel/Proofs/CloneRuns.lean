/-
C11: what `attach`, the cloning loop and one round of the loop of `export_leaf` write among
the locations that existed when they started (`LoopFrame`).
-/
import OdmlModel.Proofs.CloneStep
namespace Clone

/-- What the cloning loop writes among the locations that existed when it started: the object `c`
    the copies are appended to, nothing else. -/
structure LoopFrame (c : Nat) (h h' : H) : Prop where
  mono : Mono h h'
  node : ∀ a, a < h.nN → a ≠ c → h'.node a = h.node a
  vcell : ∀ v, v < h.nV → h'.vcell v = h.vcell v
  tcell : ∀ t, t < h.nT → h'.tcell t = h.tcell t
  kind : (h'.node c).kind = (h.node c).kind

theorem LoopFrame.refl (c : Nat) (h : H) : LoopFrame c h h :=
  ⟨Mono.refl h, fun _ _ _ => rfl, fun _ _ => rfl, fun _ _ => rfl, rfl⟩

theorem LoopFrame.trans {c : Nat} {h1 h2 h3 : H} (a : LoopFrame c h1 h2) (b : LoopFrame c h2 h3) :
    LoopFrame c h1 h3 :=
  ⟨a.mono.trans b.mono, fun x hx hne => by rw [b.node x (Nat.lt_of_lt_of_le hx a.mono.nN) hne, a.node x hx hne],
    fun v hv => by rw [b.vcell v (Nat.lt_of_lt_of_le hv a.mono.nV), a.vcell v hv],
    fun t ht => by rw [b.tcell t (Nat.lt_of_lt_of_le ht a.mono.nT), a.tcell t ht], by rw [b.kind, a.kind]⟩

theorem LoopFrame.updN (c : Nat) (h : H) (f : Node → Node) (hk : (f (h.node c)).kind = (h.node c).kind) :
    LoopFrame c h (updN h c f) :=
  ⟨Mono.refl h, fun _ _ hne => updN_other _ _ _ _ hne, fun _ _ => rfl, fun _ _ => rfl, by rw [updN_same, hk]⟩

theorem LoopFrame.newId (c : Nat) (h : H) : LoopFrame c h (newId h c) :=
  ⟨⟨Nat.le_refl _, Nat.le_refl _, Nat.le_refl _, Nat.le_succ _⟩, fun a _ hne => by rw [newId_node, if_neg hne],
    fun _ _ => rfl, fun _ _ => rfl, by rw [newId_node, if_pos rfl]⟩

theorem Loop.frame {rec c h h'} (hrec : RecOk rec) (l : Loop rec c h h') (hc : c < h.nN) : LoopFrame c h h' := by
  induction l with
  | done h => exact .refl c h
  | @round h h1 h2 _ _ sc hr hat _ ih =>
    obtain ⟨e1, _, hsc, _, _, _⟩ := hrec _ _ _ _ hr
    have f12 : LoopFrame c h h2 := by
      refine ⟨e1.1.trans (attach_mono hat), fun a ha hne => ?_, fun v hv => ?_, fun t ht => ?_, ?_⟩
      · rw [attach_other hat a hne (hsc ▸ Nat.ne_of_lt ha)]; exact e1.node a ha
      · rw [attach_vcell hat]; exact e1.vcell v hv
      · rw [attach_tcell hat]; exact e1.tcell t ht
      · rw [attach_kind hat, e1.node c hc]
    exact f12.trans (ih (Nat.lt_of_lt_of_le hc f12.mono.nN))

theorem ext_of_frame {b h h' : H} {c : Nat} (e : Ext b h) (f : LoopFrame c h h') (hc : b.nN ≤ c) : Ext b h' :=
  ⟨e.1.trans f.mono,
    fun a ha => by rw [f.node a (Nat.lt_of_lt_of_le ha e.mono.nN) (Nat.ne_of_lt (Nat.lt_of_lt_of_le ha hc)), e.node a ha],
    fun a ha => by rw [f.vcell a (Nat.lt_of_lt_of_le ha e.mono.nV), e.vcell a ha],
    fun a ha => by rw [f.tcell a (Nat.lt_of_lt_of_le ha e.mono.nT), e.tcell a ha]⟩

/-- `exportLoop_ok` read against the store `b` the export started from: `curr` is as in `b`, the
    intermediate stores extend `b`. -/
theorem exportLoop_step {b : H} {fuel : Nat} {h h' : H} {self curr child r : Nat} (e : Ext b h) (hcur : curr < b.nN)
    (hch : curr ≠ self → b.nN ≤ child) (he : exportLoop (fuel + 1) h self curr child = (h', .ok r)) :
    ∃ h1 par h2 h3, cloneF 1 h curr false true = (h1, .ok par) ∧
      (if curr ≠ self then attach h1 par child else (h1, none)) = (h2, none) ∧
      cloneLoop (fun h p => cloneF 1 h p true true) h2 par
        (if (b.node curr).kind = .sec then (b.node curr).props else []) = (h3, none) ∧
      Ext b h2 ∧ Mono h1 h2 ∧ LoopFrame par h2 h3 ∧ Ext b h3 ∧
      match parentOf b curr with
      | none => h' = h3 ∧ r = par
      | some q => exportLoop fuel h3 self q par = (h', .ok r) := by
  obtain ⟨h1, par, h2, h3, hcl, hr2, hr3, hrest⟩ := exportLoop_ok he
  have ok := cloneF_spec hcl
  have hparb : b.nN ≤ par := ok.c_eq ▸ e.mono.nN
  have e1 : Ext b h1 := e.trans ok.ext
  have s2 : Ext b h2 ∧ Mono h1 h2 := by
    split at hr2
    · rename_i hne
      exact ⟨ext_attach e1 hr2 hparb (hch hne), attach_mono hr2⟩
    · rw [← (Prod.mk.inj hr2).1]; exact ⟨e1, Mono.refl _⟩
  rw [s2.1.2.1 curr hcur] at hr3
  have f3 := (cloneLoop_loop _ hr3).frame (cloneF_recOk 1 true) (Nat.lt_of_lt_of_le (ok.c_eq ▸ ok.lt) s2.2.1)
  have e3 : Ext b h3 := ext_of_frame s2.1 f3 hparb
  have hpo : parentOf h3 curr = parentOf b curr := by simp only [parentOf, e3.node curr hcur]
  rw [hpo] at hrest
  exact ⟨h1, par, h2, h3, hcl, hr2, hr3, s2.1, s2.2, f3, e3, hrest⟩

end Clone
