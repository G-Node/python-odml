/-
The recursion budget (`fuel`) of the compound operations of `Model/HeapExt.lean`: more budget never
changes an answer that is not `.fuel` (no hypothesis); on a well-formed heap unmerge / clean answer
within `3 * size + 2`, merge within `2 * size + 2` when destination and source are not one below
the other, and the link setter within a budget computed from these.
-/
import OdmlModel.Proofs.HeapExt

namespace Heap

/-! ## More budget does not change an answer -/

/-- `r'` is `r` unless `r` ran out of budget: the order for which every operation is monotone in
    its budget and every way of putting operations together monotone in the operations. -/
def FuelLe {β : Type} (r r' : β × XOut) : Prop := r.2 ≠ .fuel → r' = r

theorem FuelLe.refl {β : Type} (r : β × XOut) : FuelLe r r := fun _ => rfl

theorem FuelLe.ite {β : Type} {c : Prop} [Decidable c] {a a' b b' : β × XOut} (ha : FuelLe a a')
    (hb : FuelLe b b') : FuelLe (if c then a else b) (if c then a' else b') := by
  split
  · exact ha
  · exact hb

theorem andThen_le {α β : Type} {a a' : α × XOut} {k k' : α → β × XOut} {g : α → β}
    (ha : FuelLe a a') (hk : ∀ s, FuelLe (k s) (k' s)) : FuelLe (andThen a k g) (andThen a' k' g) := by
  obtain ⟨s, o⟩ := a
  cases o
  · intro h; rw [ha nofun]; exact hk s h
  case fuel => intro h; exact absurd rfl h
  all_goals intro _; rw [ha nofun]; rfl

theorem exists_succ_of_succ_le {f f' : Nat} (h : f + 1 ≤ f') : ∃ n, f' = n + 1 ∧ f ≤ n := by
  cases f' with
  | zero => exact absurd h (Nat.not_succ_le_zero f)
  | succ n => exact ⟨n, rfl, Nat.le_of_succ_le_succ h⟩

theorem kidsLoop_le {rec rec' : X → Nat → X × Nat × XOut}
    (hr : ∀ t k, (rec t k).2.2 ≠ .fuel → rec' t k = rec t k) (c : Nat) :
    ∀ (ks : List Nat) (s : X), FuelLe (kidsLoop rec c ks s) (kidsLoop rec' c ks s) := by
  intro ks
  induction ks with
  | nil => intro s; exact FuelLe.refl _
  | cons k ks ih =>
    intro s
    rw [kidsLoop_cons, kidsLoop_cons]
    by_cases hf : (rec s k).2.2 = .fuel
    · intro h; exact absurd (by rw [hf]; rfl) h
    · rw [hr s k hf]
      exact andThen_le (FuelLe.refl _) (fun s1 => andThen_le (FuelLe.refl _) ih)

theorem cloneAux_le (O : Oracle) : ∀ (f f' : Nat), f ≤ f' → ∀ (s : X) (x : Nat) (ch kid : Bool),
    (cloneAux O f s x ch kid).2.2 ≠ .fuel → cloneAux O f' s x ch kid = cloneAux O f s x ch kid := by
  intro f
  induction f with
  | zero => intro f' _ s x ch kid h; exact absurd rfl h
  | succ f ih =>
    intro f' hle s x ch kid h
    obtain ⟨f', rfl, hff⟩ := exists_succ_of_succ_le hle
    have hk := kidsLoop_le (fun t k => ih f' hff t k true kid) s.h.size
    rw [cloneAux_succ] at h ⊢
    rw [cloneAux_succ]
    suffices FuelLe (cloneBody O f s x ch kid) (cloneBody O f' s x ch kid) by rw [this h]
    unfold cloneBody
    split
    · exact FuelLe.refl _
    · refine andThen_le ?_ (fun s2 => andThen_le (FuelLe.refl _) (fun s3 => ?_))
      · unfold kidsIf
        split
        · exact hk _ _
        · exact FuelLe.refl _
      · split
        · exact hk _ _
        · exact FuelLe.refl _

theorem checkAll_mono {rec rec' : Nat → Option Bool} (hr : ∀ o, rec o ≠ none → rec' o = rec o) :
    ∀ (l : List Nat), checkAll rec l ≠ none → checkAll rec' l = checkAll rec l := by
  intro l
  induction l with
  | nil => intro _; rfl
  | cons o os ih =>
    intro h
    rcases hro : rec o with _ | b
    · simp [checkAll, hro] at h
    · have e' : rec' o = some b := by rw [hr o (by rw [hro]; simp), hro]
      cases b with
      | true => simp only [checkAll, hro, e'] at h ⊢; exact ih h
      | false => simp only [checkAll, hro, e']

/-- The two loop bodies of `merge_check`. -/
def mcSec (O : Oracle) (f : Nat) (s : X) (dest : Nat) : Nat → Option Bool := fun obj =>
  match containsS O s dest obj with
  | some mine => mergeCheck O f s mine obj
  | none => some true

def mcProp (O : Oracle) (s : X) (dest : Nat) : Nat → Option Bool := fun obj =>
  match containsP s dest obj with
  | some mine => some (O.propOk (s.orig mine) (s.orig obj))
  | none => some true

theorem mergeCheck_succ (O : Oracle) (f : Nat) (s : X) (dest src : Nat) :
    mergeCheck O (f + 1) s dest src =
      if !O.secOk (s.orig dest) (s.orig src) then some false
      else match checkAll (mcSec O f s dest) (s.h.node src).secs with
        | some true => checkAll (mcProp O s dest) (s.h.node src).props
        | r => r := by
  rw [mergeCheck.eq_2]; rfl

/-- The loop body of `_merge_name_check`. -/
def ncSec (O : Oracle) (f : Nat) (s : X) (dest : Nat) : Nat → Option Bool := fun obj =>
  match containsS O s dest obj with
  | some mine => nameCheck O f s mine obj
  | none => some (!nameIn s.h (s.h.node dest).secs (s.h.node obj).name)

theorem nameCheck_succ (O : Oracle) (f : Nat) (s : X) (dest src : Nat) :
    nameCheck O (f + 1) s dest src = checkAll (ncSec O f s dest) (s.h.node src).secs := rfl

theorem mergeCheck_le (O : Oracle) : ∀ (f f' : Nat), f ≤ f' → ∀ (s : X) (dest src : Nat),
    mergeCheck O f s dest src ≠ none → mergeCheck O f' s dest src = mergeCheck O f s dest src := by
  intro f
  induction f with
  | zero => intro f' _ s dest src h; exact absurd rfl h
  | succ f ih =>
    intro f' hle s dest src h
    obtain ⟨f', rfl, hff⟩ := exists_succ_of_succ_le hle
    rw [mergeCheck_succ] at h ⊢
    rw [mergeCheck_succ]
    split
    · rfl
    · rename_i hs
      simp only [hs] at h
      have hr : ∀ obj, mcSec O f s dest obj ≠ none → mcSec O f' s dest obj = mcSec O f s dest obj := by
        intro obj hh
        unfold mcSec at hh ⊢
        split
        · rename_i mine hc; rw [hc] at hh; exact ih f' hff s mine obj hh
        · rfl
      rw [checkAll_mono hr _ (fun e => by rw [e] at h; exact h rfl)]

theorem nameCheck_le (O : Oracle) : ∀ (f f' : Nat), f ≤ f' → ∀ (s : X) (dest src : Nat),
    nameCheck O f s dest src ≠ none → nameCheck O f' s dest src = nameCheck O f s dest src := by
  intro f
  induction f with
  | zero => intro f' _ s dest src h; exact absurd rfl h
  | succ f ih =>
    intro f' hle s dest src h
    obtain ⟨f', rfl, hff⟩ := exists_succ_of_succ_le hle
    rw [nameCheck_succ] at h ⊢
    rw [nameCheck_succ]
    refine checkAll_mono (fun obj hh => ?_) _ h
    unfold ncSec at hh ⊢
    split
    · rename_i mine hc; rw [hc] at hh; exact ih f' hff s mine obj hh
    · rfl

theorem liveLoop_le {σ : Type} (lst : σ → List Nat) {body body' : σ → Nat → σ × XOut}
    (hb : ∀ t o, FuelLe (body t o) (body' t o)) : ∀ (f f' : Nat), f ≤ f' → ∀ (i : Nat) (t : σ),
    FuelLe (liveLoop lst body f i t) (liveLoop lst body' f' i t) := by
  intro f
  induction f with
  | zero => intro f' _ i t h; exact absurd rfl h
  | succ f ih =>
    intro f' hle i t
    obtain ⟨f', rfl, hff⟩ := exists_succ_of_succ_le hle
    rw [liveLoop_succ, liveLoop_succ]
    split
    · exact FuelLe.refl _
    · exact andThen_le (hb t _) (ih f' hff _)

theorem cloneAppend_le (O : Oracle) {f f' : Nat} (hle : f ≤ f') (t : X) (dest obj : Nat)
    (mark : Option Bool) :
    FuelLe (cloneAppend O f t dest obj mark) (cloneAppend O f' t dest obj mark) := by
  intro h
  have e := cloneAux_le O f f' hle t obj true false
  unfold cloneAppend at h ⊢
  rw [e]
  intro hf
  apply h
  split
  · rename_i heq; rw [heq] at hf; exact absurd hf nofun
  · rename_i heq; rw [heq] at hf; exact hf

theorem mergeAux_le (O : Oracle) : ∀ (f f' : Nat), f ≤ f' → ∀ (s : X) (record : Bool) (dest src : Nat),
    FuelLe (mergeAux O f s record dest src) (mergeAux O f' s record dest src) := by
  intro f
  induction f with
  | zero => intro f' _ s record dest src h; exact absurd rfl h
  | succ f ih =>
    intro f' hle s record dest src
    obtain ⟨f', rfl, hff⟩ := exists_succ_of_succ_le hle
    rw [mergeAux_succ, mergeAux_succ]
    cases h1 : mergeCheck O f s dest src with
    | none => intro h; exact absurd rfl h
    | some b1 =>
      rw [mergeCheck_le O f f' hff s dest src (by rw [h1]; nofun), h1]
      cases b1 with
      | false => exact FuelLe.refl _
      | true =>
        cases h2 : nameCheck O f s dest src with
        | none => intro h; exact absurd rfl h
        | some b2 =>
          rw [nameCheck_le O f f' hff s dest src (by rw [h2]; nofun), h2]
          cases b2 with
          | false => exact FuelLe.refl _
          | true =>
            refine andThen_le (liveLoop_le _ (fun t o => ?_) f f' hff 0 s)
              (fun s1 => andThen_le (liveLoop_le _ (fun t o => ?_) f f' hff 0 s1) (fun _ => FuelLe.refl _))
            · unfold mergeSecBody
              split
              · exact ih f' hff _ _ _ _
              · exact cloneAppend_le O hff _ _ _ _
            · unfold mergePropBody
              split
              · exact FuelLe.refl _
              · exact cloneAppend_le O hff _ _ _ _

theorem unmergeAux_le (O : Oracle) : ∀ (f f' : Nat), f ≤ f' → ∀ (s : X) (self target : Nat),
    FuelLe (unmergeAux O f s self target) (unmergeAux O f' s self target) := by
  intro f
  induction f with
  | zero => intro f' _ s self target h; exact absurd rfl h
  | succ f ih =>
    intro f' hle s self target
    obtain ⟨f', rfl, hff⟩ := exists_succ_of_succ_le hle
    rw [unmergeAux_succ, unmergeAux_succ]
    refine FuelLe.ite (FuelLe.refl _) ?_
    · refine andThen_le (liveLoop_le _ (fun t o => ?_) f f' hff 0 _)
        (fun t1 => andThen_le (liveLoop_le _ (fun _ _ => FuelLe.refl _) f f' hff 0 t1)
          (fun _ => FuelLe.refl _))
      unfold unmergeSecBody
      split
      · exact FuelLe.refl _
      · split
        · exact FuelLe.refl _
        · intro h; rw [ih f' hff _ _ _ h]

theorem cleanAux_le (O : Oracle) : ∀ (f f' : Nat), f ≤ f' → ∀ (s : X) (x : Nat),
    FuelLe (cleanAux O f s x) (cleanAux O f' s x) := by
  intro f
  induction f with
  | zero => intro f' _ s x h; exact absurd rfl h
  | succ f ih =>
    intro f' hle s x
    obtain ⟨f', rfl, hff⟩ := exists_succ_of_succ_le hle
    rw [cleanAux_succ, cleanAux_succ]
    refine andThen_le ?_ (liveLoop_le _ (fun t o => ih f' hff t o) f f' hff 0)
    unfold unmergeIfMerged
    split
    · exact unmergeAux_le O f f' hff _ _ _
    · exact FuelLe.refl _

theorem cleanIfLinked_le (O : Oracle) {f f' : Nat} (hle : f ≤ f') (s : X) (x : Nat) :
    FuelLe (cleanIfLinked O f s x) (cleanIfLinked O f' s x) := by
  unfold cleanIfLinked
  exact FuelLe.ite (cleanAux_le O f f' hle s x) (FuelLe.refl _)

theorem tryLink_le (O : Oracle) {f f' : Nat} (hle : f ≤ f') {again again' : X → X × XOut}
    (ha : ∀ t, FuelLe (again t) (again' t)) (done : X → X) (s : X) (x t : Nat) :
    FuelLe (tryLink O f again done s x t) (tryLink O f' again' done s x t) := by
  unfold tryLink
  refine andThen_le (cleanIfLinked_le O hle s x) (fun s1 => ?_)
  have hm := mergeAux_le O f f' hle s1 true x t
  rcases hm2 : mergeAux O f s1 true x t with ⟨s2, o2⟩
  rw [hm2] at hm
  cases o2
  case fuel => intro h; exact absurd rfl h
  case ok => rw [hm nofun]; exact FuelLe.refl _
  all_goals
    rw [hm nofun]
    simp only
    split
    · exact andThen_le (ha s2) (fun _ => FuelLe.refl _)
    · exact FuelLe.refl _

theorem relinkAux_le (O : Oracle) : ∀ (f f' : Nat), f ≤ f' → ∀ (s : X) (x : Nat),
    FuelLe (relinkAux O f s x) (relinkAux O f' s x) := by
  intro f
  induction f with
  | zero => intro f' _ s x h; exact absurd rfl h
  | succ f ih =>
    intro f' hle s x
    obtain ⟨f', rfl, hff⟩ := exists_succ_of_succ_le hle
    rw [relinkAux_succ, relinkAux_succ]
    split
    · exact FuelLe.refl _
    · exact tryLink_le O hff (fun t => ih f' hff t x) _ s x _

theorem setLinkAux_le (O : Oracle) {f f' : Nat} (hle : f ≤ f') (s : X) (x : Nat) (v : LinkVal) :
    FuelLe (setLinkAux O f s x v) (setLinkAux O f' s x v) := by
  rcases v with _ | _ | _ | t
  · unfold setLinkAux; split
    · exact FuelLe.refl _
    · exact cleanAux_le O f f' hle _ x
  · unfold setLinkAux; split
    · exact FuelLe.refl _
    · exact cleanAux_le O f f' hle _ x
  · unfold setLinkAux; split <;> exact FuelLe.refl _
  · rw [setLinkAux_path, setLinkAux_path]
    split
    · exact FuelLe.refl _
    · exact tryLink_le O hle (fun t => relinkAux_le O f f' hle t x) _ s x t

theorem stepX_le {f f' : Nat} (hle : f ≤ f') (s : X) (O : Oracle) (op : XOp) :
    FuelLe (stepX f s O op) (stepX f' s O op) := by
  cases op with
  | prim p => rw [stepX_prim, stepX_prim]; exact FuelLe.refl _
  | clone x ch kid =>
    rw [stepX_clone, stepX_clone]
    refine FuelLe.ite (FuelLe.refl _) (fun h => ?_)
    rw [cloneAux_le O f f' hle _ x ch kid h]
  | merge dest src =>
    rw [stepX_merge, stepX_merge]
    exact FuelLe.ite (FuelLe.refl _) (FuelLe.ite (FuelLe.refl _) (mergeAux_le O f f' hle _ _ dest src))
  | setLink x v =>
    rw [stepX_setLink, stepX_setLink]
    exact FuelLe.ite (FuelLe.refl _) (FuelLe.ite (FuelLe.refl _) (setLinkAux_le O hle _ x v))
  | clean x =>
    rw [stepX_clean, stepX_clean]
    exact FuelLe.ite (FuelLe.refl _) (FuelLe.ite (FuelLe.refl _) (cleanAux_le O f f' hle _ x))

/-! ## Budgets that suffice

One counter pays for the recursion depth (a path of distinct ancestors, at most `size`:
`Below.length`) and for the rounds of a live loop (at most `size + 1`: `liveLoop_no_fuel`), and a
procedure called inside another adds its own need: clone `size`; unmerge `2 * size + 1`; clean =
unmerge + its own descent, `3 * size + 2`; merge = checks and clones below a loop, `2 * size + 2`;
the `except` branch of the setter = clean and merge in a heap of `N` objects, `3 * N + 3`. -/

theorem newIdUnless_no_fuel (kid : Bool) (O : Oracle) (s : X) (c : Nat) :
    (newIdUnless kid O s c).2 ≠ .fuel := by
  unfold newIdUnless
  split
  · exact nofun
  · exact prim_no_fuel _ _

/-- A set of objects of `h0` that is closed under children (a subtree, or all of `h0`). -/
structure Prot (h0 : H) (P : Nat → Prop) : Prop where
  lt : ∀ x, P x → x < h0.size
  secs : ∀ x, P x → ∀ c ∈ (h0.node x).secs, P c
  props : ∀ x, P x → ∀ c ∈ (h0.node x).props, P c

/-- The protected part `P` of `h0` is in `h` as it is in `h0`; the rest of `h` may have grown. -/
structure Kept (h0 : H) (P : Nat → Prop) (h : H) : Prop where
  wf : WF h
  size : h0.size ≤ h.size
  node : ∀ y, P y → h.node y = h0.node y

theorem Kept.refl {h : H} (w : WF h) (P : Nat → Prop) : Kept h P h :=
  ⟨w, Nat.le_refl _, fun _ _ => rfl⟩

theorem Kept.same {h0 h h' : H} {P : Nat → Prop} (hP : Prot h0 P) (k : Kept h0 P h) (w' : WF h')
    (hs : Same h.size h h') : Kept h0 P h' :=
  ⟨w', Nat.le_trans k.size hs.1, fun y py => by
    rw [hs.2 y (Nat.lt_of_lt_of_le (hP.lt y py) k.size)]; exact k.node y py⟩

theorem kidsLoop_no_fuel {rec : X → Nat → X × Nat × XOut}
    (hrec : ∀ t k, WF t.h → CloneRes t (rec t k)) {n c : Nat} {h0 : H} (hcn : n ≤ c) :
    ∀ (ks : List Nat) (s : X), CloneInv n c h0 s.h →
      (∀ k ∈ ks, ∀ t, CloneInv n c h0 t.h → (rec t k).2.2 ≠ .fuel) →
      (kidsLoop rec c ks s).2 ≠ .fuel := by
  intro ks
  induction ks with
  | nil => intro s _ _; simp [kidsLoop]
  | cons k ks ih =>
    intro s h hk
    obtain ⟨_, inv2⟩ := kids_step_inv hrec hcn s k h
    rw [kidsLoop_cons]
    exact andThen_no_fuel (hk k List.mem_cons_self s h) (fun hok =>
      andThen_no_fuel (prim_no_fuel _ _) (fun _ =>
        ih _ (inv2 hok) (fun k' hk' => hk k' (List.mem_cons_of_mem _ hk'))))

theorem cloneAux_no_fuel (O : Oracle) {h0 : H} (w0 : WF h0) {P : Nat → Prop} (hP : Prot h0 P) :
    ∀ (fuel : Nat) (s : X) (x : Nat) (ch kid : Bool) (path : List Nat),
      Kept h0 P s.h → P x → Below h0 x path → h0.size ≤ fuel + path.length →
      (cloneAux O fuel s x ch kid).2.2 ≠ .fuel := by
  intro fuel
  induction fuel with
  | zero =>
    intro s x ch kid path _ px b hf
    have := b.length w0; omega
  | succ fuel ih =>
    intro s x ch kid path kp px b hf
    have hrec := cloneAux_spec_rec O fuel kid
    -- the children of x are those it has in h0, and the budget suffices for each of them
    have hkids : ∀ k, P k → (h0.node k).parent = some x → ∀ t,
        CloneInv s.h.size s.h.size s.h t.h → (cloneAux O fuel t k true kid).2.2 ≠ .fuel := by
      intro k pk hk t inv
      refine ih t k true kid (x :: path) (kp.same hP inv.wf inv.same) pk (b.child w0 hk) ?_
      simp only [List.length_cons]; omega
    have hS := fun t inv => kidsLoop_no_fuel hrec (Nat.le_refl _) (s.h.node x).secs t inv
      (fun k hk => by
        rw [kp.node x px] at hk
        exact hkids k (hP.secs x px k hk) ((w0.memS x k).mp hk).1)
    have hPr := fun t inv => kidsLoop_no_fuel hrec (Nat.le_refl _) (s.h.node x).props t inv
      (fun k hk => by
        rw [kp.node x px] at hk
        exact hkids k (hP.props x px k hk) ((w0.memP x k).mp hk).1)
    have i1 := copyObj_cloneInv kp.wf x
    have i2 := kidsIf_spec hrec (Nat.le_refl _) ch (s.h.node x).secs _ i1
    rw [cloneAux_succ]
    show (cloneBody O fuel s x ch kid).2 ≠ .fuel
    unfold cloneBody
    split
    · exact newIdUnless_no_fuel _ _ _ _
    · refine andThen_no_fuel ?_ (fun _ => andThen_no_fuel (newIdUnless_no_fuel _ _ _ _) (fun _ => ?_))
      · unfold kidsIf
        split
        · exact hS _ i1
        · exact nofun
      · split
        · exact hPr _ (newIdUnless_spec (Nat.le_refl _) kid O _ i2)
        · exact nofun

/-- A live loop over a list that never gets longer than `N`, whose rounds keep an invariant and do
    not run out of budget, does not run out of budget when it has `N + 1` rounds. -/
theorem liveLoop_no_fuel {σ : Type} (lst : σ → List Nat) (body : σ → Nat → σ × XOut)
    (Inv : σ → Prop) (N : Nat) (hl : ∀ t, Inv t → (lst t).length ≤ N)
    (hb : ∀ t o, Inv t → o ∈ lst t → (body t o).2 ≠ .fuel ∧ Inv (body t o).1) :
    ∀ (fuel i : Nat) (t : σ), Inv t → i ≤ N → N + 1 ≤ fuel + i →
      (liveLoop lst body fuel i t).2 ≠ .fuel ∧ Inv (liveLoop lst body fuel i t).1 := by
  intro fuel
  induction fuel with
  | zero => intro i t _ h1 h2; omega
  | succ f ih =>
    intro i t hi h1 h2
    rw [liveLoop_succ]
    cases hg : (lst t)[i]? with
    | none => exact ⟨nofun, hi⟩
    | some obj =>
      have hlt := (List.getElem?_eq_some_iff.mp hg).1
      have hN := hl t hi
      obtain ⟨hnf, hinv⟩ := hb t obj hi (List.mem_of_getElem? hg)
      have r := ih (i + 1) _ hinv (by omega) (by omega)
      exact ⟨andThen_no_fuel hnf (fun _ => r.1), andThen_keep (fun _ => r.2) hinv⟩

theorem removeAll_no_fuel (self : Nat) : ∀ (l : List Nat) (s : X), (removeAll self l s).2 ≠ .fuel := by
  intro l
  induction l with
  | nil => intro s; simp [removeAll]
  | cons o os ih =>
    intro s
    rw [removeAll_cons]
    exact andThen_no_fuel (prim_no_fuel _ _) (fun _ => ih _)

theorem secs_length_le {h : H} (w : WF h) (p : Nat) : (h.node p).secs.length ≤ h.size :=
  length_le_of_nodup_lt (w.nodupS p) (fun c hc => w.child_lt ((w.memS p c).mp hc).1)

theorem props_length_le {h : H} (w : WF h) (p : Nat) : (h.node p).props.length ≤ h.size :=
  length_le_of_nodup_lt (w.nodupP p) (fun c hc => w.child_lt ((w.memP p c).mp hc).1)

/-- A child Section in a heap that only lost entries relative to `h0` is one step further down
    in `h0`. -/
theorem below_child_detached {h0 h : H} (w0 : WF h0) (hd : Detaches h0 h) {x k : Nat}
    {path : List Nat} (hb : x < h0.size → Below h0 x path) (hk : k ∈ (h.node x).secs) :
    Below h0 k (x :: path) := by
  have hk0 : k ∈ (h0.node x).secs := (hd.2 x).2.2.2.1.subset hk
  have hp : (h0.node k).parent = some x := ((w0.memS x k).mp hk0).1
  exact (hb (w0.parent_lt hp)).child w0 hp

theorem cleanAux_cinv (h0 : H) (O : Oracle) (f : Nat) (t : X) (x : Nat) (ht : CInv h0 t.h) :
    CInv h0 (cleanAux O f t x).1.h :=
  cleanAux_inv (P := fun t => CInv h0 t.h) (cinv_remove h0) (fun _ _ h => h) O f t x ht

theorem unmergeAux_no_fuel (O : Oracle) {h0 : H} (w0 : WF h0) :
    ∀ (fuel : Nat) (s : X) (self target : Nat) (path : List Nat),
      CInv h0 s.h → (target < h0.size → Below h0 target path) → path.length + 1 ≤ h0.size →
      2 * h0.size + 1 ≤ fuel + path.length →
      (unmergeAux O fuel s self target).2 ≠ .fuel := by
  intro fuel
  induction fuel with
  | zero => intro s self target path _ _ h1 h2; omega
  | succ f ih =>
    intro s self target path hc hb hlen hf
    rw [unmergeAux_succ]
    refine ite_no_fuel (fun _ => nofun) (fun _ => ?_)
    · have hsec : ∀ (t : X × List Nat) (o : Nat), CInv h0 t.1.h →
          CInv h0 (unmergeSecBody O (unmergeAux O f) self t o).1.1.h := fun t o ht =>
        unmergeSecBody_inv (P := fun t => CInv h0 t.h) O
          (unmergeAux_inv (P := fun t => CInv h0 t.h) (cinv_remove h0) (fun _ _ h => h) O f) self t o ht
      -- the loop over the child Sections of the target
      obtain ⟨f1, i1⟩ := liveLoop_no_fuel (fun t : X × List Nat => (t.1.h.node target).secs)
        (unmergeSecBody O (unmergeAux O f) self) (fun t => CInv h0 t.1.h) h0.size
        (fun t ht => by have := secs_length_le ht.wf target; rw [ht.size_eq] at this; exact this)
        (by
          intro t obj ht hm
          refine ⟨?_, hsec t obj ht⟩
          unfold unmergeSecBody
          split
          · exact nofun
          · split
            · exact nofun
            · rename_i mine _ _
              have hb' := below_child_detached w0 ht.detaches hb hm
              exact ih t.1 mine obj (target :: path) ht (fun _ => hb') (hb'.length w0)
                (by simp only [List.length_cons]; omega))
        f 0 (s, []) hc (Nat.zero_le _) (by omega)
      have f2 := liveLoop_no_fuel (fun t : X × List Nat => (t.1.h.node target).props)
        (unmergePropBody O self) (fun t => CInv h0 t.1.h) h0.size
        (fun t ht => by have := props_length_le ht.wf target; rw [ht.size_eq] at this; exact this)
        (by
          intro t obj ht hm
          refine ⟨?_, unmergePropBody_inv (P := fun t => CInv h0 t.h) O self t obj ht⟩
          unfold unmergePropBody
          split
          · exact nofun
          · split <;> simp)
        f 0 _ i1 (Nat.zero_le _) (by omega)
      refine andThen_no_fuel f1 (fun _ => andThen_no_fuel f2.1 (fun _ =>
        andThen_no_fuel (removeAll_no_fuel self _ _) (fun _ => ?_)))
      split <;> exact nofun

theorem cleanAux_no_fuel (O : Oracle) {h0 : H} (w0 : WF h0) :
    ∀ (fuel : Nat) (s : X) (x : Nat) (path : List Nat),
      CInv h0 s.h → Below h0 x path → 3 * h0.size + 2 ≤ fuel + path.length →
      (cleanAux O fuel s x).2 ≠ .fuel := by
  intro fuel
  induction fuel with
  | zero => intro s x path _ hb hf; have := hb.length w0; omega
  | succ f ih =>
    intro s x path hc hb hf
    have hlen := hb.length w0
    rw [cleanAux_succ]
    have f1 : (unmergeIfMerged O f s x).2 ≠ .fuel := by
      unfold unmergeIfMerged
      split
      · rename_i t _ _
        exact unmergeAux_no_fuel O w0 f s x t [] hc (fun ht => Below.root ht)
          (by simp only [List.length_nil]; omega) (by simp only [List.length_nil]; omega)
      · exact nofun
    have i1 := unmergeIfMerged_inv (P := fun t => CInv h0 t.h) (cinv_remove h0) (fun _ _ h => h)
      O f s x hc
    refine andThen_no_fuel f1 (fun _ => ?_)
    refine (liveLoop_no_fuel (fun t : X => (t.h.node x).secs) (fun t i => cleanAux O f t i)
      (fun t => CInv h0 t.h) h0.size
      (fun t ht => by have := secs_length_le ht.wf x; rw [ht.size_eq] at this; exact this)
      (fun t i ht hm => ⟨ih t i (x :: path) ht (below_child_detached w0 ht.detaches (fun _ => hb) hm)
          (by simp only [List.length_cons]; omega), cleanAux_cinv h0 O f t i ht⟩)
      f 0 _ i1 (Nat.zero_le _) (by omega)).1

/-- Result of a merge into `dest` started in `h`: well-formed, only additions, and nothing that is
    not at or below `dest` has been touched. -/
def MFr (h : H) (dest : Nat) (h' : H) : Prop :=
  MInv h.size h h' ∧ ∀ i, i < h.size → ¬ Anc h dest i → h'.node i = h.node i

theorem MFr.wf {h h' : H} {dest : Nat} (a : MFr h dest h') : WF h' := a.1.1
theorem MFr.adds {h h' : H} {dest : Nat} (a : MFr h dest h') : Adds h.size h h' := a.1.2
theorem MFr.size_le {h h' : H} {dest : Nat} (a : MFr h dest h') : h.size ≤ h'.size := a.1.2.1
theorem MFr.frame {h h' : H} {dest : Nat} (a : MFr h dest h') :
    ∀ i, i < h.size → ¬ Anc h dest i → h'.node i = h.node i := a.2

theorem MFr.refl {h : H} (w : WF h) (dest : Nat) : MFr h dest h :=
  ⟨⟨w, Adds.refl _ _⟩, fun _ _ _ => rfl⟩

theorem MFr.child {h h1 h2 : H} (w : WF h) {dest mine : Nat} (a : MFr h dest h1)
    (hm : mine ∈ (h1.node dest).secs) (b : MFr h1 mine h2) : MFr h dest h2 := by
  have hsz : h.size ≤ h1.size := a.size_le
  refine ⟨⟨b.wf, a.adds.trans (b.adds.mono hsz)⟩, fun i hi hna => ?_⟩
  rw [b.frame i (by omega) ?_, a.frame i hi hna]
  intro hanc
  have hp : (h1.node mine).parent = some dest := ((a.wf.memS dest mine).mp hm).1
  exact hna (anc_adds_old w a.adds (hanc.above hp) hi)

theorem cloneAppend_frame (O : Oracle) (f : Nat) (t : X) (dest obj : Nat) (mark : Option Bool)
    (w : WF t.h) : ∀ i, i < t.h.size → i ≠ dest →
      (cloneAppend O f t dest obj mark).1.h.node i = t.h.node i := by
  intro i hi hne
  unfold cloneAppend
  have h1 := cloneAux_spec O f t obj true false w
  split
  · rename_i t1 c heq
    rw [heq] at h1
    have hroot : c = t.h.size := h1.root
    rw [prim_h, markCopy_h]
    rcases step_append_detached (p := dest) (x := c) h1.wf (h1.ok rfl).1 (h1.ok rfl).2
      with he | ⟨_, _, _, hoth, _, _⟩
    · rw [he]; exact h1.same.2 i hi
    · rw [hoth i hne (by omega)]; exact h1.same.2 i hi
  · rename_i t1 _ o _ heq
    rw [heq] at h1
    exact h1.same.2 i hi

theorem cloneAppend_mfr (O : Oracle) (f : Nat) {h : H} {dest : Nat} (t : X) (obj : Nat)
    (mark : Option Bool) (a : MFr h dest t.h) : MFr h dest (cloneAppend O f t dest obj mark).1.h := by
  refine ⟨cloneAppend_adds O f (Nat.le_refl _) t dest obj mark a.1, fun i hi hna => ?_⟩
  rw [cloneAppend_frame O f t dest obj mark a.wf i (Nat.lt_of_lt_of_le hi a.size_le)
    (fun e => hna (e ▸ Anc.refl _))]
  exact a.frame i hi hna

theorem mergeSecBody_mfr (O : Oracle) (f : Nat) {rec : X → Bool → Nat → Nat → X × XOut}
    (hrec : ∀ t b m o, WF t.h → MFr t.h m (rec t b m o).1.h) {h : H} (w : WF h) (record : Bool)
    (dest : Nat) (t : X) (obj : Nat) (a : MFr h dest t.h) :
    MFr h dest (mergeSecBody O f rec record dest t obj).1.h := by
  unfold mergeSecBody
  split
  · rename_i mine hc
    exact a.child w (containsS_mem hc).1 (hrec _ _ _ _ a.wf)
  · exact cloneAppend_mfr O f t obj _ a

theorem mergePropBody_mfr (O : Oracle) (f : Nat) {h : H} (dest : Nat) (t : X) (obj : Nat)
    (a : MFr h dest t.h) : MFr h dest (mergePropBody O f dest t obj).1.h := by
  unfold mergePropBody
  split
  · split <;> exact a
  · exact cloneAppend_mfr O f t obj _ a

theorem mergeAux_frame (O : Oracle) : ∀ (fuel : Nat) (t : X) (record : Bool) (dest src : Nat),
    WF t.h → MFr t.h dest (mergeAux O fuel t record dest src).1.h := by
  intro fuel
  induction fuel with
  | zero => intro t record dest src w; exact MFr.refl w dest
  | succ f ih =>
    intro t record dest src w
    exact mergeAux_keep_of_parts (Q := MFr t.h dest) O f t record dest src
      (fun t' r mine o hm a => a.child w hm (ih t' r mine o a.wf))
      (fun t' o mark a => cloneAppend_mfr O f t' o mark a) (MFr.refl w dest)

theorem Kept.mfr {h0 t t' : H} {P : Nat → Prop} {dest : Nat} (hP : Prot h0 P) (k : Kept h0 P t)
    (hna : ∀ y, P y → ¬ Anc t dest y) (a : MFr t dest t') : Kept h0 P t' :=
  ⟨a.wf, Nat.le_trans k.size a.size_le, fun y py => by
    rw [a.frame y (Nat.lt_of_lt_of_le (hP.lt y py) k.size) (hna y py)]; exact k.node y py⟩

theorem Kept.away {h0 t t' : H} {P : Nat → Prop} {dest mine : Nat} (hP : Prot h0 P) (k : Kept h0 P t)
    (hna : ∀ y, P y → ¬ Anc t dest y) (a : MFr t dest t')
    (hp : (t'.node mine).parent = some dest) : ∀ y, P y → ¬ Anc t' mine y :=
  fun y py hanc => hna y py
    (anc_adds_old k.wf a.adds (hanc.above hp) (Nat.lt_of_lt_of_le (hP.lt y py) k.size))

theorem checkAll_ne_none {rec : Nat → Option Bool} :
    ∀ (l : List Nat), (∀ o ∈ l, rec o ≠ none) → checkAll rec l ≠ none := by
  intro l
  induction l with
  | nil => intro _; simp [checkAll]
  | cons o os ih =>
    intro h
    have ho := h o List.mem_cons_self
    unfold checkAll
    rcases hro : rec o with _ | b
    · exact absurd hro ho
    · cases b with
      | true => simp only; exact ih (fun o' ho' => h o' (List.mem_cons_of_mem _ ho'))
      | false => exact nofun

theorem mergeCheck_no_fuel (O : Oracle) {h0 : H} (w0 : WF h0) {P : Nat → Prop} (hP : Prot h0 P) :
    ∀ (fuel : Nat) (s : X) (dest src : Nat) (path : List Nat),
      (∀ y, P y → s.h.node y = h0.node y) → P src → Below h0 src path →
      h0.size ≤ fuel + path.length → mergeCheck O fuel s dest src ≠ none := by
  intro fuel
  induction fuel with
  | zero => intro s dest src path hs ps b hf; have := b.length w0; omega
  | succ f ih =>
    intro s dest src path hs ps b hf
    rw [mergeCheck_succ]
    split
    · exact nofun
    · have h1 : checkAll (mcSec O f s dest) (s.h.node src).secs ≠ none := by
        apply checkAll_ne_none
        intro obj hobj
        rw [hs src ps] at hobj
        unfold mcSec
        split
        · rename_i mine _
          exact ih s mine obj (src :: path) hs (hP.secs src ps obj hobj)
            (b.child w0 ((w0.memS src obj).mp hobj).1) (by simp only [List.length_cons]; omega)
        · exact nofun
      have h2 : checkAll (mcProp O s dest) (s.h.node src).props ≠ none := by
        apply checkAll_ne_none
        intro obj _
        unfold mcProp
        split <;> exact nofun
      rcases hc : checkAll (mcSec O f s dest) (s.h.node src).secs with _ | bb
      · exact absurd hc h1
      · cases bb with
        | true => simp only; exact h2
        | false => exact nofun

theorem nameCheck_no_fuel (O : Oracle) {h0 : H} (w0 : WF h0) {P : Nat → Prop} (hP : Prot h0 P) :
    ∀ (fuel : Nat) (s : X) (dest src : Nat) (path : List Nat),
      (∀ y, P y → s.h.node y = h0.node y) → P src → Below h0 src path →
      h0.size ≤ fuel + path.length → nameCheck O fuel s dest src ≠ none := by
  intro fuel
  induction fuel with
  | zero => intro s dest src path hs ps b hf; have := b.length w0; omega
  | succ f ih =>
    intro s dest src path hs ps b hf
    rw [nameCheck_succ]
    apply checkAll_ne_none
    intro obj hobj
    rw [hs src ps] at hobj
    unfold ncSec
    split
    · rename_i mine _
      exact ih s mine obj (src :: path) hs (hP.secs src ps obj hobj)
        (b.child w0 ((w0.memS src obj).mp hobj).1) (by simp only [List.length_cons]; omega)
    · exact nofun

theorem cloneAppend_no_fuel (O : Oracle) (f : Nat) (t : X) (dest obj : Nat) (mark : Option Bool)
    (h : (cloneAux O f t obj true false).2.2 ≠ .fuel) : (cloneAppend O f t dest obj mark).2 ≠ .fuel := by
  unfold cloneAppend
  split
  · exact prim_no_fuel _ _
  · rename_i t1 c o _ heq
    rw [heq] at h; exact h

/-- The budget of `merge` suffices. `h0` is the heap in which the protected set `P` (the source
    and everything below it) was fixed; the current heap agrees with it on `P`, and nothing of `P`
    is at or below the destination. -/
theorem mergeAux_no_fuel (O : Oracle) {h0 : H} (w0 : WF h0) {P : Nat → Prop} (hP : Prot h0 P) :
    ∀ (fuel : Nat) (t : X) (record : Bool) (dest src : Nat) (path : List Nat),
      Kept h0 P t.h → (∀ y, P y → ¬ Anc t.h dest y) → P src → Below h0 src path →
      2 * h0.size + 2 ≤ fuel + path.length →
      (mergeAux O fuel t record dest src).2 ≠ .fuel := by
  intro fuel
  induction fuel with
  | zero => intro t record dest src path _ hna ps b hf; have := b.length w0; omega
  | succ f ih =>
    intro t record dest src path kp hna ps b hf
    have hlen := b.length w0
    have w := kp.wf
    -- every intermediate state of the two loops keeps the protected part
    have hs' : ∀ t' : X, MFr t.h dest t'.h → ∀ y, P y → t'.h.node y = h0.node y :=
      fun t' a => (kp.mfr hP hna a).node
    have hclone : ∀ (t' : X) (obj : Nat) (mark : Option Bool), MFr t.h dest t'.h → P obj →
        (h0.node obj).parent = some src → (cloneAppend O f t' dest obj mark).2 ≠ .fuel := by
      intro t' obj mark a pobj hpar
      exact cloneAppend_no_fuel O f t' dest obj mark
        (cloneAux_no_fuel O w0 hP f t' obj true false (src :: path) (kp.mfr hP hna a)
          pobj (b.child w0 hpar) (by simp only [List.length_cons]; omega))
    obtain ⟨f1, i1⟩ := liveLoop_no_fuel (fun t' : X => (t'.h.node src).secs)
      (mergeSecBody O f (mergeAux O f) record dest) (fun t' => MFr t.h dest t'.h) h0.size
      (fun t' a => by rw [hs' t' a src ps]; exact secs_length_le w0 src)
      (by
        intro t' obj a hm
        rw [hs' t' a src ps] at hm
        refine ⟨?_, mergeSecBody_mfr O f (mergeAux_frame O f) w record dest t' obj a⟩
        have hpar : (h0.node obj).parent = some src := ((w0.memS src obj).mp hm).1
        unfold mergeSecBody
        split
        · rename_i mine hc
          have hp : (t'.h.node mine).parent = some dest :=
            ((a.wf.memS dest mine).mp (containsS_mem hc).1).1
          exact ih t' _ mine obj (src :: path) (kp.mfr hP hna a) (kp.away hP hna a hp)
            (hP.secs src ps obj hm) (b.child w0 hpar) (by simp only [List.length_cons]; omega)
        · exact hclone t' obj _ a (hP.secs src ps obj hm) hpar)
      f 0 t (MFr.refl w dest) (Nat.zero_le _) (by omega)
    have f2 := liveLoop_no_fuel (fun t' : X => (t'.h.node src).props)
      (mergePropBody O f dest) (fun t' => MFr t.h dest t'.h) h0.size
      (fun t' a => by rw [hs' t' a src ps]; exact props_length_le w0 src)
      (by
        intro t' obj a hm
        rw [hs' t' a src ps] at hm
        refine ⟨?_, mergePropBody_mfr O f dest t' obj a⟩
        have hpar : (h0.node obj).parent = some src := ((w0.memP src obj).mp hm).1
        unfold mergePropBody
        split
        · split <;> exact nofun
        · exact hclone t' obj _ a (hP.props src ps obj hm) hpar)
      f 0 _ i1 (Nat.zero_le _) (by omega)
    rw [mergeAux_succ]
    split
    · rename_i hc
      exact absurd hc (mergeCheck_no_fuel O w0 hP f t dest src path kp.node ps b (by omega))
    · exact nofun
    · split
      · rename_i hc
        exact absurd hc (nameCheck_no_fuel O w0 hP f t dest src path kp.node ps b (by omega))
      · exact nofun
      · exact andThen_no_fuel f1 (fun _ => andThen_no_fuel f2.1 (fun _ => nofun))

/-! ## The link setter

After `clean()` the Section is not resolved (`_merged is None`), a refused merge does not change
that, and so the `except` branch (`relinkAux`) does not nest: one more `clean()` and one more merge. -/

theorem cleanAux_none (O : Oracle) (j : Nat) (fuel : Nat) (s : X) (x : Nat) (h : s.merged j = none) :
    (cleanAux O fuel s x).1.merged j = none :=
  cleanAux_inv (P := fun t => t.merged j = none) (fun _ _ _ h => h)
    (fun s i h => by unfold X.setMerged; simp only; split <;> first | rfl | exact h) O fuel s x h

theorem unmergeAux_ok_self (O : Oracle) (fuel : Nat) (s : X) (self target : Nat)
    (h : (unmergeAux O fuel s self target).2 = .ok) :
    (unmergeAux O fuel s self target).1.merged self = none := by
  cases fuel with
  | zero => cases h
  | succ f =>
    rw [unmergeAux_succ] at h ⊢
    split at h
    · cases h
    · rename_i he
      rw [if_neg he]
      have h1 := andThen_ok h
      rw [andThen_of_ok h1] at h ⊢
      have h2 := andThen_ok h
      rw [andThen_of_ok h2] at h ⊢
      have h3 := andThen_ok h
      rw [andThen_of_ok h3] at h ⊢
      split at h
      · cases h
      · rename_i hc
        rw [if_neg hc]
        simp [X.setMerged]

theorem cleanAux_ok_self (O : Oracle) (fuel : Nat) (s : X) (x : Nat) (hk : (s.h.node x).kind = .sec)
    (h : (cleanAux O fuel s x).2 = .ok) : (cleanAux O fuel s x).1.merged x = none := by
  cases fuel with
  | zero => cases h
  | succ f =>
    rw [cleanAux_succ] at h ⊢
    have h1 : (unmergeIfMerged O f s x).2 = .ok → (unmergeIfMerged O f s x).1.merged x = none := by
      unfold unmergeIfMerged
      cases hm : s.merged x with
      | none =>
        intro _
        split
        · rename_i t _ hh; cases hh
        · exact hm
      | some t =>
        simp only [hk]
        exact unmergeAux_ok_self O f s x t
    have hu := andThen_ok h
    rw [andThen_of_ok hu]
    exact liveLoop_keep (fun t : X => (t.h.node x).secs) (fun t i => cleanAux O f t i)
      (fun t => t.merged x = none) (fun t o ht _ => cleanAux_none O x f t o ht) f 0 _ (h1 hu)

/-- `clone` leaves an attribute of the objects that exist already alone, when the primitive
    operations do not touch it and `copy.copy` sets it for the copy only (`_merged`, `orig`). -/
theorem cloneAux_old {α : Type} (g : X → Nat → α) (hprim : ∀ s op, g (s.prim op).1 = g s)
    (hcopy : ∀ s x i, i ≠ s.h.size → g (copyObj s x).1 i = g s i) (O : Oracle) :
    ∀ (fuel : Nat) (s : X) (x : Nat) (ch kid : Bool),
      WF s.h → ∀ i, i < s.h.size → g (cloneAux O fuel s x ch kid).1 i = g s i := by
  intro fuel
  induction fuel with
  | zero => intro s x ch kid w i hi; rfl
  | succ fuel ih =>
    intro s x ch kid w i hi
    have hrec := cloneAux_spec_rec O fuel kid
    let I : X → Prop := fun t => CloneInv s.h.size s.h.size s.h t.h ∧ g t i = g s i
    have hk : ∀ (ks : List Nat) (t : X), I t →
        I (kidsLoop (fun t k => cloneAux O fuel t k true kid) s.h.size ks t).1 := by
      intro ks t ht
      refine kidsLoop_keep (I := I) _ ks t (fun k _ t ht => ?_) ht
      obtain ⟨a, b⟩ := kids_step_inv hrec (Nat.le_refl _) t k ht.1
      have e := (ih t k true kid ht.1.wf i (Nat.lt_of_lt_of_le hi ht.1.same.1)).trans ht.2
      exact ⟨⟨a, e⟩, fun hok => ⟨b hok, by rw [hprim]; exact e⟩⟩
    rw [cloneAux_succ]
    refine (cloneBody_keep (I := I) O fuel s x ch kid ⟨copyObj_cloneInv w x, hcopy s x i (Nat.ne_of_lt hi)⟩ (fun t ht => ?_)
      (hk _) (hk _)).2
    refine ⟨newIdUnless_spec (Nat.le_refl _) kid O t ht.1, ?_⟩
    unfold newIdUnless
    split
    · exact ht.2
    · rw [hprim]; exact ht.2

theorem copyObj_merged (s : X) (x i : Nat) (hi : i ≠ s.h.size) :
    (copyObj s x).1.merged i = s.merged i := by
  unfold copyObj
  simp only
  split
  · simp only [hi, if_false]
    rename_i s1 heq
    rw [← prim_merged s, heq]
  · rename_i s1 o hne heq
    rw [← prim_merged s, heq]

theorem cloneAppend_merged (O : Oracle) (f : Nat) (t : X) (dest obj : Nat) (mark : Option Bool)
    (w : WF t.h) (i : Nat) (hi : i < t.h.size) :
    (cloneAppend O f t dest obj mark).1.merged i = t.merged i := by
  unfold cloneAppend
  have h1 := cloneAux_spec O f t obj true false w
  have hm := cloneAux_old X.merged (fun _ _ => rfl) copyObj_merged O f t obj true false w i hi
  split
  · rename_i t1 c heq
    rw [heq] at h1 hm
    have hroot : c = t.h.size := h1.root
    rw [prim_merged]
    cases mark with
    | none => exact hm
    | some record =>
      unfold X.markCopy X.setMerged
      simp only
      rw [if_neg (by omega)]; exact hm
  · rename_i t1 _ o _ heq
    rw [heq] at hm; exact hm

/-- `_merged` of an object that is not strictly below the destination is not changed by a merge;
    that of the destination itself is not changed by a merge that does not succeed. -/
theorem mergeAux_keep (O : Oracle) : ∀ (fuel : Nat) (t : X) (record : Bool) (dest src i : Nat),
    WF t.h → i < t.h.size → (¬ Anc t.h dest i ∨ i = dest) →
    (i = dest → (mergeAux O fuel t record dest src).2 ≠ .ok) →
    (mergeAux O fuel t record dest src).1.merged i = t.merged i := by
  intro fuel
  induction fuel with
  | zero => intro t record dest src i w hi hd hne; rfl
  | succ f ih =>
    intro t record dest src i w hi hd hne
    -- the invariant of both loops
    have hcl : ∀ (t' : X) (obj : Nat) (mark : Option Bool),
        (MFr t.h dest t'.h ∧ t'.merged i = t.merged i) →
        (MFr t.h dest (cloneAppend O f t' dest obj mark).1.h ∧
          (cloneAppend O f t' dest obj mark).1.merged i = t.merged i) := by
      intro t' obj mark a
      refine ⟨cloneAppend_mfr O f t' obj mark a.1, ?_⟩
      rw [cloneAppend_merged O f t' dest obj mark a.1.wf i (Nat.lt_of_lt_of_le hi a.1.size_le)]
      exact a.2
    have i1 := liveLoop_keep (fun t' : X => (t'.h.node src).secs)
      (mergeSecBody O f (mergeAux O f) record dest)
      (fun t' => MFr t.h dest t'.h ∧ t'.merged i = t.merged i)
      (by
        intro t' obj a _
        refine ⟨mergeSecBody_mfr O f (mergeAux_frame O f) w record dest t' obj a.1, ?_⟩
        unfold mergeSecBody
        split
        · rename_i mine hc
          have hp : (t'.h.node mine).parent = some dest :=
            ((a.1.wf.memS dest mine).mp (containsS_mem hc).1).1
          have hna : ¬ Anc t'.h mine i := by
            rcases hd with hd | hd
            · exact fun hanc => hd (anc_adds_old w a.1.adds (hanc.above hp) hi)
            · rw [hd]; exact not_anc_parent a.1.wf hp
          rw [ih t' _ mine obj i a.1.wf (Nat.lt_of_lt_of_le hi a.1.size_le) (Or.inl hna)
            (fun e => absurd (e ▸ Anc.refl _) hna)]
          exact a.2
        · exact (hcl t' obj _ a).2) f 0 t ⟨MFr.refl w dest, rfl⟩
    have i2 := liveLoop_keep (fun t' : X => (t'.h.node src).props)
      (mergePropBody O f dest) (fun t' => MFr t.h dest t'.h ∧ t'.merged i = t.merged i)
      (by
        intro t' obj a _
        unfold mergePropBody
        split
        · split <;> exact a
        · exact hcl t' obj _ a) f 0 _ i1
    rw [mergeAux_succ] at hne ⊢
    split
    · rfl
    · rfl
    · rename_i hmc
      simp only [hmc] at hne
      split
      · rfl
      · rfl
      · rename_i hnc
        simp only [hnc] at hne
        refine andThen_keep (Q := fun r : X => r.merged i = t.merged i) (fun h1 => ?_) i1.2
        refine andThen_keep (Q := fun r : X => r.merged i = t.merged i) (fun h2 => ?_) i2.2
        split
        · have hid : i ≠ dest := fun e =>
            hne e (by rw [andThen_of_ok h1, andThen_of_ok h2])
          unfold X.setMerged
          simp only [hid, if_false]; exact i2.2
        · exact i2.2

/-- `a` and `b` are not one below the other (nor the same object): the library's own
    `_check_no_cycle` walk, from each of the two, does not meet the other. -/
def apart (h : H) (a b : Nat) : Bool := !cycleCheck h a b && !cycleCheck h b a

/-- What `apart h x t` says of an object `t`. -/
structure Apart (h : H) (x t : Nat) : Prop where
  lt : t < h.size
  not_above : ¬ Anc h t x
  not_below : ¬ Anc h x t

theorem apart_spec {h : H} (w : WF h) {a b : Nat} (hab : apart h a b = true) (hb : b < h.size) :
    Apart h a b := by
  unfold apart at hab
  simp only [Bool.and_eq_true, Bool.not_eq_true'] at hab
  exact ⟨hb, meetsUp_false w hab.1, meetsUp_false w hab.2⟩

theorem Apart.detaches {h0 h : H} {x t : Nat} (a : Apart h0 x t) (c : CInv h0 h) : Apart h x t :=
  ⟨c.size_eq ▸ a.lt, fun e => a.not_above (anc_detaches c.detaches e),
    fun e => a.not_below (anc_detaches c.detaches e)⟩

theorem Apart.adds {h h' : H} {x t : Nat} (a : Apart h x t) (w : WF h) (hx : x < h.size)
    (m : Adds h.size h h') : Apart h' x t :=
  ⟨Nat.lt_of_lt_of_le a.lt m.size_le, fun e => a.not_above (anc_adds_old w m e hx),
    fun e => a.not_below (anc_adds_old w m e a.lt)⟩

theorem prot_subtree {h : H} (w : WF h) {src : Nat} (hs : src < h.size) :
    Prot h (fun x => Anc h src x) := by
  refine ⟨fun x ha => w.desc_lt ha hs, ?_, ?_⟩
  · intro x ha c hc
    exact Anc.step ((w.memS x c).mp hc).1 ha
  · intro x ha c hc
    exact Anc.step ((w.memP x c).mp hc).1 ha

theorem mergeAux_no_fuel_apart (O : Oracle) (fuel : Nat) (t : X) (record : Bool) (dest src : Nat)
    (w : WF t.h) (a : Apart t.h dest src) (hf : 2 * t.h.size + 2 ≤ fuel) :
    (mergeAux O fuel t record dest src).2 ≠ .fuel :=
  mergeAux_no_fuel O w (prot_subtree w a.lt) fuel t record dest src [] (Kept.refl w _)
    (fun y hy hd => (anc_comparable hy hd).elim a.not_above a.not_below)
    (Anc.refl _) (Below.root a.lt) (by simpa using hf)

theorem cleanIfLinked_cinv (O : Oracle) (f : Nat) (s : X) (x : Nat) (w : WF s.h) :
    CInv s.h (cleanIfLinked O f s x).1.h :=
  cleanIfLinked_inv (P := fun t => CInv s.h t.h) (cinv_remove s.h) (fun _ _ h => h) O f s x
    ⟨w, Detaches.refl _⟩

theorem cleanIfLinked_no_fuel (O : Oracle) (fuel : Nat) (s : X) (x : Nat) (w : WF s.h)
    (hx : x < s.h.size) (hf : 3 * s.h.size + 2 ≤ fuel) : (cleanIfLinked O fuel s x).2 ≠ .fuel := by
  unfold cleanIfLinked
  exact ite_no_fuel (fun _ => cleanAux_no_fuel O w fuel s x [] ⟨w, Detaches.refl _⟩ (Below.root hx)
    (by simpa using hf)) (fun _ => nofun)

theorem clean_merge_no_fuel (O : Oracle) (f : Nat) (s : X) (x t : Nat) (w : WF s.h)
    (hx : x < s.h.size) (ht : Apart s.h x t) (hf : 3 * s.h.size + 2 ≤ f) :
    (cleanIfLinked O f s x).2 ≠ .fuel ∧
      (mergeAux O f (cleanIfLinked O f s x).1 true x t).2 ≠ .fuel := by
  have i0 := cleanIfLinked_cinv O f s x w
  exact ⟨cleanIfLinked_no_fuel O f s x w hx hf,
    mergeAux_no_fuel_apart O f _ true x t i0.wf (ht.detaches i0) (by rw [i0.size_eq]; omega)⟩

theorem tryLink_no_fuel (O : Oracle) (f : Nat) (again : X → X × XOut) (done : X → X) (s : X)
    (x t : Nat) (hc : (cleanIfLinked O f s x).2 ≠ .fuel)
    (hm : (mergeAux O f (cleanIfLinked O f s x).1 true x t).2 ≠ .fuel)
    (ha : (cleanIfLinked O f s x).2 = .ok → s.resolved x = true →
      (mergeAux O f (cleanIfLinked O f s x).1 true x t).2 ≠ .ok →
      (again (mergeAux O f (cleanIfLinked O f s x).1 true x t).1).2 ≠ .fuel) :
    (tryLink O f again done s x t).2 ≠ .fuel := by
  unfold tryLink
  refine andThen_no_fuel hc (fun hok => ?_)
  replace ha := ha hok
  revert hm ha
  rcases mergeAux O f (cleanIfLinked O f s x).1 true x t with ⟨s2, o2⟩
  intro hm ha
  cases o2
  case ok => exact nofun
  case fuel => exact absurd rfl hm
  all_goals
    simp only
    split
    · rename_i hres
      exact andThen_no_fuel (ha hres nofun) (fun _ => by simp)
    · exact nofun

/-- The `except` branch of the link setter, started from a Section that is not resolved: one
    `clean()` and one merge, no nesting. -/
theorem relinkAux_no_fuel_unresolved (O : Oracle) (fuel : Nat) (s : X) (x : Nat) (w : WF s.h)
    (hx : x < s.h.size) (hr : s.resolved x = false)
    (ho : ∀ t0, O.oldLink x = some t0 → Apart s.h x t0)
    (hf : 3 * s.h.size + 3 ≤ fuel) : (relinkAux O fuel s x).2 ≠ .fuel := by
  cases fuel with
  | zero => omega
  | succ f =>
    rw [relinkAux_succ]
    cases hol : O.oldLink x with
    | none => exact nofun
    | some t0 =>
      obtain ⟨c1, m1⟩ := clean_merge_no_fuel O f s x t0 w hx (ho t0 hol) (by omega)
      exact tryLink_no_fuel O f _ _ s x t0 c1 m1 (fun _ hres => by rw [hr] at hres; cases hres)

/-- The budget that suffices for `x.link = v`: for a path that designates a Section `t`, three times
    the number of objects after the merge of `t` (run with the budget of the plain case) plus 3;
    `3 * size + 2` otherwise. -/
def linkBudget (O : Oracle) (s : X) (x : Nat) : LinkVal → Nat
  | .path (some t) =>
    3 * (mergeAux O (3 * s.h.size + 2) (cleanIfLinked O (3 * s.h.size + 2) s x).1 true x t).1.h.size + 3
  | _ => 3 * s.h.size + 2

theorem setLinkAux_no_fuel_plain (O : Oracle) (fuel : Nat) (s : X) (x : Nat) (v : LinkVal)
    (w : WF s.h) (hx : x < s.h.size) (hv : ∀ t, v ≠ .path (some t))
    (hf : 3 * s.h.size + 2 ≤ fuel) : (setLinkAux O fuel s x v).2 ≠ .fuel := by
  have hclean : (cleanAux O fuel (s.setLink x false) x).2 ≠ .fuel :=
    cleanAux_no_fuel O w fuel (s.setLink x false) x [] ⟨w, Detaches.refl _⟩ (Below.root hx)
      (by simpa using hf)
  rcases v with _ | _ | _ | t
  · unfold setLinkAux; split
    · exact nofun
    · exact hclean
  · unfold setLinkAux; split
    · exact nofun
    · exact hclean
  · unfold setLinkAux; split <;> exact nofun
  · exact absurd rfl (hv t)

theorem setLinkAux_no_fuel (O : Oracle) (fuel : Nat) (s : X) (x : Nat) (v : LinkVal) (w : WF s.h)
    (hx : x < s.h.size) (hk : (s.h.node x).kind = .sec)
    (hv : ∀ t, v = .path (some t) → Apart s.h x t)
    (ho : s.resolved x = true →
      ∀ t0, O.oldLink x = some t0 → Apart s.h x t0)
    (hf : linkBudget O s x v ≤ fuel) : (setLinkAux O fuel s x v).2 ≠ .fuel := by
  by_cases hvt : ∃ t, v = .path (some t)
  · obtain ⟨t, rfl⟩ := hvt
    rw [setLinkAux_path]
    split
    · exact nofun
    -- the run with the base budget `B`
    have hf' : 3 * (mergeAux O (3 * s.h.size + 2)
        (cleanIfLinked O (3 * s.h.size + 2) s x).1 true x t).1.h.size + 3 ≤ fuel := hf
    generalize hB : 3 * s.h.size + 2 = B at hf'
    obtain ⟨c0, m0⟩ := clean_merge_no_fuel O B s x t w hx (hv t rfl) (by omega)
    have i0 := cleanIfLinked_cinv O B s x w
    have hsz1 : (cleanIfLinked O B s x).1.h.size = s.h.size := i0.size_eq
    have fr0 := mergeAux_frame O B (cleanIfLinked O B s x).1 true x t
      i0.wf
    have hfb : B ≤ fuel := by have := fr0.size_le; omega
    -- the same results with the actual budget
    have e1 : cleanIfLinked O fuel s x = cleanIfLinked O B s x :=
      cleanIfLinked_le O hfb s x c0
    have e2 : mergeAux O fuel (cleanIfLinked O B s x).1 true x t =
        mergeAux O B (cleanIfLinked O B s x).1 true x t :=
      mergeAux_le O _ _ hfb _ true x t m0
    refine tryLink_no_fuel O fuel _ _ s x t (by rw [e1]; exact c0) (by rw [e1, e2]; exact m0) ?_
    rw [e1, e2]
    intro hcok hres hne
    -- after a successful clean the Section is not resolved, and a refused merge leaves it so
    have hl : s.link x = true := by
      unfold X.resolved at hres
      simp only [Bool.and_eq_true] at hres
      exact hres.2
    have hc : cleanIfLinked O B s x = cleanAux O B s x := by
      unfold cleanIfLinked; simp only [hl, if_true]
    have hm2 : (mergeAux O B (cleanIfLinked O B s x).1 true x t).1.merged x
        = none := by
      rw [mergeAux_keep O _ _ true x t x i0.wf (by rw [hsz1]; exact hx) (Or.inr rfl) (fun _ => hne)]
      rw [hc] at hcok ⊢
      exact cleanAux_ok_self O _ s x hk hcok
    refine relinkAux_no_fuel_unresolved O fuel _ x fr0.wf (by have := fr0.size_le; omega) ?_ ?_ hf'
    · unfold X.resolved; rw [hm2]; rfl
    · exact fun t0 hol => ((ho hres t0 hol).detaches i0).adds i0.wf (by rw [hsz1]; exact hx) fr0.adds
  · refine setLinkAux_no_fuel_plain O fuel s x v w hx (fun t e => hvt ⟨t, e⟩) ?_
    rcases v with _ | _ | _ | t
    · exact hf
    · exact hf
    · exact hf
    · exact absurd ⟨t, rfl⟩ hvt

/-- The plain case of the link setter: the Section is not resolved when the assignment begins
    (it has no link, or one that is only stored). Budget `3 * size + 2`. -/
theorem setLinkAux_no_fuel_unresolved (O : Oracle) (fuel : Nat) (s : X) (x : Nat) (v : LinkVal)
    (w : WF s.h) (hx : x < s.h.size) (hr : s.resolved x = false)
    (hv : ∀ t, v = .path (some t) → Apart s.h x t)
    (hf : 3 * s.h.size + 2 ≤ fuel) : (setLinkAux O fuel s x v).2 ≠ .fuel := by
  by_cases hvt : ∃ t, v = .path (some t)
  · obtain ⟨t, rfl⟩ := hvt
    rw [setLinkAux_path]
    split
    · exact nofun
    · obtain ⟨c0, m0⟩ := clean_merge_no_fuel O fuel s x t w hx (hv t rfl) hf
      exact tryLink_no_fuel O fuel _ _ s x t c0 m0 (fun _ hres => by rw [hr] at hres; cases hres)
  · exact setLinkAux_no_fuel_plain O fuel s x v w hx (fun t e => hvt ⟨t, e⟩) hf

/-- The decidable form of the hypothesis of the link setter theorems: the Section designated by a
    path is apart from `x`, and - only needed when the link of `x` is resolved, so that a refused
    merge makes the setter resolve the previous link again - so is the Section the previous link
    designates. -/
def linkApart (O : Oracle) (s : X) (x : Nat) (v : LinkVal) : Bool :=
  (match v with
   | .path (some t) => apart s.h x t
   | _ => true) &&
  (!s.resolved x ||
   match O.oldLink x with
   | some t0 => decide (t0 < s.h.size) && apart s.h x t0
   | none => true)

theorem linkApart_spec {O : Oracle} {s : X} {x : Nat} {v : LinkVal} (w : WF s.h)
    (h : linkApart O s x v = true) :
    (∀ t, v = .path (some t) → t < s.h.size → Apart s.h x t) ∧
    (s.resolved x = true → ∀ t0, O.oldLink x = some t0 → Apart s.h x t0) := by
  unfold linkApart at h
  simp only [Bool.and_eq_true] at h
  obtain ⟨h1, h2⟩ := h
  refine ⟨?_, ?_⟩
  · intro t hv
    subst hv
    exact apart_spec w h1
  · intro hres t0 hol
    rw [hres, hol] at h2
    simp only [Bool.not_true, Bool.false_or, Bool.and_eq_true, decide_eq_true_eq] at h2
    exact apart_spec w h2.2 h2.1

end Heap
