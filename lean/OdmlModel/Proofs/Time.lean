/-
Lemmas about the `Py.Time` model: what `strptime` accepts is a valid value, and the three odML
formats read back what they print.
-/
import OdmlModel.Py.Time
import OdmlModel.Proofs.Str

namespace Py

theorem field12_le {lo hi : Nat} {s : List Char} {v : Nat} (h : field12 lo hi s = some v) :
    lo ≤ v ∧ v ≤ hi := by
  unfold field12 at h
  simp only at h
  repeat' split at h
  all_goals cases h
  all_goals simp_all

theorem mkDate_valid {y m d : Nat} {x : Date} (h : mkDate y m d = some x) : x.valid = true := by
  unfold mkDate at h
  simp only at h
  split at h <;> cases h
  assumption

theorem parseDate_valid {s : List Char} {x : Date} (h : parseDate s = some x) : x.valid = true := by
  unfold parseDate at h
  repeat' split at h
  · exact mkDate_valid h
  all_goals cases h

theorem parseTime_valid {s : List Char} {t : Time} (h : parseTime s = some t) :
    t.valid = true ∧ t.us = 0 := by
  unfold parseTime at h
  repeat' split at h
  all_goals cases h
  rename_i hh hm hs
  have := field12_le hh; have := field12_le hm; have := field12_le hs
  simp [Time.valid]; omega

theorem parseDateTime_us {s : List Char} {x : DateTime} (h : parseDateTime s = some x) :
    x.time.us = 0 := by
  unfold parseDateTime at h
  simp only at h
  repeat' split at h
  all_goals cases h
  exact (parseTime_valid ‹_›).2

theorem dc_facts (k : Nat) :
    (digitChar k).isDigit = true ∧ (digitChar k == '-') = false ∧ (digitChar k == ':') = false ∧
    dval (digitChar k) = k % 10 :=
  (by decide : ∀ j, j < 10 →
    (Char.ofNat (48 + j)).isDigit = true ∧ ((Char.ofNat (48 + j)) == '-') = false ∧
    ((Char.ofNat (48 + j)) == ':') = false ∧
    dval (Char.ofNat (48 + j)) = j) _ (Nat.mod_lt k (by omega))

theorem dc_isDigit (k : Nat) : (digitChar k).isDigit = true := (dc_facts k).1
theorem dc_ne_dash (k : Nat) : (digitChar k == '-') = false := (dc_facts k).2.1
theorem dc_ne_colon (k : Nat) : (digitChar k == ':') = false := (dc_facts k).2.2.1
theorem dc_dval (k : Nat) : dval (digitChar k) = k % 10 := (dc_facts k).2.2.2
theorem dc_not_space (k : Nat) : isSpace (digitChar k) = false := isDigit_not_space (dc_isDigit k)

theorem pad2_no_sep {sep : Char} (h : ∀ k, (digitChar k == sep) = false) (n : Nat) :
    ∀ x ∈ pad2 n, (x == sep) = false := by
  intro x hx
  simp only [pad2, List.mem_cons, List.not_mem_nil, or_false] at hx
  rcases hx with rfl | rfl <;> exact h _

theorem pad4_no_sep {sep : Char} (h : ∀ k, (digitChar k == sep) = false) (n : Nat) :
    ∀ x ∈ pad4 n, (x == sep) = false := by
  intro x hx
  simp only [pad4, List.mem_cons, List.not_mem_nil, or_false] at hx
  rcases hx with rfl | rfl | rfl | rfl <;> exact h _

theorem field12_pad2 {lo hi n : Nat} (h1 : lo ≤ n) (h2 : n ≤ hi) (h3 : n < 100) :
    field12 lo hi (pad2 n) = some n := by
  have e : 10 * (n / 10 % 10) + n % 10 = n := by omega
  simp [field12, pad2, dc_isDigit, dc_dval, e, h1, h2]

theorem fieldDay_pad2 {n : Nat} (h1 : 1 ≤ n) (h2 : n ≤ 31) : fieldDay (pad2 n) = some n := by
  unfold fieldDay pad2
  split
  · rename_i b heq
    simp only [List.cons.injEq, and_true] at heq
    have := dc_not_space (n / 10)
    simp [heq.1, isSpace] at this
  · exact field12_pad2 h1 h2 (by omega)

theorem fieldYear_pad4 {y : Nat} (h : y ≤ 9999) : fieldYear (pad4 y) = some y := by
  have e : 1000 * (y / 1000 % 10) + 100 * (y / 100 % 10) + 10 * (y / 10 % 10) + y % 10 = y := by omega
  simp only [fieldYear, pad4, dc_isDigit, dc_dval, Bool.and_self, ↓reduceIte, e]

theorem date_fields {d : Date} (h : d.valid = true) :
    fieldYear (pad4 d.y) = some d.y ∧ field12 1 12 (pad2 d.m) = some d.m ∧
      fieldDay (pad2 d.d) = some d.d ∧ mkDate d.y d.m d.d = some d := by
  have hm : mkDate d.y d.m d.d = some d := by simp [mkDate, h]
  simp only [Date.valid, Bool.and_eq_true, decide_eq_true_eq] at h
  obtain ⟨⟨⟨⟨⟨h1, h2⟩, h3⟩, h4⟩, h5⟩, h6⟩ := h
  have hdim : daysInMonth d.y d.m ≤ 31 := by unfold daysInMonth; split <;> (try split) <;> omega
  exact ⟨fieldYear_pad4 h2, field12_pad2 h3 h4 (by omega), fieldDay_pad2 h5 (by omega), hm⟩

theorem splitOn_three (sep : Char) (a b c : List Char) (ha : ∀ x ∈ a, (x == sep) = false)
    (hb : ∀ x ∈ b, (x == sep) = false) (hc : ∀ x ∈ c, (x == sep) = false) :
    splitOn sep (a ++ [sep] ++ b ++ [sep] ++ c) = [a, b, c] := by
  rw [show a ++ [sep] ++ b ++ [sep] ++ c = joinSep sep [a, b, c] by simp [joinSep]]
  refine splitOn_joinSep sep _ (by simp) fun x hx => ?_
  simp only [List.mem_cons, List.not_mem_nil, or_false] at hx
  rcases hx with rfl | rfl | rfl <;> assumption

theorem parseDate_iso {d : Date} (h : d.valid = true) : parseDate d.iso = some d := by
  obtain ⟨hy, hm, hd, hmk⟩ := date_fields h
  unfold parseDate Date.iso
  rw [splitOn_three _ _ _ _ (pad4_no_sep dc_ne_dash _) (pad2_no_sep dc_ne_dash _)
    (pad2_no_sep dc_ne_dash _)]
  simp only [hy, hm, hd, hmk]

theorem parseTime_hms {t : Time} (h : t.valid = true) : parseTime t.hms = some { t with us := 0 } := by
  simp only [Time.valid, Bool.and_eq_true, decide_eq_true_eq] at h
  obtain ⟨⟨⟨h1, h2⟩, h3⟩, h4⟩ := h
  unfold parseTime Time.hms
  rw [splitOn_three _ _ _ _ (pad2_no_sep dc_ne_colon _) (pad2_no_sep dc_ne_colon _)
    (pad2_no_sep dc_ne_colon _)]
  simp only [field12_pad2 (Nat.zero_le _) (show t.h ≤ 23 by omega) (by omega),
    field12_pad2 (Nat.zero_le _) (show t.mi ≤ 59 by omega) (by omega),
    field12_pad2 (Nat.zero_le _) (show t.s ≤ 59 by omega) (by omega)]

theorem hms_no_dash (t : Time) : ∀ x ∈ t.hms, (x == '-') = false := by
  intro x hx
  simp only [Time.hms, List.mem_append, List.mem_singleton] at hx
  rcases hx with (((hx | rfl) | hx) | rfl) | hx
  · exact pad2_no_sep dc_ne_dash _ x hx
  · decide
  · exact pad2_no_sep dc_ne_dash _ x hx
  · decide
  · exact pad2_no_sep dc_ne_dash _ x hx

theorem parseDateTime_str {x : DateTime} (h : x.valid = true) (hus : x.time.us = 0) :
    parseDateTime x.str = some x := by
  simp only [DateTime.valid, Bool.and_eq_true] at h
  obtain ⟨hy, hm, hd, hmk⟩ := date_fields h.1
  have hiso : x.time.iso = x.time.hms := by simp [Time.iso, hus]
  unfold parseDateTime DateTime.str Date.iso
  rw [hiso, show pad4 x.date.y ++ ['-'] ++ pad2 x.date.m ++ ['-'] ++ pad2 x.date.d ++ [' '] ++
        x.time.hms =
      pad4 x.date.y ++ ['-'] ++ pad2 x.date.m ++ ['-'] ++ (pad2 x.date.d ++ ' ' :: x.time.hms) by simp,
    splitOn_three _ _ _ _ (pad4_no_sep dc_ne_dash _) (pad2_no_sep dc_ne_dash _)]
  · have hne : digitChar (x.date.d / 10) ≠ ' ' := by
      intro h
      have := dc_not_space (x.date.d / 10)
      simp [h, isSpace] at this
    -- the day field does not begin with a space, and ends at the space before the time
    have hlead : dayLead (pad2 x.date.d ++ ' ' :: x.time.hms) =
        ([], pad2 x.date.d ++ ' ' :: x.time.hms) := by
      unfold dayLead pad2
      split
      · rename_i q heq
        simp only [List.cons_append, List.cons.injEq] at heq
        exact absurd heq.1 hne
      · rfl
    have hl : lstrip (' ' :: x.time.hms) = x.time.hms := by
      rw [lstrip, if_pos (by decide)]
      exact lstrip_of_head (dc_not_space _)
    have htake : (pad2 x.date.d ++ ' ' :: x.time.hms).takeWhile (fun c => !isSpace c) = pad2 x.date.d := by
      simp [pad2, List.takeWhile, dc_not_space, show isSpace ' ' = true by decide]
    have hdrop : (pad2 x.date.d ++ ' ' :: x.time.hms).dropWhile (fun c => !isSpace c) =
        ' ' :: x.time.hms := by
      simp [pad2, List.dropWhile, dc_not_space, show isSpace ' ' = true by decide]
    simp only [hlead, List.nil_append, htake, hdrop, hl, hy, hm, hd, parseTime_hms h.2, hmk]
    cases x with
    | mk d t => cases t; simp at hus; simp [hus]
  · intro c hc
    rcases List.mem_append.mp hc with hc | hc
    · exact pad2_no_sep dc_ne_dash _ c hc
    · rcases List.mem_cons.mp hc with rfl | hc
      · decide
      · exact hms_no_dash _ c hc

end Py
