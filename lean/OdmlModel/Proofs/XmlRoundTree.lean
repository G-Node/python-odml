/-
XML round trip: Section and Document elements.  `sec_keys` / `doc_keys` classify the regenerated
key tables once, `sec_leafKey` / `doc_leafKey` give every key that is not a child element its
`LeafKey`, `createSec_of` / `createDoc_of` are the constructors on the collected arguments; the
only other table facts used are membership / lookup facts about individual keys.
-/
import OdmlModel.Proofs.XmlRoundProp

namespace Xml
open Py Py.Csv

/-- table facts about a key whose elements are parsed as objects of their own -/
def childOK (κ : Kind) (t : String) : Bool :=
  (fmtOf κ).keys.contains (lowerS t) && readerTags.contains (lowerS t) &&
  (fmtOf κ).mapKeys.contains (lowerS t)

theorem writeSec_elem (s : SecT) : ∃ kids, writeSec s = .elem Gen.Format.sectionName [] none kids := by
  cases s; exact ⟨_, by rw [writeSec]⟩

theorem effNames_trimSecs : ∀ (ss : List SecT) (lib : TokLib), secsWf lib ss = true →
    (trimSecs ss).map SecT.effName = (secNames ss).map (Option.map strip) := by
  intro ss lib
  induction ss with
  | nil => intro _; simp [trimSecs, secNames]
  | cons s ss ih =>
    intro h
    obtain ⟨id, name, type, defn, ref, link, repo, incl, secs, props, sc, pc⟩ := s
    simp only [secsWf, Bool.and_eq_true] at h
    have hname := (secWf_mk.mp h.1).2.1
    cases name with
    | none => simp at hname
    | some n =>
      simp [trimSecs, trimSec, secNames, SecT.effName, effName, SecT.name, SecT.id, ih h.2]

theorem effNames_trimProps (lib : TokLib) : ∀ (ps : List PropT), (∀ p ∈ ps, propWf lib p = true) →
    (ps.map trimProp).map PropT.effName = (ps.map (·.name)).map (Option.map strip) := by
  intro ps
  induction ps with
  | nil => intro _; rfl
  | cons p ps ih =>
    intro h
    have hname := propWf_name (h p (by simp))
    cases hn : p.name with
    | none => rw [hn] at hname; simp at hname
    | some n =>
      simp [trimProp, PropT.effName, effName, hn, ih (fun q hq => h q (by simp [hq]))]

def secArg (id name type defn ref link repo incl : Option Str) (sc pc : Card.Card) (k : String) :
    Option ArgV :=
  match k with
  | "id" => some (textArg (shown id))
  | "type" => type.map textArg
  | "name" => some (textArg (shown (name <|> id)))
  | "definition" => defn.map textArg
  | "reference" => ref.map textArg
  | "link" => link.map textArg
  | "repository" => repo.map textArg
  | "include" => incl.map textArg
  | "sec_cardinality" => sc.map cardArg
  | "prop_cardinality" => pc.map cardArg
  | _ => none

def kidsSecs (secs : List SecT) (k : String) : List SecT :=
  match k with
  | "section" => trimSecs secs
  | _ => []

def kidsProps (props : List PropT) (k : String) : List PropT :=
  match k with
  | "property" => props.map trimProp
  | _ => []

def secSpec (id name type defn ref link repo incl : Option Str) (secs : List SecT)
    (props : List PropT) (sc pc : Card.Card) : KeySpec :=
  { arg := secArg id name type defn ref link repo incl sc pc,
    secs := kidsSecs secs, props := kidsProps props }

theorem kidsSecs_other (secs : List SecT) (k : String) (h : k ≠ "section") : kidsSecs secs k = [] := by
  unfold kidsSecs
  split
  · exact absurd rfl h
  · rfl

theorem kidsProps_other (props : List PropT) (k : String) (h : k ≠ "property") :
    kidsProps props k = [] := by
  unfold kidsProps
  split
  · exact absurd rfl h
  · rfl

theorem sec_keys : ∀ k ∈ (fmtOf .sec).keys,
    (k = "sec_cardinality" ∨ k = "prop_cardinality" → cardKeyOK .sec k = true) ∧
    (k ≠ "section" → k ≠ "property" → k ≠ "sec_cardinality" → k ≠ "prop_cardinality" →
      textKeyOK .sec k = true) := by
  decide +kernel

theorem sec_leafKey {id name type defn ref link repo incl : Option Str} {secs props : List X}
    {sc pc : Card.Card} {k : String} (hk : k ∈ (fmtOf .sec).keys)
    (hs : k ≠ "section") (hp : k ≠ "property") :
    LeafKey .sec k (secKey id name type defn ref link repo incl secs props sc pc k)
      (secArg id name type defn ref link repo incl sc pc k) := by
  obtain ⟨hcard, htext⟩ := sec_keys k hk
  by_cases h1 : k = "sec_cardinality"
  · subst h1; rw [secKey, secArg]; exact .optCard (hcard (.inl rfl)) _
  by_cases h2 : k = "prop_cardinality"
  · subst h2; rw [secKey, secArg]; exact .optCard (hcard (.inr rfl)) _
  have ht := htext hs hp h1 h2
  unfold secKey
  split
  · rw [secArg]; exact .text ht _
  · rw [secArg]; exact .optText ht _
  · rw [secArg]; exact .text ht _
  · rw [secArg]; exact .optText ht _
  · rw [secArg]; exact .optText ht _
  · rw [secArg]; exact .optText ht _
  · rw [secArg]; exact .optText ht _
  · exact absurd rfl hs
  · rw [secArg]; exact .optText ht _
  · exact absurd rfl hp
  · exact absurd rfl h1
  · exact absurd rfl h2
  · -- the wildcard equation of `secArg` asks for the disequalities `split` left in the context
    rw [secArg]
    · exact .absent
    all_goals assumption

theorem flatMap_single {α β} [DecidableEq α] (g : α → List β) (k0 : α) :
    ∀ (L : List α), L.Nodup → k0 ∈ L → (∀ k, k ≠ k0 → g k = []) → L.flatMap g = g k0 := by
  intro L
  induction L with
  | nil => intro _ h; simp at h
  | cons a as ih =>
    intro hn hm hg
    simp only [List.nodup_cons] at hn
    by_cases ha : a = k0
    · subst ha
      have : as.flatMap g = [] := by
        simp only [List.flatMap_eq_nil_iff]
        intro x hx
        exact hg x (by rintro rfl; exact hn.1 hx)
      simp [this]
    · have hm' : k0 ∈ as := by
        rcases List.mem_cons.mp hm with h | h
        · exact absurd h.symm ha
        · exact h
      simp [hg a ha, ih hn.2 hm' hg]

theorem createSec_of (a : Args) (id name type defn ref link repo incl : Option Str)
    (sc pc : Card.Card) (hid : idOk id = true) (hname : name.isSome = true)
    (htype : type.isSome = true) (hsc : cardOk sc = true) (hpc : cardOk pc = true)
    (hnr : nameRepr name = true)
    (h : ∀ k ∈ (fmtOf .sec).keys, a.lookup ((fmtOf .sec).pyName k) =
      secArg id name type defn ref link repo incl sc pc k) :
    createSec a = .ok (.mk id (name.map strip) (normText type) (normText defn) (normText ref)
      (normText link) (normText repo) (normText incl) [] [] sc pc) := by
  simp only [fmtOf, Fmt.keys, Fmt.pyName, Gen.Format.sectionArgs, Gen.Format.sectionMap, List.map,
    List.forall_mem_cons, List.lookup, String.reduceBEq, Option.getD_some, Option.getD_none] at h
  unfold createSec
  simp only [getText_eq, loadCard_eq, h]
  repeat rw [secArg]
  simp only [argText_textArg, argText_map, argCard_map _ hsc, argCard_map _ hpc, idOk_facts id hid,
    name_facts name id hname hnr]
  cases type with
  | none => simp at htype
  | some s => rfl

theorem nodup_of_distinctTrimmed {names : List (Option Str)} (h : distinctTrimmed names = true) :
    (names.map (Option.map strip)).Nodup := by
  simpa [distinctTrimmed] using h

mutual
/-- every dtype in the tree is stored in lower case (what `Property.dtype` always holds) -/
def secLower : SecT → Bool
  | .mk _ _ _ _ _ _ _ _ secs props _ _ => props.all propLower && secsLower secs
def secsLower : List SecT → Bool
  | [] => true
  | s :: ss => secLower s && secsLower ss
end

def docLower (d : DocT) : Bool := secsLower d.secs

def docArg (d : DocT) (k : String) : Option ArgV :=
  match k with
  | "id" => some (textArg (shown d.id))
  | "version" => d.version.map textArg
  | "author" => d.author.map textArg
  | "date" => d.date.map textArg
  | "repository" => d.repository.map textArg
  | _ => none

def docSpec (d : DocT) : KeySpec :=
  { arg := docArg d, secs := kidsSecs d.secs, props := fun _ => [] }

theorem doc_keys : ∀ k ∈ (fmtOf .doc).keys, k ≠ "section" → textKeyOK .doc k = true := by
  decide +kernel

theorem doc_leafKey {d : DocT} {k : String} (hk : k ∈ (fmtOf .doc).keys) (hs : k ≠ "section") :
    LeafKey .doc k (docKey d k) (docArg d k) := by
  have ht := doc_keys k hk hs
  unfold docKey
  split
  · rw [docArg]; exact .text ht _
  · rw [docArg]; exact .optText ht _
  · rw [docArg]; exact .optText ht _
  · rw [docArg]; exact .optText ht _
  · exact absurd rfl hs
  · rw [docArg]; exact .optText ht _
  · rw [docArg]
    · exact .absent
    all_goals assumption

theorem createDoc_of (lib : TokLib) (a : Args) (d : DocT) (hid : idOk d.id = true)
    (hdate : dateOk lib d.date = true)
    (h : ∀ k ∈ (fmtOf .doc).keys, a.lookup ((fmtOf .doc).pyName k) = docArg d k) :
    createDoc lib a = .ok { trimDoc d with secs := [] } := by
  simp only [fmtOf, Fmt.keys, Fmt.pyName, Gen.Format.documentArgs, Gen.Format.documentMap, List.map,
    List.forall_mem_cons, List.lookup, String.reduceBEq, Option.getD_some, Option.getD_none] at h
  unfold createDoc
  simp only [getText_eq, h]
  repeat rw [docArg]
  simp only [argText_textArg, argText_map, idOk_facts d.id hid]
  cases hd : d.date with
  | none => simp [normText, trimDoc, hd]
  | some t =>
    rw [hd] at hdate
    simp only [dateOk, tokOk, Bool.and_eq_true, Bool.not_eq_true', beq_iff_eq] at hdate
    obtain ⟨⟨h1, h2⟩, h3⟩ := hdate
    simp [normText, trimDoc, hd, h1, h2, h3]

end Xml
