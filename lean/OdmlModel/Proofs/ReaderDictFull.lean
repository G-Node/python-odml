/-
C16 — the full content of a `Document` dictionary (`dDocFull`: every dictionary entry of a
`sections` / `properties` list becomes an object, all of them attached), and: an input without a
problem has all of it among its valid parts (`dDoc_eq_full`).
-/
import OdmlModel.Proofs.ReaderDictDenote

namespace Reader

variable {env : DEnv}

def dPropFull (env : DEnv) : J → List (Obj J)
  | .obj kvs => [Obj.mk .prop (dObjName env .prop (dPropArgs kvs [])) true [] []]
  | _ => []

def dPropListFull (env : DEnv) : List J → List (Obj J)
  | [] => []
  | e :: rest => dPropFull env e ++ dPropListFull env rest

/-- every dictionary entry of the `properties` list, as a Property -/
def dPropsFull (env : DEnv) : J → List (Obj J)
  | .arr xs => dPropListFull env xs
  | _ => []

theorem dProp_eq_full (e : J) (h : propProblems env e = 0) :
    dProp env e = dPropFull env e := by
  cases e with
  | obj kvs =>
    simp only [propProblems] at h
    by_cases hc : env.createFails .prop (dPropArgs kvs []) = true
    · simp only [hc, if_true] at h; omega
    · simp only [dProp, dPropFull, hc, Bool.false_eq_true, if_false]
  | _ => simp [dProp, dPropFull]

theorem dPropList_eq_full (l : List J) (h : propListProblems env l = 0) :
    dPropList env l = dPropListFull env l := by
  induction l with
  | nil => rfl
  | cons e rest ih =>
    simp only [propListProblems, Nat.add_eq_zero_iff] at h
    simp only [dPropList, dPropListFull, dProp_eq_full e h.1, ih h.2]

theorem dProps_eq_full (v : J) (h : propsProblems env v = 0) :
    dProps env v = dPropsFull env v := by
  cases v with
  | arr xs => exact dPropList_eq_full xs h
  | _ => simp [dProps, dPropsFull]

def dSecObjFull (env : DEnv) (attrs : DArgs) (props secs : List (Obj J)) : List (Obj J) :=
  [attachAllG (Obj.mk .sec (dObjName env .sec attrs) true [] []) (props ++ secs)]

theorem dSecObj_eq_full (attrs : DArgs) (props secs : List (Obj J))
    (h : secFinishProblems env attrs props secs = 0) :
    dSecObj env attrs props secs = dSecObjFull env attrs props secs := by
  unfold secFinishProblems at h
  by_cases hc : env.createFails .sec attrs = true
  · simp only [hc, if_true] at h; omega
  · simp only [hc, Bool.false_eq_true, if_false] at h
    simp only [dSecObj, dSecObjFull, hc, Bool.false_eq_true, if_false, keepValid_full _ _ _ h]

mutual
/-- every dictionary entry of the `sections` list, as a Section with all its entries -/
def dSectionsFull (env : DEnv) : J → List (Obj J)
  | .arr xs => dSecListFull env xs
  | _ => []
def dSecListFull (env : DEnv) : List J → List (Obj J)
  | [] => []
  | .obj kvs :: rest =>
    dSecObjFull env (dSecPartsFull env kvs ⟨[], [], []⟩).attrs (dSecPartsFull env kvs ⟨[], [], []⟩).props
      (dSecPartsFull env kvs ⟨[], [], []⟩).secs ++ dSecListFull env rest
  | _ :: rest => dSecListFull env rest
def dSecPartsFull (env : DEnv) : List (Str × J) → SecParts → SecParts
  | [], st => st
  | (k, v) :: rest, st =>
    if validKey .sec k then
      if k == "properties".toList then dSecPartsFull env rest { st with props := dPropsFull env v }
      else if k == "sections".toList then dSecPartsFull env rest { st with secs := dSectionsFull env v }
      else dSecPartsFull env rest { st with attrs := setAttr .sec k v st.attrs }
    else dSecPartsFull env rest st
end

theorem dSections_eq_full :
    (∀ v, sectionsProblems env v = 0 → dSections env v = dSectionsFull env v) ∧
    (∀ kvs, secPairsProblems env kvs = 0 → ∀ st, dSecParts env kvs st = dSecPartsFull env kvs st) := by
  refine J.induct (B := fun xs => secListProblems env xs = 0 → dSecList env xs = dSecListFull env xs)
    ?leaf ?arr ?nil ?cons_obj ?cons_other ?pnil ?pcons
  case leaf =>
    intro v hv _
    cases v with
    | arr xs => exact absurd rfl (hv xs)
    | _ => rfl
  case arr =>
    intro xs ih h
    exact ih h
  case nil =>
    intro _
    rfl
  case cons_obj =>
    intro kvs rest hx hr h
    simp only [secListProblems, Nat.add_eq_zero_iff] at h
    simp only [dSecList, dSecListFull]
    rw [← hx h.1.1 ⟨[], [], []⟩, hr h.2, dSecObj_eq_full _ _ _ h.1.2]
  case cons_other =>
    intro x rest hx _ h
    cases x with
    | obj kvs => exact absurd rfl (hx kvs)
    | _ => simp only [secListProblems] at h; omega
  case pnil =>
    intro _ st
    rfl
  case pcons =>
    intro k v rest hv hr h st
    simp only [secPairsProblems, Nat.add_eq_zero_iff] at h
    obtain ⟨h, hrest⟩ := h
    simp only [dSecParts, dSecPartsFull]
    by_cases hk : validKey .sec k = true
    · simp only [hk, if_true] at h ⊢
      by_cases h1 : (k == "properties".toList) = true
      · simp only [h1, if_true] at h ⊢
        rw [dProps_eq_full v h]
        exact hr hrest _
      · by_cases h2 : (k == "sections".toList) = true
        · simp only [h1, h2, if_true, Bool.false_eq_true, if_false] at h ⊢
          rw [hv h]
          exact hr hrest _
        · simp only [h1, h2, Bool.false_eq_true, if_false] at ⊢
          exact hr hrest _
    · simp only [hk, Bool.false_eq_true, if_false] at h
      cases h

def dDocPartsFull (env : DEnv) : List (Str × J) → DocParts → DocParts
  | [], st => st
  | (k, v) :: rest, st =>
    if validKey .doc k then
      if k == "sections".toList then dDocPartsFull env rest { st with secs := dSectionsFull env v }
      else dDocPartsFull env rest { st with attrs := setAttr .doc k v st.attrs }
    else dDocPartsFull env rest st

/-- **The full content of a `Document` dictionary**: the Document made from its arguments with
    every dictionary entry of `sections` as a Section, and so on below. -/
def dDocFull (env : DEnv) (kvs : List (Str × J)) : Obj J :=
  attachAllG (Obj.mk .doc Name.fresh true [] []) (dDocPartsFull env kvs ⟨[], []⟩).secs

theorem dDocParts_eq_full (kvs : List (Str × J)) (h : docPairsProblems env kvs = 0)
    (st : DocParts) : dDocParts env kvs st = dDocPartsFull env kvs st := by
  induction kvs generalizing st with
  | nil => rfl
  | cons p rest ih =>
    obtain ⟨k, v⟩ := p
    simp only [docPairsProblems, Nat.add_eq_zero_iff] at h
    obtain ⟨h, hrest⟩ := h
    simp only [dDocParts, dDocPartsFull]
    by_cases hk : validKey .doc k = true
    · simp only [hk, if_true] at h ⊢
      by_cases h1 : (k == "sections".toList) = true
      · simp only [h1, if_true] at h ⊢
        rw [dSections_eq_full.1 v h]
        exact ih hrest _
      · simp only [h1, Bool.false_eq_true, if_false] at ⊢
        exact ih hrest _
    · simp only [hk, Bool.false_eq_true, if_false] at h
      cases h

theorem dDoc_eq_full (kvs : List (Str × J)) (h : docProblems env kvs = 0) :
    dDoc env kvs = dDocFull env kvs := by
  simp only [docProblems, Nat.add_eq_zero_iff] at h
  obtain ⟨h1, hc, h2⟩ := h
  have hc : env.createFails .doc (dDocParts env kvs ⟨[], []⟩).attrs = false := by
    cases hf : env.createFails .doc (dDocParts env kvs ⟨[], []⟩).attrs
    · rfl
    · simp [hf] at hc
  unfold dDoc dDocFull
  rw [keepValid_full _ _ _ h2, dDocBase, hc, dDocParts_eq_full kvs h1]
  rfl

end Reader
