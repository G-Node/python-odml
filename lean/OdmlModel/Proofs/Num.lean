/-
Lemmas about the model `Py/Num.lean`: `int(s)` on strings of digits.
-/
import OdmlModel.Py.Num
import OdmlModel.Proofs.Str

namespace Py

theorem digitGroup_true_digits : ∀ (cs : List Char), cs.all Char.isDigit = true →
    digitGroup true cs = some cs := by
  intro cs
  induction cs with
  | nil => intro _; rfl
  | cons c cs ih =>
    intro h
    simp only [List.all_cons, Bool.and_eq_true] at h
    simp [digitGroup, h.1, ih h.2]

theorem digitGroup_false_digits {c : Char} {cs : List Char} (h : (c :: cs).all Char.isDigit = true) :
    digitGroup false (c :: cs) = some (c :: cs) := by
  simp only [List.all_cons, Bool.and_eq_true] at h
  simp [digitGroup, h.1, digitGroup_true_digits cs h.2]

theorem signSplit_digit {c : Char} (cs : List Char) (h : c.isDigit = true) :
    signSplit (c :: cs) = (false, c :: cs) := by
  have hs : c ≠ '-' ∧ c ≠ '+' := by
    have := isDigit_bounds h
    constructor <;> (intro hc; subst hc; simp at this)
  unfold signSplit
  split
  · rename_i r heq; injection heq with h1 h2; exact absurd h1 hs.1
  · rename_i r heq; injection heq with h1 h2; exact absurd h1 hs.2
  · rfl

theorem parseInt_digits {c : Char} {cs : List Char} (h : (c :: cs).all Char.isDigit = true) :
    parseInt (c :: cs) = some ((natOfDigits (c :: cs) : Nat) : Int) := by
  have hc : c.isDigit = true := by
    simp only [List.all_cons, Bool.and_eq_true] at h; exact h.1
  unfold parseInt
  simp only [strip_digits h, signSplit_digit cs hc, digitGroup_false_digits h]
  simp

theorem strip_neg_digits {ds : List Char} (hne : ds ≠ []) (h : ds.all Char.isDigit = true) :
    strip ('-' :: ds) = '-' :: ds := by
  rcases List.eq_nil_or_concat ds with rfl | ⟨m, b, rfl⟩
  · exact absurd rfl hne
  · simp only [List.concat_eq_append, List.all_append, List.all_cons, List.all_nil, Bool.and_true,
      Bool.and_eq_true] at h ⊢
    exact strip_ends m (by decide) (isDigit_not_space h.2)

theorem takeWhile_digits_dash : ∀ (p rest : List Char), p.all Char.isDigit = true →
    (p ++ '-' :: rest).takeWhile Char.isDigit = p := fun p rest h => by
  rw [List.takeWhile_append_of_pos (List.all_eq_true.mp h), List.takeWhile_cons_of_neg (by decide),
    List.append_nil]

end Py
