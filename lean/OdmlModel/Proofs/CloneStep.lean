/-
C11: the frame lemma of every editing operation. For a region `R` that is
closed (no reference leads out of it) and owns everything allocated from now on, an operation
applied to objects / lists of `R` writes only locations of `R` and leaves `R` closed.
-/
import OdmlModel.Proofs.CloneSpec
namespace Clone

/-- `R` owns every location that is not allocated yet. -/
def Future (R : Reg) (h : H) : Prop :=
  (∀ a, h.nN ≤ a → R.n a) ∧ (∀ a, h.nV ≤ a → R.v a) ∧ (∀ a, h.nT ≤ a → R.t a)

/-- No location outside `R` is written. -/
def FrameOut (R : Reg) (h h' : H) : Prop :=
  (∀ a, ¬ R.n a → h'.node a = h.node a) ∧ (∀ c, ¬ R.v c → h'.vcell c = h.vcell c) ∧
  (∀ t, ¬ R.t t → h'.tcell t = h.tcell t)

/-- `R` is closed in `h` and owns every location not yet allocated. -/
structure St (R : Reg) (h : H) : Prop where
  closed : Closed h R
  future : Future R h

/-- Sizes grow, nothing outside `R` is written, and `R` stays closed. -/
structure Good (R : Reg) (h h' : H) : Prop where
  mono : Mono h h'
  frame : FrameOut R h h'
  st : St R h'

theorem Future.mono {R h h'} (f : Future R h) (m : Mono h h') : Future R h' :=
  ⟨fun a ha => f.1 a (Nat.le_trans m.nN ha), fun a ha => f.2.1 a (Nat.le_trans m.nV ha),
   fun a ha => f.2.2 a (Nat.le_trans m.nT ha)⟩

theorem Good.refl {R h} (s : St R h) : Good R h h :=
  ⟨Mono.refl h, ⟨fun _ _ => rfl, fun _ _ => rfl, fun _ _ => rfl⟩, s⟩

theorem Good.trans {R a b c} (g1 : Good R a b) (g2 : Good R b c) : Good R a c :=
  ⟨g1.mono.trans g2.mono,
   ⟨fun x hx => (g2.frame.1 x hx).trans (g1.frame.1 x hx), fun x hx => (g2.frame.2.1 x hx).trans (g1.frame.2.1 x hx),
    fun x hx => (g2.frame.2.2 x hx).trans (g1.frame.2.2 x hx)⟩, g2.st⟩

theorem nodeIn_parent {R n} (hn : NodeIn R n) (np : Option Nat) (hp : ∀ p, np = some p → R.n p) :
    NodeIn R { n with parent := np } := ⟨fun _ p h => hp p h, hn.2.1, hn.2.2.1, hn.2.2.2⟩
theorem nodeIn_secs {R n} (hn : NodeIn R n) (l : List Nat) (hl : ∀ c, c ∈ l → R.n c) :
    NodeIn R { n with secs := l } := ⟨hn.1, fun _ c h => hl c h, hn.2.2.1, hn.2.2.2⟩
theorem nodeIn_props {R n} (hn : NodeIn R n) (l : List Nat) (hl : ∀ c, c ∈ l → R.n c) :
    NodeIn R { n with props := l } := ⟨hn.1, hn.2.1, fun _ c h => hl c h, hn.2.2.2⟩
theorem nodeIn_vals {R n} (hn : NodeIn R n) (v : Option Nat) (hv : ∀ c, v = some c → R.v c) :
    NodeIn R { n with vals := v } := ⟨hn.1, hn.2.1, hn.2.2.1, fun _ c h => hv c h⟩

/-- The fields no operation writes through. -/
theorem nodeIn_data {R n} (hn : NodeIn R n) (name id attrs merged mattrs) :
    NodeIn R { n with name := name, id := id, attrs := attrs, merged := merged, mattrs := mattrs } := hn

theorem good_updN {R h} (s : St R h) (i : Nat) (f : Node → Node) (hi : R.n i)
    (hf : NodeIn R (h.node i) → NodeIn R (f (h.node i))) : Good R h (updN h i f) := by
  refine ⟨Mono.refl _, ⟨fun a ha => ?_, fun _ _ => rfl, fun _ _ => rfl⟩, ⟨⟨fun a ha hl => ?_, s.closed.2⟩, s.future⟩⟩
  · rw [updN_other]; intro e; subst e; exact ha hi
  · rw [updN_node]; split
    · rename_i e; subst e; exact hf (s.closed.1 a ha hl)
    · exact s.closed.1 a ha hl

theorem good_updV {R h} (s : St R h) (i : Nat) (f : List Item → List Item) (hi : R.v i)
    (hf : ItemsIn R (h.vcell i) → ItemsIn R (f (h.vcell i))) : Good R h (updV h i f) := by
  refine ⟨Mono.refl _, ⟨fun _ _ => rfl, fun a ha => ?_, fun _ _ => rfl⟩, ⟨⟨s.closed.1, fun a ha hl => ?_⟩, s.future⟩⟩
  · rw [updV_vcell, if_neg]; intro e; subst e; exact ha hi
  · rw [updV_vcell]; split
    · rename_i e; subst e; exact hf (s.closed.2 a ha hl)
    · exact s.closed.2 a ha hl

theorem good_updT {R h} (s : St R h) (i : Nat) (f : List String → List String) (hi : R.t i) :
    Good R h (updT h i f) := by
  refine ⟨Mono.refl _, ⟨fun _ _ => rfl, fun _ _ => rfl, fun a ha => ?_⟩, ⟨s.closed, s.future⟩⟩
  rw [updT_tcell, if_neg]; intro e; subst e; exact ha hi

theorem good_newId {R h} (s : St R h) (i : Nat) (hi : R.n i) : Good R h (newId h i) :=
  have g := good_updN s i (fun n => { n with id := h.nextId }) hi fun hn => nodeIn_data hn ..
  ⟨⟨Nat.le_refl _, Nat.le_refl _, Nat.le_refl _, Nat.le_succ _⟩, g.frame, g.st.closed, g.st.future⟩

theorem good_of_ext {R h h'} (s : St R h) (e : Ext h h')
    (cn : ∀ a, h.nN ≤ a → a < h'.nN → NodeIn R (h'.node a))
    (cv : ∀ c, h.nV ≤ c → c < h'.nV → ItemsIn R (h'.vcell c)) : Good R h h' :=
  ⟨e.mono,
   ⟨fun a ha => e.node a (Nat.lt_of_not_le fun hle => ha (s.future.1 a hle)),
    fun a ha => e.vcell a (Nat.lt_of_not_le fun hle => ha (s.future.2.1 a hle)),
    fun a ha => e.tcell a (Nat.lt_of_not_le fun hle => ha (s.future.2.2 a hle))⟩,
   ⟨closed_of_ext e s.closed.1 s.closed.2 (fun a _ => cn a) (fun c _ => cv c), s.future.mono e.mono⟩⟩

theorem good_allocT {R h} (s : St R h) (l : List String) : Good R h (allocT h l).1 :=
  good_of_ext s (ext_allocT h l) (fun _ h1 h2 => absurd h2 (Nat.not_lt.2 h1))
    (fun _ h1 h2 => absurd h2 (Nat.not_lt.2 h1))

theorem good_allocV {R h} (s : St R h) (l : List Item) (hl : ItemsIn R l) : Good R h (allocV h l).1 :=
  good_of_ext s (ext_allocV h l) (fun _ h1 h2 => absurd h2 (Nat.not_lt.2 h1)) fun c h1 h2 => by
    rw [allocV_vcell, if_pos (Nat.le_antisymm (Nat.le_of_lt_succ h2) h1)]; exact hl

theorem good_allocN {R h} (s : St R h) (n : Node) (hn : NodeIn R n) : Good R h (allocN h n).1 :=
  good_of_ext s (ext_allocN h n) (fun a h1 h2 => by
    rw [allocN_node, if_pos (Nat.le_antisymm (Nat.le_of_lt_succ h2) h1)]; exact hn)
    (fun _ h1 h2 => absurd h2 (Nat.not_lt.2 h1))

theorem TupOnly.good {R h h' out} (s : St R h) (r : TupOnly h h' out) : Good R h h' ∧ ItemsIn R out :=
  ⟨good_of_ext s r.ext (fun _ h1 h2 => absurd (r.nN ▸ h2) (Nat.not_lt.2 h1))
    (fun _ h1 h2 => absurd (r.nV ▸ h2) (Nat.not_lt.2 h1)), fun t ht => s.future.2.2 t (r.fresh t ht).1⟩

theorem TupOnly.good_alloc {R h h' out} (s : St R h) (r : TupOnly h h' out) : Good R h (allocV h' out).1 :=
  have ⟨g, i⟩ := r.good s
  g.trans (good_allocV g.st _ i)

theorem TupOnly.good_bind {R h h' out} (s : St R h) (r : TupOnly h h' out) {p : Nat} (hp : R.n p) :
    Good R h (updN (allocV h' out).1 p fun n => { n with vals := some h'.nV }) :=
  have g := r.good_alloc s
  g.trans (good_updN g.st p _ hp fun hn =>
    nodeIn_vals hn _ fun _ hc => Option.some.inj hc ▸ (r.good s).1.st.future.2.1 _ (Nat.le_refl _))

theorem good_setValuesItems {R h} (s : St R h) (p : Nat) (src : List Item) (hp : R.n p) :
    Good R h (setValuesItems h p src) :=
  setValuesItems_eq h p src ▸ (convertItems_spec src h).toTupOnly.good_bind s hp

theorem good_setValuesLits {R h} (s : St R h) (p : Nat) (src : List Lit) (hp : R.n p) :
    Good R h (setValuesLits h p src) :=
  setValuesLits_eq h p src ▸ (litItems_tupOnly src h).good_bind s hp

theorem good_getValues {R h} (s : St R h) (p : Nat) : Good R h (getValues h p).1 :=
  (convertItems_spec (valsOf h p) h).toTupOnly.good_alloc s

theorem itemsIn_append {R l l'} (a : ItemsIn R l) (b : ItemsIn R l') : ItemsIn R (l ++ l') :=
  fun t ht => (List.mem_append.1 ht).elim (a t) (b t)

theorem itemsIn_erase {R l} (a : ItemsIn R l) (i : Nat) : ItemsIn R (l.eraseIdx i) :=
  fun t ht => a t (List.mem_of_mem_eraseIdx ht)

theorem itemsIn_head {R : Reg} {items : List Item} (hi : ItemsIn R items) :
    ∀ l : List Item, ItemsIn R l → ∀ i, ItemsIn R (match items with | it :: _ => l.set i it | [] => l) := by
  intro l hl i
  cases items with
  | nil => exact hl
  | cons it rest =>
    exact fun t ht => (List.mem_or_eq_of_mem_set ht).elim (hl t) fun e => hi t (e ▸ List.mem_cons_self ..)

theorem vals_in {R h} (s : St R h) {p c : Nat} (hp : R.n p) (hl : p < h.nN) (hk : (h.node p).kind = .prop)
    (hv : (h.node p).vals = some c) : R.v c := (s.closed.1 p hp hl).2.2.2 hk c hv

theorem good_litUpd {R h} (s : St R h) (c : Nat) (v : Lit) (hc : R.v c) (f : List Item → List Item → List Item)
    (hf : ∀ {items l}, ItemsIn R items → ItemsIn R l → ItemsIn R (f items l)) :
    Good R h (updV (litItems h [v]).1 c (f (litItems h [v]).2)) :=
  have ⟨g, i⟩ := (litItems_tupOnly [v] h).good s
  g.trans (good_updV g.st c _ hc fun hin => hf i hin)

theorem good_appendValue {R h} (s : St R h) (p : Nat) (v : Lit) (hp : R.n p) (hl : p < h.nN)
    (hk : (h.node p).kind = .prop) : Good R h (appendValue h p v) :=
  appendValue_cases (Good.refl s) (good_setValuesLits s p [v] hp) fun c hv =>
    good_litUpd s c v (vals_in s hp hl hk hv) (fun items l => l ++ items) fun hi hl => itemsIn_append hl hi

theorem good_setValueAt {R h} (s : St R h) (p i : Nat) (v : Lit) (hp : R.n p) (hl : p < h.nN)
    (hk : (h.node p).kind = .prop) : Good R h (setValueAt h p i v).1 :=
  setValueAt_cases (Good.refl s) fun c hv =>
    good_litUpd s c v (vals_in s hp hl hk hv) (fun items l => match items with | it :: _ => l.set i it | [] => l)
      fun hi hl => itemsIn_head hi _ hl i

theorem good_setAttr {R h} (s : St R h) (x i : Nat) (v : String) (hx : R.n x) : Good R h (setAttr h x i v) :=
  good_updN s x _ hx (fun hn => nodeIn_data hn ..)

theorem good_listInnerSet {R h} (s : St R h) (c i j : Nat) (str : String) (hc : R.v c) (hl : c < h.nV) :
    Good R h (listInnerSet h c i j str).1 :=
  listInnerSet_cases (Good.refl s) fun t hget =>
    good_updT s t _ (s.closed.2 c hc hl t (List.mem_of_getElem? hget))

theorem good_valueInnerSet {R h} (s : St R h) (p i j : Nat) (str : String) (hp : R.n p) (hl : p < h.nN)
    (hk : (h.node p).kind = .prop) : Good R h (valueInnerSet h p i j str).1 :=
  valueInnerSet_cases (Good.refl s) fun c hv hlt =>
    good_listInnerSet s c i j str (vals_in s hp hl hk hv) (Nat.lt_of_not_le hlt)

/-- A step that writes no object, value list or inner list (a dict is allocated or written). -/
theorem good_same {R h h'} (s : St R h) (hn : h'.node = h.node) (hv : h'.vcell = h.vcell)
    (ht : h'.tcell = h.tcell) (eN : h'.nN = h.nN) (eV : h'.nV = h.nV) (eT : h'.nT = h.nT)
    (eI : h.nextId ≤ h'.nextId) : Good R h h' :=
  have m : Mono h h' := ⟨Nat.le_of_eq eN.symm, Nat.le_of_eq eV.symm, Nat.le_of_eq eT.symm, eI⟩
  ⟨m, ⟨fun a _ => congrFun hn a, fun a _ => congrFun hv a, fun a _ => congrFun ht a⟩,
   ⟨⟨fun a ha hl => hn ▸ s.closed.1 a ha (eN ▸ hl), fun a ha hl => hv ▸ s.closed.2 a ha (eV ▸ hl)⟩,
    s.future.mono m⟩⟩

theorem good_allocD {R h} (s : St R h) (l : List (Nat × String)) : Good R h (allocD h l).1 :=
  good_same s rfl rfl rfl rfl rfl rfl (Nat.le_refl _)

theorem good_updD {R h} (s : St R h) (i : Nat) (f) : Good R h (updD h i f) :=
  good_same s rfl rfl rfl rfl rfl rfl (Nat.le_refl _)

theorem good_initRecord {R h} (s : St R h) (x : Nat) (hx : R.n x) : Good R h (initRecord h x) := by
  unfold initRecord
  have g1 := good_allocD s []
  exact g1.trans (good_updN g1.st x _ hx (fun hn => nodeIn_data hn ..))

theorem good_newObj {R h} (s : St R h) (k : Kind) (name : String) (attrs : List String) (vals : List Lit) :
    Good R h (newObj h k name attrs vals).1 := by
  unfold newObj
  simp only
  have g0 : Good R h { h with nextId := h.nextId + 1 } := good_same s rfl rfl rfl rfl rfl rfl (Nat.le_succ _)
  have g1 := good_allocN g0.st (Node.mk k name h.nextId attrs none [] [] none none 0)
    ⟨fun _ _ => nofun, fun _ _ => nofun, fun _ _ => nofun, fun _ _ => nofun⟩
  split
  · exact (g0.trans g1).trans (good_setValuesLits g1.st _ vals (s.future.1 _ (Nat.le_refl _)))
  · split
    · exact (g0.trans g1).trans (good_initRecord g1.st _ (s.future.1 _ (Nat.le_refl _)))
    · exact g0.trans g1

theorem good_fillAttr {R h} (s : St R h) (x t d k : Nat) (hx : R.n x) : Good R h (fillAttr h x t d k) := by
  unfold fillAttr
  split
  · rename_i v _ _
    have g1 := good_updN s x (fun n => { n with attrs := n.attrs.set k v }) hx (fun hn => nodeIn_data hn ..)
    exact g1.trans (good_updD g1.st _ _)
  · exact Good.refl s

theorem good_takeBack {R} (x : Nat) (hx : R.n x) : ∀ (l : List (Nat × String)) (h : H), St R h →
    Good R h (takeBack h x l) := by
  intro l
  induction l with
  | nil => intro h s; exact Good.refl s
  | cons kv rest ih =>
    intro h s
    obtain ⟨k, v⟩ := kv
    simp only [takeBack]
    split
    · have g1 := good_updN s x (fun n => { n with attrs := n.attrs.set k "None" }) hx (fun hn => nodeIn_data hn ..)
      exact g1.trans (ih _ g1.st)
    · exact ih _ s

theorem good_mergeAttrs {R h} (s : St R h) (x t : Nat) (record : Bool) (hx : R.n x) :
    Good R h (mergeAttrs h x t record) := by
  unfold mergeAttrs
  simp only
  have g1 := good_allocD s (recOf h x)
  have g2 := good_fillAttr g1.st x t (allocD h (recOf h x)).2 defAttr hx
  have g3 := good_fillAttr g2.st x t (allocD h (recOf h x)).2 refAttr hx
  have g13 := g1.trans (g2.trans g3)
  cases record with
  | false => simpa using g13
  | true =>
    simp only [if_true]
    have g4 := good_updN g13.st x (fun n => { n with mattrs := (allocD h (recOf h x)).2 }) hx
      (fun hn => nodeIn_data hn ..)
    have g5 := good_updN g4.st x (fun n => { n with merged := some t }) hx (fun hn => nodeIn_data hn ..)
    exact g13.trans (g4.trans g5)

theorem good_unmergeAttrs {R h} (s : St R h) (x : Nat) (hx : R.n x) : Good R h (unmergeAttrs h x) := by
  unfold unmergeAttrs
  simp only
  have g1 := good_takeBack x hx (recOf h x) h s
  have g2 := good_allocD g1.st []
  have g3 := good_updN g2.st x (fun n => { n with mattrs := (allocD (takeBack h x (recOf h x)) []).2 }) hx
    (fun hn => nodeIn_data hn ..)
  have g4 := good_updN g3.st x (fun n => { n with merged := none }) hx (fun hn => nodeIn_data hn ..)
  exact g1.trans (g2.trans (g3.trans g4))

theorem good_setChildList {R h} (s : St R h) (p : Nat) (b : Bool) (f : List Nat → List Nat) (hp : R.n p)
    (hf : ∀ l : List Nat, (∀ c, c ∈ l → R.n c) → ∀ c, c ∈ f l → R.n c) :
    Good R h (setChildList h p b f) := by
  unfold setChildList
  refine good_updN s p _ hp (fun hn => ?_)
  split
  · exact ⟨hn.1, fun k c hc => hf _ (hn.2.1 k) c hc, hn.2.2.1, hn.2.2.2⟩
  · exact ⟨hn.1, hn.2.1, fun k c hc => hf _ (hn.2.2.1 k) c hc, hn.2.2.2⟩

theorem good_removeChild {R h h'} (s : St R h) (q x : Nat) (hq : R.n q) (hx : R.n x)
    (hr : removeChild h q x = some h') : Good R h h' := by
  obtain ⟨i, rfl⟩ := removeChild_ok hr
  have g1 := good_setChildList s q ((h.node x).kind != .prop) (fun l => l.eraseIdx i) hq
    fun l hl c hc => hl c (List.mem_of_mem_eraseIdx hc)
  exact g1.trans (good_updN g1.st x _ hx fun hn => nodeIn_parent hn none nofun)

theorem setChildList_parent (h p b f a) : ((setChildList h p b f).node a).parent = (h.node a).parent :=
  setChildList_keeps Node.parent (fun _ _ => rfl) (fun _ _ => rfl) ..

theorem good_append {R h} (s : St R h) (p x : Nat) (hp : R.n p) (hx : R.n x) (hxl : x < h.nN) :
    Good R h (append h p x).1 :=
  append_cases (Good.refl s) fun ok h1 e => by
    subst e
    have g1 := good_setChildList s p ((h.node x).kind != .prop) (· ++ [x]) hp fun _ hl => forall_mem_snoc hl hx
    have setp : ∀ {k}, St R k → Good R k (updN k x fun n => { n with parent := some p }) :=
      fun s1 => good_updN s1 x _ hx fun hn => nodeIn_parent hn _ fun q hq => by cases hq; exact hp
    refine ⟨g1, g1.trans (setp g1.st), fun q h2 hpar hrm => ?_⟩
    -- the old parent `q` of `x` is in the region because `x` is
    have hq : R.n q := (g1.st.closed.1 x hx hxl).1 (by rw [setChildList_kind]; exact ok.1) q hpar
    have g2 := good_removeChild g1.st q x hq hx hrm
    exact g1.trans (g2.trans (setp g2.st))

end Clone
