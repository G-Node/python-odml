/-
M-Loader (C18): for caller programs without `refresh`, every key requested by a completed
`load` or `deferred_load` is in the table, or cannot be published (unfetchable, or an unparsable
template), or still has a loader thread; and a loader thread that has exited has published its
root key (or it cannot be published).  In a final state this gives "every requested resource is
loaded or failed".
-/
import OdmlModel.Proofs.LoaderProgress

namespace Loader

variable {g : Url → Res} {rank : Url → Nat} {cache0 : Url → CacheSt}

/-- The key is in the table, or can never be. -/
def Done (g : Url → Res) (sh : Shared) (k : Key) : Prop :=
  (sh.loaded k).isSome = true ∨ Unpub g k

def NoRefreshOp (op : Op) : Prop := ∀ k, op ≠ .refresh k

theorem done_mono {sh sh' : Shared} {k : Key}
    (hm : ∀ k v, sh.loaded k = some v → sh'.loaded k = some v) (h : Done g sh k) : Done g sh' k := by
  refine h.imp_left fun h => ?_
  obtain ⟨v, hv⟩ := Option.isSome_iff_exists.mp h
  rw [hm k v hv]
  rfl

section Transition
variable {sh sh' : Shared} {n : Nat} {f : Frame} {nx : Next} {sp : Option Key} {k : Key} {v : Val}
  {fs : List Frame}

theorem Top.ret_done (h : Top g sh n f sh' (.ret v) sp) (hnd : NotDefer f) : Done g sh' f.key := by
  rcases h.returns with ⟨_, hu | hd⟩ | hl
  · exact .inr hu
  · exact absurd hnd hd
  · exact .inl (by rw [hl]; rfl)

theorem Top.defer_known (h : Top g sh n (.defer k) sh' nx sp) :
    nx = .ret none ∧ ((sh'.loaded k).isSome ∨ (sh'.loading k).isSome) := by
  cases h
  case known hk => exact ⟨rfl, hk⟩
  case defer => exact ⟨rfl, .inr (by simp)⟩
  all_goals rename_i hb; rcases hb with hb | ⟨hb, _⟩ <;> cases hb

theorem Top.notClear (h : Top g sh n f sh' (.cont fs) sp) (hf : NotClear f) : ∀ x ∈ fs, NotClear x := by
  cases h
  case doc => exact List.forall_mem_singleton.2 (advance_body ..).notClear
  case last => exact List.forall_mem_singleton.2 (advance_body ..).notClear
  case clear => exact absurd rfl (hf _)
  case next => exact List.forall_mem_cons.2 ⟨nofun, List.forall_mem_singleton.2 nofun⟩
  case spawn => exact List.forall_mem_cons.2 ⟨nofun, List.forall_mem_singleton.2 nofun⟩
  all_goals exact List.forall_mem_singleton.2 nofun

end Transition

/-- For programs without `refresh`: no `clear` frame ever exists, so the table only grows. -/
structure Inv4 (g : Url → Res) (s : State) : Prop where
  progNR : ∀ op ∈ s.prog, NoRefreshOp op
  callerNC : ∀ f ∈ s.caller, NotClear f
  thrNC : ∀ th ∈ s.threads, ∀ f ∈ th.stack, NotClear f
  finished : ∀ th ∈ s.threads, th.stack = [] → Done g s.sh th.root
  resDone : ∀ r ∈ s.results, ∀ k, (r.op = .load k ∨ r.op = .deferred k) →
    Done g s.sh k ∨ ∃ t, ThrRef s.threads k t
  /-- while `deferred k` is in progress the caller's stack is the single frame `.defer k`, which
      returns in one step -/
  deferBot : ∀ k rest, s.prog = .deferred k :: rest → s.caller = [.defer k]

theorem notClear_opStack {ops : List Op} (hnr : ∀ op ∈ ops, NoRefreshOp op) :
    ∀ f ∈ opStack ops, NotClear f := by
  intro f hf
  obtain ⟨o, ho, rfl⟩ := mem_opStack.mp hf
  cases o with
  | refresh k => exact absurd rfl (hnr _ (List.mem_of_mem_head? ho) k)
  | _ => nofun

theorem deferBot_opStack (ops : List Op) (k : Key) (rest : List Op) (h : ops = .deferred k :: rest) :
    opStack ops = [.defer k] := by
  subst h; rfl

theorem init_inv4 (g : Url → Res) (cache0 : Url → CacheSt) (prog : List Op)
    (hnr : ∀ op ∈ prog, NoRefreshOp op) : Inv4 g (init cache0 prog) := by
  obtain ⟨b, e⟩ := init_eq cache0 prog
  rw [e]
  exact ⟨hnr, notClear_opStack hnr, List.forall_mem_nil _, List.forall_mem_nil _, List.forall_mem_nil _,
    deferBot_opStack prog⟩

theorem step_inv4 {s : State} (hacy : Acyclic g rank) (hi : Inv g rank cache0 s) (hp : ProgressInv s)
    (h4 : Inv4 g s) (t : Nat) : Inv4 g (step g s t) := by
  -- everything except `deferBot`, for the state before the caller's bookkeeping
  have hmid : ∀ {f rest sh' nx sp st b}, stackOf s t = f :: rest →
      Top g s.sh (s.threads.length + 1) f sh' nx sp → Applied nx rest st b →
      AllStacks (fun r st' => (∀ x ∈ st', NotClear x) ∧ ∀ k, r = some k → st' = [] → Done g sh' k)
        (mid s sh' t st sp) ∧
      ∀ r ∈ s.results, ∀ k, (r.op = .load k ∨ r.op = .deferred k) →
        Done g sh' k ∨ ∃ j, ThrRef (mid s sh' t st sp).threads k j := by
    intro f rest sh' nx sp st b hstk h ha
    have hall : AllStacks (fun r st' => ((∀ x ∈ st', NotClear x) ∧ ∀ k, r = some k → st' = [] → Done g s.sh k) ∧
        ∀ k, r = some k → BodyBot st' k) s :=
      ⟨⟨⟨h4.callerNC, nofun⟩, nofun⟩, fun th hth => ⟨⟨h4.thrNC th hth, fun k hk he => by
        cases hk; exact h4.finished th hth he⟩, (hp.stacks.2 th hth).2⟩⟩
    obtain ⟨_, ⟨hnc, _⟩, _⟩ := hall.pick hstk
    have hmono := fun k v => h.mono (hnc f (List.mem_cons_self ..)) (k := k) (v := v)
    refine ⟨hall.to_mid hstk (fun r st' hq => ⟨hq.1.1, fun k hk he => done_mono hmono (hq.1.2 k hk he)⟩)
      (fun r hq => ⟨?_, fun k hk he => ?_⟩) fun k _ => ⟨List.forall_mem_singleton.2 nofun, nofun⟩, fun r hr k hk => ?_⟩
    · exact ha.forall_mem (fun fs e => by subst e; exact h.notClear (hq.1.1 f (List.mem_cons_self ..)))
        (fun k todo acc id => (advance_body k todo acc id).notClear) fun x hx => hq.1.1 x (List.mem_cons_of_mem _ hx)
    · -- the picked thread has exited: its bottom frame returned
      cases ha with
      | exit =>
        obtain ⟨hk1, hb⟩ := hq.2 k hk f rfl
        exact hk1 ▸ h.ret_done hb.notDefer
      | cont => exact absurd he (Applied.ne_nil h .cont)
      | deliver => cases he
    · rcases h4.resDone r hr k hk with h1 | ⟨j, h1⟩
      · exact .inl (done_mono hmono h1)
      · exact .inr ⟨j, thrRef_after t st sp h1⟩
  refine hi.step_cases t (fun _ => h4) ?_ ?_
  · intro f rest sh' nx sp st b hstk h ha hb
    obtain ⟨hs, hr⟩ := hmid hstk h ha
    refine ⟨h4.progNR, hs.1.1, fun th hth => (hs.2 th hth).1, fun th hth => (hs.2 th hth).2 _ rfl, hr,
      fun k r hpr => ?_⟩
    cases t with
    | succ i => exact h4.deferBot k r hpr
    | zero =>
      -- the caller's `deferred_load` frame returns at once
      have hc : s.caller = f :: rest := hstk
      rw [h4.deferBot k r hpr] at hc
      cases hc
      cases h.defer_known.1
      cases ha
      cases hb rfl
  · intro f sh' v sp op ops ht hc hpr hk h
    subst ht
    have hstk : stackOf s 0 = [f] := hc
    obtain ⟨hs, hr⟩ := hmid hstk h .exit
    have hq := hp.toRefsInv.to_mid hacy hi hstk h .exit
    have hnr : ∀ o ∈ ops, NoRefreshOp o := fun o ho => h4.progNR o (by simp [hpr, ho])
    obtain ⟨b, e⟩ := finishOp_eq (s := mid s sh' 0 [] sp) hpr v
    rw [e]
    refine ⟨hnr, notClear_opStack hnr, fun th hth => (hs.2 th hth).1,
      fun th hth => (hs.2 th hth).2 _ rfl, ?_, deferBot_opStack ops⟩
    intro r hr' k hk'
    rcases List.mem_cons.mp hr' with rfl | hr'
    · rcases hk' with rfl | rfl
      · -- a completed `load k`
        exact .inl ((hk k rfl).1 ▸ h.ret_done (hk k rfl).2)
      · -- a completed `deferred_load k`
        rw [h4.deferBot k ops hpr] at hc
        cases hc
        rcases h.defer_known.2 with h3 | h3
        · exact .inl (.inl h3)
        · obtain ⟨j, hl⟩ := Option.isSome_iff_exists.mp h3
          exact .inr ⟨j, hq.loadingThr k j hl⟩
    · exact hr r hr' k hk'

theorem Inv4.done_of_allDone {s : State} (h4 : Inv4 g s) (hd : allDone s = true) {r : Result}
    (hr : r ∈ s.results) {k : Key} (hop : r.op = .load k ∨ r.op = .deferred k) : Done g s.sh k := by
  rcases h4.resDone r hr k hop with h1 | ⟨t, h1⟩
  · exact h1
  · obtain ⟨i, th, _, hth, rfl⟩ := thrRef_get h1
    have hmem := List.mem_of_getElem? hth
    exact h4.finished th hmem ((allDone_iff.1 hd).2.2 th hmem)

theorem runSched_inv4 (hacy : Acyclic g rank) (sched : List Nat) :
    ∀ s, Inv g rank cache0 s → ProgressInv s → Inv4 g s → Inv4 g (runSched g s sched) := by
  induction sched with
  | nil => exact fun s _ _ h4 => h4
  | cons t ts ih =>
    exact fun s hi hp h4 => ih _ (step_inv hacy hi t) (step_progressInv hacy hi hp t) (step_inv4 hacy hi hp h4 t)

end Loader
