/-
Refusals of the compound operations of `Model/HeapExt.lean` (property C06).

What is raised in front of an operation - by the guards of `stepX` (a handle that is no
object, an object of the wrong kind) and by the two pre-checks of `_merge` (`merge_check`,
`_merge_name_check`) - comes with the state the operation was given, for every state.
-/
import OdmlModel.Proofs.HeapExtCount

namespace Heap

/-- The state an operation of a history starts from: the scratch component is reset. -/
def X.start (s : X) : X := { s with orig := id }

@[simp] theorem start_h (s : X) : s.start.h = s.h := rfl
@[simp] theorem start_merged (s : X) : s.start.merged = s.merged := rfl
@[simp] theorem start_link (s : X) : s.start.link = s.link := rfl

end Heap

namespace Heap.Refuse

/-- The answer is not an exception: `.ok`, or the budget of the model is used up. -/
def Calm (o : XOut) : Prop := o = .ok ∨ o = .fuel

theorem andThen_calm {α β : Type} {a : α × XOut} {k : α → β × XOut} {g : α → β}
    (ha : Calm a.2) (hk : a.2 = .ok → Calm (k a.1).2) : Calm (andThen a k g).2 :=
  andThen_cases (R := fun r => Calm r.2) hk fun hne => Or.inr (ha.resolve_left hne)

theorem andThen_safe {α β : Type} {Q : β → Prop} {a : α × XOut} {k : α → β × XOut} {g : α → β}
    (ha : Calm a.2) (hk : a.2 = .ok → Q (k a.1).1 ∧ Calm (k a.1).2) (hg : Q (g a.1)) :
    Q (andThen a k g).1 ∧ Calm (andThen a k g).2 :=
  andThen_cases (R := fun r => Q r.1 ∧ Calm r.2) hk fun hne => ⟨hg, Or.inr (ha.resolve_left hne)⟩

theorem stepX_merge_eq {fuel : Nat} {s : X} {O : Oracle} {dest src : Nat}
    (hok : dest < s.h.size ∧ src < s.h.size ∧ (s.h.node dest).kind = .sec ∧
      (s.h.node src).kind = .sec) :
    stepX fuel s O (.merge dest src) = mergePub O fuel s.start dest src := by
  rw [stepX_merge, if_neg (by simp [hok.1, hok.2.1]),
    if_neg (fun h => h.elim (· hok.2.2.1) (· hok.2.2.2))]
  rfl

theorem stepX_merge_bad_args {fuel : Nat} {s : X} {O : Oracle} {dest src : Nat}
    (hbad : ¬ (dest < s.h.size ∧ src < s.h.size ∧ (s.h.node dest).kind = .sec ∧
      (s.h.node src).kind = .sec)) :
    ∃ e, stepX fuel s O (.merge dest src) = (s.start, .raised e) := by
  rw [stepX_merge]
  split
  · exact ⟨_, rfl⟩
  · rename_i hg
    split
    · exact ⟨_, rfl⟩
    · rename_i hk
      exact absurd ⟨lt_of_not_any hg List.mem_cons_self,
        lt_of_not_any hg (List.mem_cons_of_mem _ List.mem_cons_self),
        (not_or.mp hk).imp Decidable.of_not_not Decidable.of_not_not⟩ hbad

theorem stepX_setLink_eq {fuel : Nat} {s : X} {O : Oracle} {x : Nat} {v : LinkVal}
    (hok : (∀ i ∈ (XOp.setLink x v).handles, i < s.h.size) ∧ (s.h.node x).kind = .sec) :
    stepX fuel s O (.setLink x v) = setLinkAux O fuel s.start x v := by
  rw [stepX_setLink, if_neg, if_neg (not_not_intro hok.2)]
  · rfl
  · rw [List.any_eq_true]
    exact fun ⟨i, hi, hge⟩ => Nat.not_le.mpr (hok.1 i hi) (of_decide_eq_true hge)

theorem stepX_setLink_bad_args {fuel : Nat} {s : X} {O : Oracle} {x : Nat} {v : LinkVal}
    (hbad : ¬ ((∀ i ∈ (XOp.setLink x v).handles, i < s.h.size) ∧ (s.h.node x).kind = .sec)) :
    ∃ e, stepX fuel s O (.setLink x v) = (s.start, .raised e) := by
  rw [stepX_setLink]
  split
  · exact ⟨_, rfl⟩
  · rename_i hg
    exact ⟨_, if_pos (fun hk => hbad ⟨fun i hi => lt_of_not_any hg hi, hk⟩)⟩

theorem guard_start {c : Prop} [Decidable c] {s : X} {e e' : Exc} {r : X × XOut}
    (hr : (if c then (s, .raised e) else r).2 = .raised e')
    (h : ¬ c → r.2 = .raised e' → r.1 = s) : (if c then (s, .raised e) else r).1 = s := by
  split
  · rfl
  · rename_i hc; rw [if_neg hc] at hr; exact h hc hr

theorem prim_refused {s : X} (w : WF s.h) {p : Op} {e : Exc} (hr : (s.prim p).2 = .raised e) :
    (s.prim p).1 = s := by
  have h2 : (step s.h p).2 = .raised e := by
    revert hr
    unfold X.prim
    cases (step s.h p).2 with
    | ok => exact nofun
    | raised e' => exact fun h => by cases h; rfl
  unfold X.prim
  rw [step_refused w h2]

theorem mergeAux_refused {O : Oracle} {fuel : Nat} {s : X} {record : Bool} {dest src : Nat}
    (h : mergeCheck O fuel s dest src = some false ∨
      mergeCheck O fuel s dest src = some true ∧ nameCheck O fuel s dest src = some false) :
    mergeAux O (fuel + 1) s record dest src = (s, .raised .valueError) := by
  rcases h with h | ⟨h1, h2⟩
  · simp only [mergeAux, h]
  · simp only [mergeAux, h1, h2]

theorem apart_of_cycleCheck {h : H} {a b : Nat} (h1 : cycleCheck h a b = false)
    (h2 : cycleCheck h b a = false) : apart h a b = true := by
  rw [apart, h1, h2]; rfl

end Heap.Refuse
