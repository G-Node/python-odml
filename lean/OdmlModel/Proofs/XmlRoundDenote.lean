/-
Whole-document XML round trip: `xml_denote` — the reader against an independent,
loop-free denotation of conformant odML-XML (a tree written by another tool: elements in any
order, tags in any letter case).

Definitions (the vocabulary of the theorem): `leafArg` (the constructor argument an element's text
stands for), `leafArgs` (the arguments by look-up), `kidsKnown`, `argsOK`, `namesFree`
(conformance), `denoteProp`, `denoteSec` / `denoteSecs` (structural over the tree), `denote`.
The constructors `createProp / createSec / createDoc` are shared with the reader model: what is
independent is everything `parse_tag` does around them (attribute loop, node loop with its state,
"given multiple times", foreign elements, `extra_args`, mandatory arguments, `append`).
-/
import OdmlModel.Proofs.XmlRoundTree

namespace Xml
open Py Py.Csv

def X.tag : X → String | .elem t _ _ _ => t
def X.attrs : X → List (String × Str) | .elem _ a _ _ => a
def X.text : X → Option Str | .elem _ _ t _ => t
def X.kids : X → List X | .elem _ _ _ k => k

/-- the tag as the reader sees it (`node.tag.lower()`) -/
def ltag (x : X) : String := lowerS x.tag

/-- The constructor argument an element with argument name `py` and text `text` stands for
    (`none`: the text of a `<value>` is not csv). -/
def leafArg (py : String) (text : Option Str) : Option ArgV :=
  let cur : Option Str := match text with
    | none => none
    | some s => if s.isEmpty then none else some (strip s)
  let truthy := match cur with
    | some s => !s.isEmpty
    | none => false
  if py == "values" && truthy then
    match fromCsv (text.getD []) with
    | .ok vs => some (.vals vs)
    | .error _ => none
  else if "_cardinality".toList.isSuffixOf py.toList && truthy then
    some (.card (Card.parseCardText (text.getD [])))
  else some (.text cur)

/-- elements that are objects of their own under a parent of kind `κ` -/
def isChild (κ : Kind) (t : String) : Bool :=
  readerTags.contains t && (fmtOf κ).mapKeys.contains t

/-- the argument name of an element under a parent of kind `κ` -/
def argName (κ : Kind) (x : X) : String := (fmtOf κ).pyName (ltag x)

/-- the constructor arguments given by the leaf elements (look-up table, document order) -/
def leafArgs (κ : Kind) : List X → Option Args
  | [] => some []
  | x :: xs =>
    if isChild κ (ltag x) then leafArgs κ xs
    else match leafArg (argName κ x) x.text, leafArgs κ xs with
      | some v, some a => some ((argName κ x, v) :: a)
      | _, _ => none

/-- the names of `extra_args`: one per child element -/
def childNames (κ : Kind) : List X → List String
  | [] => []
  | x :: xs => if isChild κ (ltag x) then argName κ x :: childNames κ xs else childNames κ xs

/-- every element is a known key of the class; child elements are Sections or Properties -/
def kidsKnown (κ : Kind) (kids : List X) : Bool :=
  kids.all fun x => (fmtOf κ).keys.contains (ltag x) &&
    (!isChild κ (ltag x) || ltag x == Gen.Format.sectionName || ltag x == Gen.Format.propertyName)

/-- every mandatory argument of the class is there -/
def mandOK (κ : Kind) (a : Args) (kids : List X) : Bool :=
  (fmtOf κ).args.all fun kr =>
    kr.2 == 0 || (a.map (·.1) ++ childNames κ kids).contains ((fmtOf κ).pyName kr.1)

/-- no child would be refused by `SmartList.append` -/
def namesFree (names : List (Option Str)) : Bool := decide (names.filter Option.isSome).Nodup

def argsOK (κ : Kind) (a : Args) (kids : List X) : Bool :=
  decide (a.map (·.1)).Nodup && mandOK κ a kids

/-- the Property an element describes -/
def denoteProp (lib : TokLib) : X → Option PropT
  | .elem _ attrs _ kids =>
    if attrs.isEmpty && kidsKnown .prop kids then
      match leafArgs .prop kids with
      | some a =>
        if argsOK .prop a kids then
          match createProp lib a with
          | .ok p => some p
          | .error _ => none
        else none
      | none => none
    else none

/-- the Properties among the children, in order -/
def denoteProps (lib : TokLib) (κ : Kind) : List X → Option (List PropT)
  | [] => some []
  | x :: xs =>
    if isChild κ (ltag x) && ltag x != Gen.Format.sectionName then
      match denoteProp lib x, denoteProps lib κ xs with
      | some p, some ps => some (p :: ps)
      | _, _ => none
    else denoteProps lib κ xs

mutual
/-- the Section an element describes -/
def denoteSec (lib : TokLib) : X → Option SecT
  | .elem _ attrs _ kids =>
    if attrs.isEmpty && kidsKnown .sec kids then
      match leafArgs .sec kids, denoteSecs lib .sec kids, denoteProps lib .sec kids with
      | some a, some ss, some ps =>
        if argsOK .sec a kids && namesFree (ss.map SecT.effName) && namesFree (ps.map PropT.effName) then
          match createSec a with
          | .ok (.mk i n t d r l rp inc _ _ sc pc) => some (.mk i n t d r l rp inc ss ps sc pc)
          | .error _ => none
        else none
      | _, _, _ => none
    else none
/-- the Sections among the children, in order -/
def denoteSecs (lib : TokLib) (κ : Kind) : List X → Option (List SecT)
  | [] => some []
  | x :: xs =>
    if isChild κ (ltag x) && ltag x == Gen.Format.sectionName then
      match denoteSec lib x, denoteSecs lib κ xs with
      | some s, some ss => some (s :: ss)
      | _, _ => none
    else denoteSecs lib κ xs
end

/-- **The document a conformant odML-XML tree describes**, by look-up: elements in any order,
    tags in any letter case; `none` when the tree is not conformant (wrong root / version, foreign
    attribute or element, an argument given twice, a mandatory argument missing, a text its dtype
    or cardinality does not accept, sibling names that clash). -/
def denote (lib : TokLib) (x : X) : Option DocT :=
  match x with
  | .elem tag attrs _ kids =>
    if tag == "odML" && attrs.lookup "version" == some Gen.Format.formatVersion.toList &&
       attrs.all (fun kv => lowerS kv.1 == "version") && kidsKnown .doc kids then
      match leafArgs .doc kids, denoteSecs lib .doc kids with
      | some a, some ss =>
        if argsOK .doc a kids && namesFree (ss.map SecT.effName) then
          match createDoc lib a with
          | .ok d => some { d with secs := ss }
          | .error _ => none
        else none
      | _, _ => none
    else none

/-- what the child elements `kids` of a `κ` element denote: all known, the leaves give the
    arguments `a`, the children are the Sections `ss` and the Properties `ps` -/
structure Den (lib : TokLib) (κ : Kind) (kids : List X) (a : Args) (ss : List SecT)
    (ps : List PropT) : Prop where
  known : kidsKnown κ kids = true
  args : leafArgs κ kids = some a
  secs : denoteSecs lib κ kids = some ss
  props : denoteProps lib κ kids = some ps

theorem leafStep_leafArg (m : Mode) (f : Fmt) (t : String) (text : Option Str) (st : PT) (v : ArgV)
    (hn : st.args.lookup (f.pyName t) = none) (h : leafArg (f.pyName t) text = some v) :
    leafStep m f t text st = .ok { st with args := (f.pyName t, v) :: st.args } := by
  unfold leafArg at h
  unfold leafStep
  simp only [hn, Option.isSome_none, Bool.false_eq_true, if_false]
  -- the two functions branch on the same two tests
  extract_lets cur truthy at h
  split at h
  · rename_i hc
    refine (if_pos hc).trans ?_
    split at h
    · rename_i hcsv; cases h; simp only [hcsv]
    · cases h
  · rename_i hc
    refine (if_neg hc).trans ?_
    split at h <;> rename_i hc' <;> cases h
    · exact if_pos hc'
    · exact if_neg hc'

theorem lookup_reverse_nodup {β} (l : List (String × β)) (h : (l.map (·.1)).Nodup) (n : String) :
    l.reverse.lookup n = l.lookup n := by
  cases hl : l.lookup n with
  | some v =>
    obtain ⟨l₁, l₂, rfl, _⟩ := List.lookup_eq_some_iff.mp hl
    refine lookup_of_mem_nodup _ _ _ ?_ (by simp)
    rw [List.map_reverse, List.Nodup, List.pairwise_reverse]
    exact h.imp Ne.symm
  | none =>
    rw [List.lookup_eq_none_iff] at hl ⊢
    simpa using hl

theorem getText_congr (a b : Args) (h : ∀ n, a.lookup n = b.lookup n) (n : String) :
    getText a n = getText b n := by simp only [getText, h]
theorem loadCard_congr (a b : Args) (h : ∀ n, a.lookup n = b.lookup n) (n : String) :
    loadCard a n = loadCard b n := by simp only [loadCard, h]
theorem createProp_congr (lib : TokLib) (a b : Args) (h : ∀ n, a.lookup n = b.lookup n) :
    createProp lib a = createProp lib b := by
  unfold createProp
  simp only [getText_congr a b h, loadCard_congr a b h, h]

theorem createSec_congr (a b : Args) (h : ∀ n, a.lookup n = b.lookup n) :
    createSec a = createSec b := by
  unfold createSec
  simp only [getText_congr a b h, loadCard_congr a b h, h]

theorem createDoc_congr (lib : TokLib) (a b : Args) (h : ∀ n, a.lookup n = b.lookup n) :
    createDoc lib a = createDoc lib b := by
  unfold createDoc
  simp only [getText_congr a b h]

theorem isChild_prop (t : String) : isChild .prop t = false := by
  have h : ∀ t ∈ readerTags, (fmtOf .prop).mapKeys.contains t = false := by decide
  cases hr : readerTags.contains t with
  | false => simp only [isChild, hr, Bool.false_and]
  | true => simp only [isChild, hr, h t (List.contains_iff_mem.mp hr), Bool.and_false]

theorem isChild_doc (t : String) (h : isChild .doc t = true) : t = Gen.Format.sectionName := by
  have ht : ∀ t ∈ readerTags, (fmtOf .doc).mapKeys.contains t = true → t = Gen.Format.sectionName := by
    decide
  simp only [isChild, Bool.and_eq_true] at h
  exact ht t (List.contains_iff_mem.mp h.1) h.2

theorem denoteProps_nil (lib : TokLib) (κ : Kind)
    (h : ∀ t, isChild κ t = true → t = Gen.Format.sectionName) :
    ∀ kids : List X, denoteProps lib κ kids = some []
  | [] => rfl
  | x :: xs => by
    rw [denoteProps, denoteProps_nil lib κ h xs]
    by_cases hc : isChild κ (ltag x) = true
    · simp [h _ hc]
    · simp [hc]

theorem denoteSecs_prop (lib : TokLib) : ∀ kids : List X, denoteSecs lib .prop kids = some []
  | [] => rfl
  | x :: xs => by rw [denoteSecs]; simp [isChild_prop, denoteSecs_prop lib xs]

theorem Den.iff {lib : TokLib} {κ : Kind} {kids : List X} {a : Args} {ss : List SecT} {ps : List PropT} :
    Den lib κ kids a ss ps ↔ kidsKnown κ kids = true ∧ leafArgs κ kids = some a ∧
      denoteSecs lib κ kids = some ss ∧ denoteProps lib κ kids = some ps :=
  ⟨fun ⟨a, b, c, d⟩ => ⟨a, b, c, d⟩, fun ⟨a, b, c, d⟩ => ⟨a, b, c, d⟩⟩

theorem Den.leaf_iff {lib : TokLib} {κ : Kind} {x : X} {xs : List X} {a : Args} {ss : List SecT}
    {ps : List PropT} (hch : isChild κ (ltag x) = false) :
    Den lib κ (x :: xs) a ss ps ↔ (fmtOf κ).keys.contains (ltag x) = true ∧
      ∃ v a', leafArg (argName κ x) x.text = some v ∧ a = (argName κ x, v) :: a' ∧
        Den lib κ xs a' ss ps := by
  simp only [Den.iff, kidsKnown, List.all_cons, leafArgs, denoteSecs, denoteProps, hch,
    Bool.not_false, Bool.true_or, Bool.and_true, Bool.false_and, Bool.false_eq_true, if_false,
    Bool.and_eq_true]
  constructor
  · rintro ⟨⟨hkey, hk⟩, ha, hs, hp⟩
    split at ha <;> cases ha
    exact ⟨hkey, _, _, ‹_›, rfl, hk, ‹_›, hs, hp⟩
  · rintro ⟨hkey, v, a', hv, rfl, hk, ha, hs, hp⟩
    exact ⟨⟨hkey, hk⟩, by rw [hv, ha], hs, hp⟩

theorem Den.sec_iff {lib : TokLib} {κ : Kind} {x : X} {xs : List X} {a : Args} {ss : List SecT}
    {ps : List PropT} (hch : isChild κ (ltag x) = true) (ht : ltag x = Gen.Format.sectionName) :
    Den lib κ (x :: xs) a ss ps ↔ (fmtOf κ).keys.contains (ltag x) = true ∧
      ∃ s ss', denoteSec lib x = some s ∧ ss = s :: ss' ∧ Den lib κ xs a ss' ps := by
  rw [ht] at hch
  simp only [Den.iff, kidsKnown, List.all_cons, leafArgs, denoteSecs, denoteProps, ht, hch,
    beq_self_eq_true, bne_self_eq_false, Bool.or_true, Bool.true_or, Bool.and_true, Bool.and_self,
    Bool.and_false, Bool.false_eq_true, if_true, if_false, Bool.and_eq_true]
  constructor
  · rintro ⟨⟨hkey, hk⟩, ha, hs, hp⟩
    split at hs <;> cases hs
    exact ⟨hkey, _, _, ‹_›, rfl, hk, ha, ‹_›, hp⟩
  · rintro ⟨hkey, s, ss', hs, rfl, hk, ha, hss, hp⟩
    exact ⟨⟨hkey, hk⟩, ha, by rw [hs, hss], hp⟩

theorem Den.prop_iff {lib : TokLib} {κ : Kind} {x : X} {xs : List X} {a : Args} {ss : List SecT}
    {ps : List PropT} (hch : isChild κ (ltag x) = true) (ht : ltag x = Gen.Format.propertyName) :
    Den lib κ (x :: xs) a ss ps ↔ (fmtOf κ).keys.contains (ltag x) = true ∧
      ∃ p ps', denoteProp lib x = some p ∧ ps = p :: ps' ∧ Den lib κ xs a ss ps' := by
  have hne : (Gen.Format.propertyName == Gen.Format.sectionName) = false := by decide
  rw [ht] at hch
  simp only [Den.iff, kidsKnown, List.all_cons, leafArgs, denoteSecs, denoteProps, ht, hch, hne, bne,
    beq_self_eq_true, Bool.not_false, Bool.or_true, Bool.and_true, Bool.and_self,
    Bool.and_false, Bool.false_eq_true, if_true, if_false, Bool.and_eq_true]
  constructor
  · rintro ⟨⟨hkey, hk⟩, ha, hs, hp⟩
    split at hp <;> cases hp
    exact ⟨hkey, _, _, ‹_›, rfl, hk, ha, hs, ‹_›⟩
  · rintro ⟨hkey, p, ps', hp, rfl, hk, ha, hs, hps⟩
    exact ⟨⟨hkey, hk⟩, ha, hs, by rw [hp, hps]⟩

/-- **The node loop against the look-up denotation**, for any kind of parent. -/
theorem readKids_denote (m : Mode) (lib : TokLib) (κ : Kind) (tag : String) :
    ∀ (kids : List X) (st : PT) (a : Args) (ss : List SecT) (ps : List PropT),
      Den lib κ kids a ss ps → (a.map (·.1)).Nodup → (∀ n ∈ a.map (·.1), st.args.lookup n = none) →
      (∀ x ∈ kids, isChild κ (ltag x) = true → ∀ s, denoteSec lib x = some s → ∀ tag w,
        readTag m lib .sec tag x w = .ok (.sec s, w)) →
      (∀ x ∈ kids, isChild κ (ltag x) = true → ∀ p, denoteProp lib x = some p → ∀ tag w,
        readTag m lib .prop tag x w = .ok (.prop p, w)) →
      readKids m lib κ tag kids st =
        .ok { args := a.reverse ++ st.args, extra := (childNames κ kids).reverse ++ st.extra,
              secs := st.secs ++ ss, props := st.props ++ ps, warns := st.warns } := by
  intro kids
  induction kids with
  | nil =>
    intro st a ss ps ⟨_, ha, hs, hp⟩ _ _ _ _
    simp only [leafArgs, denoteSecs, denoteProps, Option.some.injEq] at ha hs hp
    subst ha; subst hs; subst hp
    simp [readKids, childNames]
  | cons x xs ih =>
    intro st a ss ps h hnd hfree Hs Hp
    have Hs' := fun y hy => Hs y (List.mem_cons_of_mem _ hy)
    have Hp' := fun y hy => Hp y (List.mem_cons_of_mem _ hy)
    have hk := h.known
    simp only [kidsKnown, List.all_cons, Bool.and_eq_true] at hk
    obtain ⟨t, attrs, text, ks⟩ := x
    have hlt : ltag (.elem t attrs text ks) = lowerS t := rfl
    rw [readKids.eq_2]
    simp only [← hlt, hk.1.1, if_true]
    cases hc : isChild κ (ltag (.elem t attrs text ks)) with
    | false =>
      obtain ⟨_, v, a', hv, rfl, hd⟩ := (Den.leaf_iff hc).mp h
      simp only [List.map_cons, List.nodup_cons] at hnd
      simp only [show (readerTags.contains _ && _) = false from hc, Bool.false_eq_true, if_false]
      rw [leafStep_leafArg m (fmtOf κ) _ text st v (hfree _ (by simp [argName])) hv]
      simp only
      rw [ih ⟨_ :: st.args, st.extra, st.secs, st.props, st.warns⟩ a' ss ps hd hnd.2 _ Hs' Hp']
      · simp [childNames, hc, argName]
      · intro n hn
        have hne : n ≠ (fmtOf κ).pyName (ltag (.elem t attrs text ks)) := by
          rintro rfl; exact hnd.1 hn
        have : (n == (fmtOf κ).pyName (ltag (.elem t attrs text ks))) = false := by simpa using hne
        simp only [List.lookup, this]
        exact hfree n (by simp [hn])
    | true =>
      simp only [show (readerTags.contains _ && _) = true from hc, if_true]
      by_cases hsec : ltag (.elem t attrs text ks) = Gen.Format.sectionName
      · obtain ⟨_, s, ss', hds, rfl, hd⟩ := (Den.sec_iff hc hsec).mp h
        have hkt : kindOfTag (ltag (.elem t attrs text ks)) = .sec := by simp [kindOfTag, hsec]
        rw [hkt, Hs _ (List.mem_cons_self ..) hc s hds]
        simp only
        rw [ih ⟨st.args, _ :: st.extra, st.secs ++ [s], st.props, st.warns⟩ a ss' ps hd hnd hfree
          Hs' Hp']
        simp [childNames, hc, argName]
      · have hprop : ltag (.elem t attrs text ks) = Gen.Format.propertyName := by
          simpa [hc, hsec] using hk.1.2
        obtain ⟨_, p, ps', hdp, rfl, hd⟩ := (Den.prop_iff hc hprop).mp h
        have hkt : kindOfTag (ltag (.elem t attrs text ks)) = .prop := by rw [hprop]; decide
        rw [hkt, Hp _ (List.mem_cons_self ..) hc p hdp]
        simp only
        rw [ih ⟨st.args, _ :: st.extra, st.secs, st.props ++ [p], st.warns⟩ a ss ps' hd hnd hfree
          Hs' Hp']
        simp [childNames, hc, argName]

theorem readKids_denote_nil (m : Mode) (lib : TokLib) (κ : Kind) (tag : String) (kids : List X)
    (w : Nat) (a : Args) (ss : List SecT) (ps : List PropT) (h : Den lib κ kids a ss ps)
    (hnd : (a.map (·.1)).Nodup)
    (Hs : ∀ x ∈ kids, isChild κ (ltag x) = true → ∀ s, denoteSec lib x = some s → ∀ tag w,
      readTag m lib .sec tag x w = .ok (.sec s, w))
    (Hp : ∀ x ∈ kids, isChild κ (ltag x) = true → ∀ p, denoteProp lib x = some p → ∀ tag w,
      readTag m lib .prop tag x w = .ok (.prop p, w)) :
    readKids m lib κ tag kids ⟨[], [], [], [], w⟩ =
      .ok ⟨a.reverse, (childNames κ kids).reverse, ss, ps, w⟩ := by
  simpa using readKids_denote m lib κ tag kids ⟨[], [], [], [], w⟩ a ss ps h hnd (fun _ _ => rfl) Hs Hp

theorem name_free {α} (f : α → Option Str) (h : List α) (c : α) (cs : List α)
    (hn : namesFree ((h ++ c :: cs).map f) = true) :
    ((f c).isSome && (h.map f).contains (f c)) = false := by
  cases hs : (f c).isSome with
  | false => rfl
  | true =>
    simp only [Bool.true_and, List.contains_eq_mem, decide_eq_false_iff_not]
    intro hm
    simp only [namesFree, decide_eq_true_eq, List.map_append, List.map_cons,
      List.filter_append, List.filter_cons, hs, if_true] at hn
    exact (List.nodup_append.mp hn).2.2 _ (List.mem_filter.mpr ⟨hm, hs⟩) _ (by simp) rfl

theorem appendSecs_free (m : Mode) : ∀ (cs have_ : List SecT) (w : Nat),
    namesFree ((have_ ++ cs).map SecT.effName) = true →
    appendSecs m have_ cs w = .ok (have_ ++ cs, w)
  | [], h, w, _ => by simp [appendSecs]
  | c :: cs, h, w, hn => by
    rw [appendSecs]
    simp only [name_free SecT.effName h c cs hn, Bool.false_eq_true, if_false,
      appendSecs_free m cs (h ++ [c]) w (by simpa using hn), List.append_assoc,
      List.singleton_append]

theorem appendProps_free (m : Mode) : ∀ (cs have_ : List PropT) (w : Nat),
    namesFree ((have_ ++ cs).map PropT.effName) = true →
    appendProps m have_ cs w = .ok (have_ ++ cs, w)
  | [], h, w, _ => by simp [appendProps]
  | c :: cs, h, w, hn => by
    rw [appendProps]
    simp only [name_free PropT.effName h c cs hn, Bool.false_eq_true, if_false,
      appendProps_free m cs (h ++ [c]) w (by simpa using hn), List.append_assoc,
      List.singleton_append]

theorem mandatory_of_mandOK (m : Mode) (κ : Kind) (a : Args) (kids : List X) (w : Nat)
    (h : mandOK κ a kids = true) :
    mandatoryLoop m (fmtOf κ) (a.reverse.map (·.1) ++ (childNames κ kids).reverse) (fmtOf κ).args w =
      .ok w := by
  apply mandatory_ok
  intro kr hkr hreq
  have := List.all_eq_true.mp h kr hkr
  simp only [Bool.or_eq_true, beq_iff_eq, hreq, false_or, List.contains_eq_mem, decide_eq_true_eq,
    List.mem_append] at this
  rcases this with hm | hm <;> simp [hm]

/-- **A conformant Property element** is read as the Property it denotes, no warning. -/
theorem prop_denote (m : Mode) (lib : TokLib) (x : X) (p : PropT) (h : denoteProp lib x = some p)
    (tag : String) (w : Nat) : readTag m lib .prop tag x w = .ok (.prop p, w) := by
  obtain ⟨t, attrs, text, kids⟩ := x
  simp only [denoteProp] at h
  -- `h` is unpacked along the tests of the denotation; every failing branch is `none = some p`
  split at h <;> try cases h
  rename_i hc
  split at h <;> try cases h
  rename_i a ha
  split at h <;> try cases h
  rename_i hok
  split at h <;> cases h
  rename_i hcr
  simp only [Bool.and_eq_true, List.isEmpty_iff] at hc
  obtain ⟨rfl, hknown⟩ := hc
  simp only [argsOK, Bool.and_eq_true, decide_eq_true_eq] at hok
  have hkids := readKids_denote_nil m lib .prop tag kids w a [] []
    ⟨hknown, ha, denoteSecs_prop lib kids,
      denoteProps_nil lib .prop (fun t ht => by rw [isChild_prop] at ht; cases ht) kids⟩
    hok.1
    (fun y _ hy => by rw [isChild_prop] at hy; cases hy)
    (fun y _ hy => by rw [isChild_prop] at hy; cases hy)
  rw [readTag.eq_1]
  simp only [attrLoop, hkids, mandatory_of_mandOK m .prop a kids w hok.2]
  rw [createProp_congr lib _ a (lookup_reverse_nodup a hok.1), hcr]

theorem sec_denote_core (m : Mode) (lib : TokLib) (t : String) (attrs : List (String × Str))
    (text : Option Str) (kids : List X)
    (Hkids : ∀ y ∈ kids, ∀ s, denoteSec lib y = some s → ∀ tag w,
      readTag m lib .sec tag y w = .ok (.sec s, w))
    (s : SecT) (h : denoteSec lib (.elem t attrs text kids) = some s) (tag : String) (w : Nat) :
    readTag m lib .sec tag (.elem t attrs text kids) w = .ok (.sec s, w) := by
  rw [denoteSec] at h
  split at h <;> try cases h
  rename_i hc
  split at h <;> try cases h
  rename_i a ss ps ha hss hps
  split at h <;> try cases h
  rename_i hok
  split at h <;> cases h
  rename_i i n ty d r l rp inc s1 p1 sc pc hcr
  simp only [Bool.and_eq_true, List.isEmpty_iff] at hc
  obtain ⟨rfl, hknown⟩ := hc
  simp only [argsOK, Bool.and_eq_true, decide_eq_true_eq] at hok
  obtain ⟨⟨⟨hnd, hmand⟩, hfs⟩, hfp⟩ := hok
  have hkids := readKids_denote_nil m lib .sec tag kids w a ss ps
    ⟨hknown, ha, hss, hps⟩ hnd (fun y hy _ => Hkids y hy)
    (fun y _ _ p hp => prop_denote m lib y p hp)
  have happS := appendSecs_free m ss [] w (by simpa using hfs)
  have happP := appendProps_free m ps [] w (by simpa using hfp)
  rw [readTag.eq_1]
  simp only [attrLoop, hkids, mandatory_of_mandOK m .sec a kids w hmand]
  rw [createSec_congr _ a (lookup_reverse_nodup a hnd), hcr]
  simp only [List.nil_append] at happS happP
  simp only [happS, happP]

mutual
/-- **A conformant Section element at any depth** is read as the Section it denotes. -/
theorem sec_denote (m : Mode) (lib : TokLib) : (x : X) → ∀ s, denoteSec lib x = some s →
    ∀ (tag : String) (w : Nat), readTag m lib .sec tag x w = .ok (.sec s, w)
  | .elem t attrs text kids => fun s h tag w =>
    sec_denote_core m lib t attrs text kids (kids_denote m lib kids) s h tag w
/-- `X` is nested: the hypothesis for the children is the other half of a mutual recursion -/
theorem kids_denote (m : Mode) (lib : TokLib) : (kids : List X) → ∀ y ∈ kids, ∀ s,
    denoteSec lib y = some s → ∀ (tag : String) (w : Nat),
      readTag m lib .sec tag y w = .ok (.sec s, w)
  | [] => by intro y hy; cases hy
  | x :: xs => by
    intro y hy
    by_cases hyx : y = x
    · rw [hyx]; exact sec_denote m lib x
    · have : y ∈ xs := by
        rcases List.mem_cons.mp hy with h | h
        · exact absurd h hyx
        · exact h
      exact kids_denote m lib xs y this
end

theorem attrLoop_ok (m : Mode) (w : Nat) : ∀ attrs : List (String × Str),
    attrs.all (fun kv => lowerS kv.1 == "version") = true → attrLoop m "odML" attrs w = .ok w := by
  intro attrs
  induction attrs with
  | nil => intro _; rfl
  | cons kv rest ih =>
    intro h
    obtain ⟨k, v⟩ := kv
    simp only [List.all_cons, Bool.and_eq_true] at h
    simp [attrLoop, h.1, ih h.2]

/-- **`xml_denote`**: the reader applied to a conformant tree returns exactly the document the
    tree denotes, without warnings, in either mode. -/
theorem doc_denote (m : Mode) (lib : TokLib) (x : X) (d : DocT) (h : denote lib x = some d) :
    readXml m lib x = .ok (d, 0) := by
  obtain ⟨tag, attrs, text, kids⟩ := x
  simp only [denote] at h
  split at h <;> try cases h
  rename_i hc
  split at h <;> try cases h
  rename_i a ss ha hss
  split at h <;> try cases h
  rename_i hok
  split at h <;> cases h
  rename_i d0 hcr
  simp only [Bool.and_eq_true, beq_iff_eq] at hc
  obtain ⟨⟨⟨rfl, hver⟩, hattrs⟩, hknown⟩ := hc
  simp only [argsOK, Bool.and_eq_true, decide_eq_true_eq] at hok
  obtain ⟨⟨hnd, hmand⟩, hfs⟩ := hok
  have hkids := readKids_denote_nil m lib .doc "odML" kids 0 a ss []
    ⟨hknown, ha, hss, denoteProps_nil lib .doc isChild_doc kids⟩ hnd
    (fun y _ _ => sec_denote m lib y)
    (fun y _ _ p hp => prop_denote m lib y p hp)
  have happS := appendSecs_free m ss [] 0 (by simpa using hfs)
  unfold readXml
  simp only [bne_self_eq_false, Bool.false_eq_true, if_false, hver]
  rw [readTag.eq_1]
  simp only [attrLoop_ok m 0 attrs hattrs, hkids, mandatory_of_mandOK m .doc a kids 0 hmand]
  rw [createDoc_congr lib _ a (lookup_reverse_nodup a hnd), hcr]
  simp only [List.nil_append] at happS
  simp only [happS]

end Xml
