/-
C15, whole-tree composition: what the reader looks at, and the six passes seen through it.

The strict reader (`readDoc` / `readSec` / `readProp`) looks at the children of an element only
through "the children with tag `t`, in order" (`sel t`): the last one for a text, all of them
for Sections / Properties.  This file expresses the reader in terms of `sel` and computes
`sel t` of the output of every pass of the converter from `sel t` of its input.
-/
import OdmlModel.Proofs.Conv

namespace Conv
open Conv.Xml

/-- The children with tag `t`, in document order. -/
def sel (t : String) (ks : List Xml) : List Xml := ks.filter (fun k => k.tag == t)

theorem sel_nil (t : String) : sel t [] = [] := rfl

theorem sel_cons (t : String) (k : Xml) (ks : List Xml) :
    sel t (k :: ks) = if k.tag = t then k :: sel t ks else sel t ks := by
  by_cases h : k.tag = t <;> simp [sel, h]

theorem sel_append (t : String) (a b : List Xml) : sel t (a ++ b) = sel t a ++ sel t b := by
  simp [sel]

theorem mem_sel {t : String} {k : Xml} {ks : List Xml} : k ∈ sel t ks ↔ k ∈ ks ∧ k.tag = t := by
  simp [sel]

theorem sel_single (t : String) (k : Xml) : sel t [k] = if k.tag = t then [k] else [] := by
  rw [sel_cons]; rfl

theorem find_eq_head (t : String) (ks : List Xml) : find t ks = (sel t ks).head? := by
  induction ks with
  | nil => rfl
  | cons k ks ih =>
    rw [sel_cons]
    by_cases h : k.tag = t
    · simp [find, h]
    · simp [find, h, ih]

theorem find_none_sel_nil {t : String} {ks : List Xml} (h : find t ks = none) : sel t ks = [] :=
  List.head?_eq_none_iff.1 (find_eq_head t ks ▸ h)

theorem valuesOf_eq_sel (p : Xml) : valuesOf p = sel "value" p.kids := rfl

theorem findLast_eq_getLast (t : String) (ks : List Xml) : findLast t ks = (sel t ks).getLast? := by
  unfold findLast
  rw [find_eq_head]
  simp [sel, List.filter_reverse]

theorem find_congr {t : String} {a b : List Xml} (h : sel t a = sel t b) : find t a = find t b := by
  rw [find_eq_head, find_eq_head, h]

theorem findLast_congr {t : String} {a b : List Xml} (h : sel t a = sel t b) :
    findLast t a = findLast t b := by
  rw [findLast_eq_getLast, findLast_eq_getLast, h]

theorem findText_congr {t : String} {a b : List Xml} (h : sel t a = sel t b) :
    findText t a = findText t b := by
  unfold findText; rw [find_congr h]

theorem lastText_congr {t : String} {a b : List Xml} (h : sel t a = sel t b) :
    lastText t a = lastText t b := by
  unfold lastText; rw [findLast_congr h]

theorem readValues_congr {a b : List Xml} (h : sel "value" a = sel "value" b) :
    readValues a = readValues b := by
  unfold readValues; rw [findLast_congr h]

/-- With at most one child of a tag, the reader's "last wins" is the converter's "first". -/
theorem findLast_eq_find_of_le_one (t : String) (ks : List Xml) (h : (sel t ks).length ≤ 1) :
    findLast t ks = find t ks := by
  rw [findLast_eq_getLast, find_eq_head]
  match hs : sel t ks, h with
  | [], _ => rfl
  | [a], _ => rfl
  | _ :: _ :: _, h => simp at h

theorem sel_singleton {t : String} {ks : List Xml} (h : (find t ks).isSome = true)
    (hle : (sel t ks).length ≤ 1) : ∃ k, sel t ks = [k] := by
  rw [find_eq_head] at h
  match hs : sel t ks, h, hle with
  | [a], _, _ => exact ⟨a, rfl⟩
  | [], h, _ => simp at h
  | _ :: _ :: _, _, h2 => simp at h2

theorem lastText_of_le_one (t : String) (ks : List Xml) (h : (sel t ks).length ≤ 1) :
    lastText t ks = Py.strip (findText t ks) := by
  unfold lastText findText
  rw [findLast_eq_find_of_le_one t ks h]
  cases find t ks <;> simp [Py.strip_nil]

theorem lastText_of_sel_nil (t : String) (ks : List Xml) (h : sel t ks = []) : lastText t ks = [] := by
  unfold lastText; rw [findLast_eq_getLast, h]; rfl

theorem uniqueTags_le_one {ks : List Xml} {ts : List String} (h : uniqueTags ks ts = true)
    {t : String} (ht : t ∈ ts) : (sel t ks).length ≤ 1 := by
  simp only [uniqueTags, List.all_eq_true, decide_eq_true_eq] at h
  exact h t ht

theorem readProps_eq (ks : List Xml) : readProps ks = (sel "property" ks).map readProp := by
  induction ks with
  | nil => rfl
  | cons k ks ih =>
    rw [sel_cons]
    by_cases h : k.tag = "property" <;> simp [readProps, h, ih]

theorem readSecs_eq (ks : List Xml) : readSecs ks = (sel "section" ks).map readSec := by
  induction ks with
  | nil => simp [readSecs, sel_nil]
  | cons k ks ih =>
    rw [sel_cons]
    by_cases h : k.tag = "section" <;> simp [readSecs, h, ih]

theorem sel_map_same (t : String) (f : Xml → Xml) (ks : List Xml) (hf : ∀ k, (f k).tag = k.tag) :
    sel t (ks.map f) = (sel t ks).map f := by
  rw [sel, List.filter_map, sel]
  congr 2
  funext k
  simp [hf k]

theorem sel_map_other (t : String) (f : Xml → Xml) (ks : List Xml) (hf : ∀ k, (f k).tag = k.tag)
    (hid : ∀ k, k.tag = t → f k = k) : sel t (ks.map f) = sel t ks := by
  rw [sel_map_same t f ks hf, List.map_congr_left (g := id) fun k hk => hid k (mem_sel.1 hk).2,
    List.map_id]

theorem sel_filter_keep (t : String) (q : Xml → Bool) (ks : List Xml)
    (hq : ∀ k, k.tag = t → q k = true) : sel t (ks.filter q) = sel t ks := by
  rw [sel, List.filter_filter]
  apply List.filter_congr
  intro k _
  by_cases h : k.tag = t <;> simp [h, hq]

theorem sel_filter_drop (t : String) (q : Xml → Bool) (ks : List Xml)
    (hq : ∀ k, k.tag = t → q k = false) : sel t (ks.filter q) = [] := by
  rw [sel, List.filter_filter, List.filter_eq_nil_iff]
  intro k _
  by_cases h : k.tag = t <;> simp [h, hq]

theorem sel_setFirstText_other (t : String) (n : List Char) (ks : List Xml) (ht : t ≠ "name") :
    sel t (setFirstText "name" n ks) = sel t ks := by
  induction ks with
  | nil => rfl
  | cons k ks ih =>
    simp only [setFirstText]
    split
    · rename_i hk
      have hkt : k.tag ≠ t := by rw [hk]; exact fun e => ht e.symm
      rw [sel_cons, sel_cons]; simp [hkt]
    · rw [sel_cons, sel_cons, ih]

theorem sel_setFirstText_name (n : List Char) (ks : List Xml) (nm : Xml)
    (h : sel "name" ks = [nm]) :
    sel "name" (setFirstText "name" n ks) = [.elem "name" nm.attrs n nm.kids] := by
  induction ks with
  | nil => simp [sel_nil] at h
  | cons k ks ih =>
    rw [sel_cons] at h
    simp only [setFirstText]
    by_cases hk : k.tag = "name"
    · rw [if_pos hk] at h ⊢
      simp only [List.cons.injEq] at h
      rw [sel_cons]; simp [h.2, ← h.1, hk]
    · rw [if_neg hk] at h ⊢
      rw [sel_cons, if_neg hk]; exact ih h

theorem sel_rename_other (t : String) (n : List Char) (k : Xml) (ht : t ≠ "name") :
    sel t (rename n k).kids = sel t k.kids := by
  rw [rename_kids, sel_setFirstText_other t n _ ht]

theorem sel_p1Kids_other (t : String) (hs : t ≠ "section") (hp : t ≠ "property") (b : Bool)
    (sm pm : Counter) (sd pd : List (List Char)) (ks : List Xml) :
    sel t (p1Kids b sm pm sd pd ks) = sel t ks := by
  induction ks generalizing sm pm sd pd with
  | nil => simp [p1Kids]
  | cons k ks ih =>
    obtain ⟨c, _, _, _, _, heq, ht, _, _, hr⟩ := p1Kids_cons b sm pm sd pd k ks
    rw [heq, sel_cons, sel_cons, ht, ih]
    split
    · rename_i hk
      rw [if_neg (fun e => hs (hk ▸ e))] at hr
      rcases hr with rfl | ⟨hp', _⟩
      · rfl
      · exact absurd (hk ▸ hp') hp
    · rfl

theorem p3_tag (enc : Bool) (k : Xml) : (p3 enc k).1.tag = k.tag := by cases k; simp [p3]
theorem p3_attrs (enc : Bool) (k : Xml) : (p3 enc k).1.attrs = k.attrs := by cases k; simp [p3]
/-- Named Properties are transformed, unnamed ones dropped. -/
def p3Prop (enc : Bool) (sn st : List Char) (k : Xml) : Option Xml :=
  if (find "name" k.kids).isNone then none else some (transformProp enc sn st k).1

theorem p3Prop_eq_some {enc : Bool} {sn st : List Char} {k c : Xml} :
    p3Prop enc sn st k = some c ↔
      (find "name" k.kids).isSome = true ∧ (transformProp enc sn st k).1 = c := by
  unfold p3Prop
  cases find "name" k.kids <;> simp

/-- What stage 3 does to one child. -/
def p3One (enc : Bool) (sn st : List Char) (k : Xml) : Option Xml :=
  if k.tag = "property" then p3Prop enc sn st k
  else if k.tag = "section" then some (p3 enc k).1 else some k

theorem p3One_tag {enc : Bool} {sn st : List Char} {k c : Xml} (h : p3One enc sn st k = some c) :
    c.tag = k.tag := by
  unfold p3One p3Prop at h
  split at h
  · split at h <;> cases h; rfl
  · split at h <;> cases h
    · exact p3_tag enc k
    · rfl

theorem sel_p3Kids (t : String) (enc : Bool) (sn st : List Char) (ks : List Xml) :
    sel t (p3Kids enc sn st ks).1 = (sel t ks).filterMap (p3One enc sn st) := by
  induction ks with
  | nil => rfl
  | cons k ks ih =>
    have hk : (p3Kids enc sn st (k :: ks)).1 =
        (p3One enc sn st k).toList ++ (p3Kids enc sn st ks).1 := by
      simp only [p3Kids, p3One, p3Prop]
      split
      · split <;> rfl
      · split <;> rfl
    rw [hk, sel_append, ih, sel_cons]
    cases hc : p3One enc sn st k with
    | none => split <;> simp [hc, sel_nil]
    | some c =>
      simp only [Option.toList, sel_single, p3One_tag hc]
      split <;> simp [hc]

private theorem filterMap_congr {α β : Type} {f g : α → Option β} {l : List α} (h : ∀ x ∈ l, f x = g x) :
    l.filterMap f = l.filterMap g := by
  induction l with
  | nil => rfl
  | cons a l ih =>
    rw [List.filterMap_cons, List.filterMap_cons, h a (by simp),
      ih (fun x hx => h x (List.mem_cons_of_mem _ hx))]

theorem sel_p3Kids_other (t : String) (hs : t ≠ "section") (hp : t ≠ "property") (enc : Bool)
    (sn st : List Char) (ks : List Xml) : sel t (p3Kids enc sn st ks).1 = sel t ks := by
  rw [sel_p3Kids, filterMap_congr (g := some), List.filterMap_some]
  intro k hk
  simp [p3One, (mem_sel.1 hk).2, hs, hp]

theorem sel_p3Kids_section (enc : Bool) (sn st : List Char) (ks : List Xml) :
    sel "section" (p3Kids enc sn st ks).1 = (sel "section" ks).map (fun k => (p3 enc k).1) := by
  rw [sel_p3Kids, ← List.filterMap_eq_map']
  apply filterMap_congr
  intro k hk
  simp [p3One, (mem_sel.1 hk).2]

theorem sel_p3Kids_property (enc : Bool) (sn st : List Char) (ks : List Xml) :
    sel "property" (p3Kids enc sn st ks).1 = (sel "property" ks).filterMap (p3Prop enc sn st) := by
  rw [sel_p3Kids]
  apply filterMap_congr
  intro k hk
  simp [p3One, (mem_sel.1 hk).2]

theorem p4_tag (k : Xml) : (p4 k).1.tag = k.tag := by
  cases k; simp only [p4]; split <;> simp

theorem p4_attrs (k : Xml) : (p4 k).1.attrs = k.attrs := by
  cases k; simp only [p4]; split <;> simp

theorem p4Kids_eq_map (ks : List Xml) :
    (p4Kids ks).1 = ks.map (fun k => if k.tag = "section" then (p4 k).1 else k) := by
  induction ks with
  | nil => simp [p4Kids]
  | cons k ks ih =>
    simp only [p4Kids, List.map_cons]
    split <;> simp [ih]

theorem sel_p4Kids_other (t : String) (hs : t ≠ "section") (ks : List Xml) :
    sel t (p4Kids ks).1 = sel t ks := by
  rw [p4Kids_eq_map]
  apply sel_map_other
  · intro k; split
    · exact p4_tag k
    · rfl
  · intro k hk
    simp [hk, hs]

theorem sel_p4Kids_section (ks : List Xml) :
    sel "section" (p4Kids ks).1 = (sel "section" ks).map (fun k => (p4 k).1) := by
  rw [p4Kids_eq_map, sel_map_same]
  · apply List.map_congr_left
    intro k hk
    simp [(mem_sel.1 hk).2]
  · intro k; split
    · exact p4_tag k
    · rfl

theorem secCleanup_eq_filter (sn : List Char) (ks : List Xml) :
    (secCleanup sn ks).1 = ks.filter (fun k => decide (k.tag ∈ secKeys)) := by
  induction ks with
  | nil => simp [secCleanup]
  | cons k ks ih => simp only [secCleanup, List.filter_cons]; split <;> simp_all

theorem docCleanup_eq_filter (ks : List Xml) :
    (docCleanup ks).1 = ks.filter (fun k => decide (k.tag ∈ docKeys)) := by
  induction ks with
  | nil => simp [docCleanup]
  | cons k ks ih => simp only [docCleanup, List.filter_cons]; split <;> simp_all

theorem secKeys_read :
    ∀ t ∈ ["name", "type", "definition", "id", "section", "property"], t ∈ secKeys := by
  decide +kernel

theorem docKeys_read : "id" ∈ docKeys ∧ "section" ∈ docKeys := by decide +kernel

theorem sel_secCleanup (t : String) (ht : t ∈ secKeys) (sn : List Char) (ks : List Xml) :
    sel t (secCleanup sn ks).1 = sel t ks := by
  rw [secCleanup_eq_filter]
  exact sel_filter_keep t _ ks (fun k hk => by simp [hk, ht])

theorem sel_docCleanup (t : String) (ht : t ∈ docKeys) (ks : List Xml) :
    sel t (docCleanup ks).1 = sel t ks := by
  rw [docCleanup_eq_filter]
  exact sel_filter_keep t _ ks (fun k hk => by simp [hk, ht])

theorem addId_tag (fresh : List Char) (e : Xml) : (addId fresh e).tag = e.tag := by
  cases e; simp only [addId]; split <;> rfl

theorem addId_attrs (fresh : List Char) (e : Xml) : (addId fresh e).attrs = e.attrs := by
  cases e; simp only [addId]; split <;> rfl

theorem iter_addId_tag (fresh : List Char) (n : Nat) (e : Xml) :
    (iter (addId fresh) n e).tag = e.tag := by
  induction n generalizing e with
  | zero => rfl
  | succ n ih => simp only [iter]; rw [ih, addId_tag]

theorem p6_tag (fresh : List Char) (d : Nat) (k : Xml) : (p6 fresh d k).tag = k.tag := by
  cases k; simp only [p6]; rw [addId_tag]; rfl

theorem iter_addId_attrs (fresh : List Char) (n : Nat) (e : Xml) :
    (iter (addId fresh) n e).attrs = e.attrs := by
  induction n generalizing e with
  | zero => rfl
  | succ n ih => simp only [iter]; rw [ih, addId_attrs]

/-- What stage 6 does to one child. -/
def p6One (fresh : List Char) (d : Nat) (k : Xml) : Xml :=
  if k.tag = "section" then p6 fresh d k
  else if k.tag = "property" then iter (addId fresh) d k else k

theorem p6One_tag (fresh : List Char) (d : Nat) (k : Xml) : (p6One fresh d k).tag = k.tag := by
  unfold p6One
  split
  · exact p6_tag fresh d k
  · split
    · exact iter_addId_tag fresh d k
    · rfl

theorem p6Kids_eq_map (fresh : List Char) (d : Nat) (ks : List Xml) :
    p6Kids fresh d ks = ks.map (p6One fresh d) := by
  induction ks with
  | nil => simp [p6Kids]
  | cons k ks ih => simp only [p6Kids, List.map_cons, ih, p6One]

theorem p6Kids_tags (P : String → Prop) (fresh : List Char) (d : Nat) (ks : List Xml)
    (h : ∀ k ∈ ks, P k.tag) : ∀ k ∈ p6Kids fresh d ks, P k.tag := by
  rw [p6Kids_eq_map]
  intro k hk
  obtain ⟨k0, hk0, e⟩ := List.mem_map.1 hk
  rw [← e, p6One_tag]
  exact h k0 hk0

theorem sel_p6Kids_other (t : String) (hs : t ≠ "section") (hp : t ≠ "property")
    (fresh : List Char) (d : Nat) (ks : List Xml) : sel t (p6Kids fresh d ks) = sel t ks := by
  rw [p6Kids_eq_map]
  apply sel_map_other _ _ _ (p6One_tag fresh d)
  intro k hk
  simp [p6One, hk, hs, hp]

theorem sel_p6Kids_section (fresh : List Char) (d : Nat) (ks : List Xml) :
    sel "section" (p6Kids fresh d ks) = (sel "section" ks).map (p6 fresh d) := by
  rw [p6Kids_eq_map, sel_map_same _ _ _ (p6One_tag fresh d)]
  apply List.map_congr_left
  intro k hk
  simp [p6One, (mem_sel.1 hk).2]

theorem sel_p6Kids_property (fresh : List Char) (d : Nat) (ks : List Xml) :
    sel "property" (p6Kids fresh d ks) = (sel "property" ks).map (iter (addId fresh) d) := by
  rw [p6Kids_eq_map, sel_map_same _ _ _ (p6One_tag fresh d)]
  apply List.map_congr_left
  intro k hk
  simp [p6One, (mem_sel.1 hk).2]

theorem sel_removeFirst_other (t r : String) (h : t ≠ r) (ks : List Xml) :
    sel t (removeFirst r ks) = sel t ks := by
  induction ks with
  | nil => rfl
  | cons k ks ih =>
    simp only [removeFirst]
    split
    · rename_i hk
      have : ¬ k.tag = t := by rw [hk]; exact fun e => h e.symm
      rw [sel_cons, if_neg this]
    · rw [sel_cons, sel_cons, ih]

theorem sel_removeFirst_same (t : String) (ks : List Xml) :
    sel t (removeFirst t ks) = (sel t ks).drop 1 := by
  induction ks with
  | nil => rfl
  | cons k ks ih =>
    simp only [removeFirst]
    by_cases hk : k.tag = t
    · rw [if_pos hk, sel_cons, if_pos hk]; rfl
    · rw [if_neg hk, sel_cons, sel_cons, if_neg hk, if_neg hk, ih]

theorem sel_addId_other (t : String) (ht : t ≠ "id") (fresh : List Char) (e : Xml) :
    sel t (addId fresh e).kids = sel t e.kids := by
  have hne : ¬ "id" = t := fun e => ht e.symm
  cases e with
  | elem tg a x ks =>
    simp only [addId]
    split
    · simp only [kids_elem, sel_append, sel_removeFirst_other t "id" ht, sel_single, leaf, tag_elem,
        hne, ↓reduceIte, List.append_nil]
    · simp only [kids_elem, sel_append, sel_single, leaf, tag_elem, hne, ↓reduceIte, List.append_nil]

/-- The id `_add_id` stores: the normalised own id if `uuid.UUID` accepts it, else a fresh one
    (`id10` is this text stripped, as the reader sees it). -/
def idRes (fresh : List Char) (ks : List Xml) : List Char :=
  match find "id" ks with
  | some k => idOf fresh k.text
  | none => fresh

theorem sel_addId_id (fresh : List Char) (e : Xml) :
    sel "id" (addId fresh e).kids = (sel "id" e.kids).drop 1 ++ [leaf "id" (idRes fresh e.kids)] := by
  cases e with
  | elem tg a x ks =>
    simp only [addId, idRes, kids_elem]
    cases hf : find "id" ks with
    | some oid =>
      simp only [kids_elem, sel_append, sel_removeFirst_same, sel_single, leaf, tag_elem, ↓reduceIte]
    | none =>
      simp only [kids_elem, sel_append, sel_single, leaf, tag_elem, ↓reduceIte,
        find_none_sel_nil hf, List.drop_nil]

end Conv
