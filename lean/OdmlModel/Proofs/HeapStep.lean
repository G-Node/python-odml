/-
One step of any editing operation on a well-formed heap: refused without any change, or a
well-formed heap.
-/
import OdmlModel.Proofs.HeapSetItem

namespace Heap

theorem step_spec {h : H} (w : WF h) (op : Op) :
    (∃ e, step h op = (h, .raised e)) ∨ (∃ h', step h op = (h', .ok) ∧ WF h') := by
  unfold step
  split
  · exact Or.inl ⟨_, rfl⟩
  rename_i hh
  have hlt : ∀ i ∈ op.handles, i < h.size := fun i hi =>
    Nat.lt_of_not_le fun hge => hh (List.any_eq_true.mpr ⟨i, hi, decide_eq_true hge⟩)
  cases op with
  | construct k name id parent argsOk =>
    exact construct_spec w k name id parent argsOk (fun p hp => hlt p (by simp [Op.handles, hp]))
  | append p x => exact append_wf w (hlt p (by simp [Op.handles])) (hlt x (by simp [Op.handles]))
  | insert p pos x =>
    exact insert_spec w pos (hlt p (by simp [Op.handles])) (hlt x (by simp [Op.handles]))
  | extend p xs =>
    exact extend_spec w xs (hlt p (by simp [Op.handles]))
      (fun x hx => hlt x (by simp [Op.handles, hx]))
  | remove p x =>
    rcases remove_spec w p x with h1 | ⟨hx, he⟩
    · exact Or.inl h1
    · exact Or.inr ⟨_, he, wf_detach w hx⟩
  | setParent x np =>
    exact setParent_spec w np (hlt x (by simp [Op.handles]))
      (fun p hp => hlt p (by simp [Op.handles, hp]))
  | setItem p s key v =>
    exact setItem_spec w s key (hlt p (by simp [Op.handles])) (hlt v (by simp [Op.handles]))
  | reorder x i => exact reorder_spec w x i
  | rename x new => exact rename_spec w new (hlt x (by simp [Op.handles]))
  | newId x idText =>
    cases idText with
    | none => exact Safe.refuse
    | some s =>
      exact Safe.ok (wf_upd_lists w (hlt x (by simp [Op.handles])) (fun _ => rfl) (fun _ => rfl)
        (fun _ => rfl) (.refl _) (.refl _))

theorem step_wf {h : H} (w : WF h) (op : Op) : WF (step h op).1 := by
  rcases step_spec w op with ⟨e, he⟩ | ⟨h', he, wh⟩ <;> rw [he]
  · exact w
  · exact wh

theorem step_refused {h : H} (w : WF h) {op : Op} {e : Exc} (hr : (step h op).2 = .raised e) :
    (step h op).1 = h := by
  rcases step_spec w op with ⟨e', he⟩ | ⟨h', he, _⟩ <;> rw [he] at hr ⊢
  cases hr

end Heap
