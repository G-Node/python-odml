/-
find_related: which positions the preorder walk below a node lists.
-/
import OdmlModel.Proofs.PathMem

namespace Path
open PathTree

theorem pre_mk (n t : Str) (ps : List PropT) (ss : List Sec) (p : Pos) :
    (Sec.mk n t ps ss).pre p = (p, Sec.mk n t ps ss) :: preList ss p 0 := rfl

theorem mem_preList_iff (l : List Sec) (p : Pos) (i : Nat) (x : Pos × Sec) :
    x ∈ preList l p i ↔ ∃ j t, l[j]? = some t ∧ x ∈ Sec.pre t (p ++ [i + j]) :=
  mem_walk (g := fun i l => preList l p i) (h := fun i t => t.pre (p ++ [i]))
    (fun _ => rfl) (fun _ _ _ => rfl) i l x

theorem mem_pre (t : Sec) : ∀ (p q : Pos) (s : Sec),
    (q, s) ∈ t.pre p ↔ ∃ r, q = p ++ r ∧ secBelow t r = some s := by
  induction t using Sec.induct with
  | mk n ty ps ss ih =>
    intro p q s
    rw [pre_mk, List.mem_cons, mem_preList_iff]
    have happ : ∀ j (r : Pos), p ++ [0 + j] ++ r = p ++ j :: r := fun j r => by
      rw [Nat.zero_add, List.append_assoc]; rfl
    constructor
    · rintro (h | ⟨j, t, hj, hx⟩)
      · cases h; exact ⟨[], (List.append_nil p).symm, rfl⟩
      · obtain ⟨r, rfl, hs⟩ := (ih t (List.mem_of_getElem? hj) ..).1 hx
        exact ⟨j :: r, happ j r, by rw [secBelow_cons, Sec.subs_mk, hj]; exact hs⟩
    · rintro ⟨r, rfl, hs⟩
      cases r with
      | nil => cases hs; exact .inl (by rw [List.append_nil])
      | cons j r =>
        rw [secBelow_cons] at hs
        obtain ⟨t, hj, hs⟩ := Option.bind_eq_some_iff.1 hs
        exact .inr ⟨j, t, hj, (ih t (List.mem_of_getElem? hj) ..).2 ⟨r, (happ j r).symm, hs⟩⟩

theorem mem_preList (l : List Sec) (p : Pos) (q : Pos) (s : Sec) :
    (q, s) ∈ preList l p 0 ↔ ∃ r, r ≠ [] ∧ q = p ++ r ∧ secAt l r = some s := by
  simp only [mem_preList_iff, mem_pre, Nat.zero_add]
  constructor
  · rintro ⟨j, t, hj, r, rfl, hs⟩
    exact ⟨j :: r, by simp, by simp, by simp [secAt_eq_secBelow, hj, hs]⟩
  · rintro ⟨r, hr, rfl, hs⟩
    cases r with
    | nil => exact absurd rfl hr
    | cons j r =>
      rw [secAt_eq_secBelow] at hs
      obtain ⟨t, hj, hs⟩ := Option.bind_eq_some_iff.1 hs
      exact ⟨j, t, hj, r, by simp, hs⟩

theorem mem_ancestors_upto (r : Bool) (p a : Pos) :
    a ∈ (if r = true then ancestors p else (ancestors p).take 1) ↔
      ∃ k, k < p.length ∧ a = p.take k ∧ (r = true ∨ k + 1 = p.length) := by
  cases r with
  | true => simp [ancestors, eq_comm]
  | false =>
    cases p with
    | nil => simp [ancestors]
    | cons i t =>
      -- the nearest ancestor is the first entry of the list
      simp only [Bool.false_eq_true, ↓reduceIte, ancestors, List.length_cons, List.range_succ,
        List.reverse_append, List.reverse_cons, List.reverse_nil, List.nil_append,
        List.cons_append, List.map_cons, List.take_succ_cons, List.take_zero,
        List.mem_singleton, false_or, Nat.add_right_cancel_iff]
      exact ⟨fun h => ⟨_, Nat.lt_succ_self _, h, rfl⟩, fun ⟨k, _, h, hk⟩ => hk ▸ h⟩
end Path
