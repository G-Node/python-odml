/-
Every editing operation of the heap model, on a well-formed heap, either raises and returns the
heap unchanged, or returns a heap built from the primitives of `HeapWF.lean`.
-/
import OdmlModel.Proofs.HeapWF

namespace Heap

theorem H.ext' {a b : H} (hn : ∀ i, a.node i = b.node i) (hs : a.size = b.size) : a = b := by
  cases a; cases b; simp only [H.mk.injEq]; exact ⟨funext hn, hs⟩

theorem upd_congr {h : H} {i : Nat} {f g : Node → Node} (hfg : f (h.node i) = g (h.node i)) :
    upd h i f = upd h i g := by
  refine H.ext' (fun j => ?_) rfl
  rw [upd_node, upd_node]; split
  · rename_i e; subst e; exact hfg
  · rfl

theorem nameIn_false {h : H} {l : List Nat} {name : String} :
    nameIn h l name = false ↔ ∀ c ∈ l, (h.node c).name ≠ name := by
  simp [nameIn]

theorem nameIn_true {h : H} {l : List Nat} {name : String} :
    nameIn h l name = true ↔ ∃ c ∈ l, (h.node c).name = name := by
  simp [nameIn]

/-- The operation raised and nothing has changed, or it succeeded and the heap is well-formed. -/
def Safe (h : H) (r : H × Outcome) : Prop :=
  (∃ e, r = (h, .raised e)) ∨ ∃ h', r = (h', .ok) ∧ WF h'

theorem Safe.refuse {h : H} {e : Exc} : Safe h (h, .raised e) := Or.inl ⟨e, rfl⟩

theorem Safe.ok {h h' : H} (w : WF h') : Safe h (h', .ok) := Or.inr ⟨h', rfl, w⟩

theorem Safe.ite {h : H} {c : Prop} [Decidable c] {a b : H × Outcome} (ha : c → Safe h a)
    (hb : ¬ c → Safe h b) : Safe h (if c then a else b) :=
  ite_ind (Safe h) ha hb

/-- Stated with what the search needs, not with `WF`: `adopt` runs it on a heap in mid-update. -/
theorem removeChild_of_listed {h : H} {q x : Nat}
    (hS : (h.node x).kind = .sec → x ∈ (h.node q).secs ∧ x ∉ (h.node q).props)
    (hP : (h.node x).kind = .prop →
      x ∈ (h.node q).props ∧ x ∉ (h.node q).secs ∧ (h.node q).kind ≠ .doc)
    (hk : (h.node x).kind ≠ .doc) : removeChild h q x = some (detach h q x) := by
  unfold removeChild detach
  cases hkx : (h.node x).kind with
  | doc => exact absurd hkx hk
  | sec =>
    obtain ⟨hm, hn⟩ := hS hkx
    obtain ⟨i, hi⟩ := indexOf?_of_mem hm
    simp only [hi]
    have e : upd h q (fun n => { n with secs := delAt n.secs i }) =
        upd h q (fun n => { n with secs := n.secs.erase x, props := n.props.erase x }) :=
      upd_congr (by simp only [delAt_indexOf hi, List.erase_of_not_mem hn])
    rw [e]
  | prop =>
    obtain ⟨hm, hn, hq⟩ := hP hkx
    obtain ⟨i, hi⟩ := indexOf?_of_mem hm
    simp only [hi, if_neg hq]
    have e : upd h q (fun n => { n with props := delAt n.props i }) =
        upd h q (fun n => { n with secs := n.secs.erase x, props := n.props.erase x }) :=
      upd_congr (by simp only [delAt_indexOf hi, List.erase_of_not_mem hn])
    rw [e]

theorem removeChild_some {h : H} (w : WF h) {q x : Nat} (hx : (h.node x).parent = some q) :
    removeChild h q x = some (detach h q x) :=
  let ⟨hS, hP, hk⟩ := w.listed hx
  removeChild_of_listed hS hP hk

theorem removeChild_none {h : H} (w : WF h) {q x : Nat} (hx : (h.node x).parent ≠ some q) :
    removeChild h q x = none := by
  unfold removeChild
  cases hk : (h.node x).kind with
  | doc => rfl
  | sec =>
    have : x ∉ (h.node q).secs := fun hm => hx (w.mem_kids (k := .sec) hm).1
    simp [indexOf?_none.mpr this]
  | prop =>
    have : x ∉ (h.node q).props := fun hm => hx (w.mem_kids (k := .prop) hm).1
    simp only [indexOf?_none.mpr this]
    split <;> rfl

theorem remove_spec {h : H} (w : WF h) (p x : Nat) :
    (∃ e, remove h p x = (h, .raised e)) ∨
    ((h.node x).parent = some p ∧ remove h p x = (detach h p x, .ok)) := by
  unfold remove
  split
  · exact Or.inl ⟨_, rfl⟩
  · by_cases hx : (h.node x).parent = some p
    · rw [removeChild_some w hx]; exact Or.inr ⟨hx, rfl⟩
    · rw [removeChild_none w hx]; exact Or.inl ⟨_, rfl⟩

theorem Anc.of_detach {h : H} {q x a c : Nat} (ha : Anc (detach h q x) a c) : Anc h a c := by
  induction ha with
  | refl => exact Anc.refl _
  | step hp _ ih =>
    rw [detach_parent] at hp
    split at hp
    · cases hp
    · exact Anc.step hp ih

/-- The walk of the cycle check does not look at nodes it does not pass: if the walk from
    `cur` does not meet `z`, a heap that differs only at `z` gives the same answer. -/
theorem meetsUp_frame {h h' : H} {z : Nat}
    (hsame : ∀ i, i ≠ z → (h'.node i).kind = (h.node i).kind ∧ (h'.node i).parent = (h.node i).parent)
    {fuel : Nat} {cur : Option Nat} {obj : Nat}
    (hz : meetsUp h fuel cur z = false) : meetsUp h' fuel cur obj = meetsUp h fuel cur obj := by
  induction fuel generalizing cur with
  | zero => cases cur <;> rfl
  | succ fuel ih =>
    cases cur with
    | none => rfl
    | some c =>
      simp only [meetsUp] at hz ⊢
      split at hz
      · cases hz
      · rename_i hcz
        rw [(hsame c hcz).1, (hsame c hcz).2]
        split
        · rfl
        · exact ih hz

theorem ne_of_not_anc {h : H} {x p : Nat} (hanc : ¬ Anc h x p) : x ≠ p :=
  fun e => hanc (e ▸ Anc.refl x)

/-- `x` taken out of whatever container holds it. -/
def detachIf (h : H) (x : Nat) : H :=
  match (h.node x).parent with
  | some q => detach h q x
  | none => h

theorem wf_detachIf {h : H} (w : WF h) (x : Nat) : WF (detachIf h x) := by
  unfold detachIf
  split
  · exact wf_detach w ‹_›
  · exact w

theorem detachIf_size (h : H) (x : Nat) : (detachIf h x).size = h.size := by
  unfold detachIf; split <;> rfl

theorem detachIf_parent (h : H) (x c : Nat) :
    ((detachIf h x).node c).parent = if c = x then none else (h.node c).parent := by
  unfold detachIf
  split
  · rw [detach_parent]
  · split
    · rename_i hx hc; rw [hc]; exact hx
    · rfl

theorem detachIf_kind (h : H) (x c : Nat) : ((detachIf h x).node c).kind = (h.node c).kind := by
  unfold detachIf; split
  · rw [detach_kind]
  · rfl

theorem detachIf_name (h : H) (x c : Nat) : ((detachIf h x).node c).name = (h.node c).name := by
  unfold detachIf; split
  · rw [detach_name]
  · rfl

theorem detachIf_kids (h : H) (x p : Nat) (k : Kind) :
    kids k ((detachIf h x).node p) =
      if (h.node x).parent = some p then (kids k (h.node p)).erase x else kids k (h.node p) := by
  unfold detachIf; split
  · rename_i q hq; rw [detach_kids, hq]; simp only [Option.some.injEq, eq_comm]
  · rename_i hq; rw [hq, if_neg nofun]

theorem detachIf_secs (h : H) (x p : Nat) :
    ((detachIf h x).node p).secs =
      if (h.node x).parent = some p then (h.node p).secs.erase x else (h.node p).secs :=
  detachIf_kids h x p .sec

theorem detachIf_props (h : H) (x p : Nat) :
    ((detachIf h x).node p).props =
      if (h.node x).parent = some p then (h.node p).props.erase x else (h.node p).props :=
  detachIf_kids h x p .prop

theorem Anc.of_detachIf {h : H} {x a c : Nat} (ha : Anc (detachIf h x) a c) : Anc h a c := by
  unfold detachIf at ha
  split at ha
  · exact Anc.of_detach ha
  · exact ha

theorem removeChild_parent_detachIf {h : H} (w : WF h) (v : Nat) :
    (match (h.node v).parent with
      | some q => removeChild h q v
      | none => some h) = some (detachIf h v) := by
  unfold detachIf
  cases hp : (h.node v).parent with
  | none => rfl
  | some q => exact removeChild_some w hp

/-- `x` (a Section) moved into `p` with `ls` as the new Section list of `p`. -/
def placedS (h : H) (p x : Nat) (ls : List Nat) : H :=
  attach (detachIf h x) p x ls (h.node p).props

/-- `x` (a Property) moved into `p` with `lp` as the new Property list of `p`. -/
def placedP (h : H) (p x : Nat) (lp : List Nat) : H :=
  attach (detachIf h x) p x (h.node p).secs lp

/-- The heap after a successful `p.append(x)` for a Section / Property `x`. -/
def appendedS (h : H) (p x : Nat) : H := placedS h p x ((h.node p).secs ++ [x])
def appendedP (h : H) (p x : Nat) : H := placedP h p x ((h.node p).props ++ [x])

/-- What `append` and `insert` do to the container before they adopt: `f` on the list for `k`. -/
def withKids (k : Kind) (f : List Nat → List Nat) (n : Node) : Node :=
  match k with
  | .sec => { n with secs := f n.secs }
  | .prop => { n with props := f n.props }
  | .doc => n

theorem withKids_lists (k : Kind) (f : List Nat → List Nat) (n : Node) :
    withKids k f n = { n with secs := (withKids k f n).secs, props := (withKids k f n).props } := by
  cases k <;> rfl

theorem withKids_perm {k : Kind} {f : List Nat → List Nat} {n : Node} {x : Nat} (hk : k ≠ .doc)
    (hf : (f (kids k n)).Perm (x :: kids k n)) :
    (withKids k f n).secs.Perm (if k = .sec then x :: n.secs else n.secs) ∧
    (withKids k f n).props.Perm (if k = .prop then x :: n.props else n.props) := by
  cases k
  · exact absurd rfl hk
  · exact ⟨hf, .refl _⟩
  · exact ⟨.refl _, hf⟩

/-- The cycle check is made for Sections only; a Property is above nothing anyway. -/
theorem not_anc_of_check {h : H} (w : WF h) {p x : Nat} (hkx : (h.node x).kind ≠ .doc)
    (hpk : (h.node p).kind ≠ .prop)
    (hc : (decide ((h.node x).kind = .sec) && cycleCheck h p x) = false) : ¬ Anc h x p := by
  cases hk : (h.node x).kind with
  | doc => exact absurd hk hkx
  | sec => rw [hk] at hc; exact meetsUp_false w hc
  | prop => exact w.not_anc_of_prop hk hpk

/-- Detach, then attach, with the list update `f` of `append` or `insert`. -/
theorem wf_placed {h : H} (w : WF h) {p x : Nat} {f : List Nat → List Nat} (hps : p < h.size)
    (hxs : x < h.size) (hkx : (h.node x).kind ≠ .doc) (hpk : (h.node p).kind ≠ .prop)
    (hpd : (h.node x).kind = .prop → (h.node p).kind ≠ .doc) (hanc : ¬ Anc h x p)
    (hnm : nameIn h (kids (h.node x).kind (h.node p)) (h.node x).name = false)
    (hperm : (f (kids (h.node x).kind (h.node p))).Perm (x :: kids (h.node x).kind (h.node p))) :
    WF (attach (detachIf h x) p x (withKids (h.node x).kind f (h.node p)).secs
      (withKids (h.node x).kind f (h.node p)).props) := by
  obtain ⟨hS, hP⟩ := withKids_perm hkx hperm
  have hnotp : (h.node x).parent ≠ some p := fun hp => nameIn_false.mp hnm x (w.kid_mem hp) rfl
  refine wf_attach (wf_detachIf w x) ?_ ?_ ?_ ?_ (fun ha => hanc (.of_detachIf ha)) ?_ ?_ ?_ ?_ ?_
  · rw [detachIf_parent, if_pos rfl]
  · rwa [detachIf_kind]
  · rw [detachIf_kind, detachIf_kind]; exact fun _ => hpk
  · rw [detachIf_kind, detachIf_kind]; exact fun e => Kind.eq_sec hpk (hpd e)
  · rwa [detachIf_size]
  · rwa [detachIf_size]
  · intro c hc hkc
    rw [detachIf_parent] at hc
    split at hc
    · cases hc
    · rw [detachIf_kind, detachIf_kind] at hkc
      rw [detachIf_name, detachIf_name]
      exact nameIn_false.mp hnm c (hkc ▸ w.kid_mem hc)
  · rwa [detachIf_kind, detachIf_secs, if_neg hnotp]
  · rwa [detachIf_kind, detachIf_props, if_neg hnotp]

theorem wf_appendedS {h : H} (w : WF h) {p x : Nat} (hps : p < h.size) (hxs : x < h.size)
    (hk : (h.node x).kind = .sec) (hpk : (h.node p).kind ≠ .prop)
    (hcyc : cycleCheck h p x = false)
    (hnm : nameIn h (h.node p).secs (h.node x).name = false) : WF (appendedS h p x) := by
  have := wf_placed (f := (· ++ [x])) w hps hxs (by rw [hk]; decide) hpk
    (fun e => by rw [hk] at e; cases e) (meetsUp_false w hcyc) (by rwa [hk])
    (List.perm_append_singleton x _)
  rwa [hk] at this

theorem wf_appendedP {h : H} (w : WF h) {p x : Nat} (hps : p < h.size) (hxs : x < h.size)
    (hk : (h.node x).kind = .prop) (hpk : (h.node p).kind = .sec)
    (hnm : nameIn h (h.node p).props (h.node x).name = false) : WF (appendedP h p x) := by
  have := wf_placed (f := (· ++ [x])) w hps hxs (by rw [hk]; decide) (by rw [hpk]; decide)
    (fun _ => by rw [hpk]; decide) (w.not_anc_of_prop hk (by rw [hpk]; decide)) (by rwa [hk])
    (List.perm_append_singleton x _)
  rwa [hk] at this

theorem adopt_placed {h : H} (w : WF h) {p x : Nat} {ls lp : List Nat} {f : Node → Node}
    (hf : f (h.node p) = { h.node p with secs := ls, props := lp })
    (hxp : x ≠ p) (hnotp : (h.node x).parent ≠ some p) :
    adopt (upd h p f) p x = some (attach (detachIf h x) p x ls lp) := by
  rw [upd_congr (g := fun n => { n with secs := ls, props := lp }) hf]
  unfold adopt detachIf
  rw [upd_other _ _ _ _ hxp]
  cases hpar : (h.node x).parent with
  | none => rfl
  | some q =>
    have hqp : q ≠ p := fun e => hnotp (e ▸ hpar)
    have hqx : q ≠ x := w.parent_ne hpar
    obtain ⟨hS, hP, hk⟩ := w.listed hpar
    simp only [if_neg hqp]
    rw [removeChild_of_listed (by rwa [upd_other _ _ _ _ hxp, upd_other _ _ _ _ hqp])
      (by rwa [upd_other _ _ _ _ hxp, upd_other _ _ _ _ hqp]) (by rwa [upd_other _ _ _ _ hxp])]
    simp only [Option.some.injEq]
    refine H.ext' (fun j => ?_) rfl
    simp only [attach, detach, upd_node]
    by_cases h1 : j = x
    · subst h1; simp [hxp, hqx.symm]
    · by_cases h2 : j = p
      · subst h2; simp [h1, hqp.symm]
      · by_cases h3 : j = q
        · subst h3; simp [h1, h2]
        · simp [h1, h2, h3]

theorem append_sec_unfold {h : H} {p x : Nat} (hkx : (h.node x).kind = .sec)
    (hpk : (h.node p).kind ≠ .prop) :
    append h p x =
      if cycleCheck h p x then (h, .raised .valueError)
      else if nameIn h (h.node p).secs (h.node x).name then (h, .raised .keyError)
      else
        match adopt (upd h p (fun n => { n with secs := n.secs ++ [x] })) p x with
        | some h2 => (h2, .ok)
        | none => (upd h p (fun n => { n with secs := n.secs ++ [x] }), .raised .valueError) := by
  unfold append
  cases hp : (h.node p).kind
  · simp only [hkx]; rfl
  · simp only [hkx]; rfl
  · exact absurd hp hpk

theorem append_prop_unfold {h : H} {p x : Nat} (hkx : (h.node x).kind = .prop)
    (hpk : (h.node p).kind = .sec) :
    append h p x =
      if nameIn h (h.node p).props (h.node x).name then (h, .raised .keyError)
      else
        match adopt (upd h p (fun n => { n with props := n.props ++ [x] })) p x with
        | some h2 => (h2, .ok)
        | none => (upd h p (fun n => { n with props := n.props ++ [x] }), .raised .valueError) := by
  unfold append
  simp only [hkx, hpk]; rfl

theorem append_refused_kinds {h : H} {p x : Nat}
    (hk : (h.node p).kind = .prop ∨ (h.node x).kind = .doc ∨
      ((h.node p).kind = .doc ∧ (h.node x).kind = .prop)) :
    ∃ e, append h p x = (h, .raised e) := by
  unfold append
  cases hp : (h.node p).kind <;> cases hx : (h.node x).kind <;> simp_all

theorem append_unfold {h : H} {p x : Nat} (hkx : (h.node x).kind ≠ .doc)
    (hpk : (h.node p).kind ≠ .prop) (hpd : (h.node x).kind = .prop → (h.node p).kind ≠ .doc) :
    append h p x =
      if (decide ((h.node x).kind = .sec) && cycleCheck h p x) then (h, .raised .valueError)
      else if nameIn h (kids (h.node x).kind (h.node p)) (h.node x).name then (h, .raised .keyError)
      else
        match adopt (upd h p (withKids (h.node x).kind (· ++ [x]))) p x with
        | some h2 => (h2, .ok)
        | none => (upd h p (withKids (h.node x).kind (· ++ [x])), .raised .valueError) := by
  cases hk : (h.node x).kind with
  | doc => exact absurd hk hkx
  | sec => exact append_sec_unfold hk hpk
  | prop => exact append_prop_unfold hk (Kind.eq_sec hpk (hpd hk))

theorem append_sec_eq {h : H} (w : WF h) {p x : Nat} (hk : (h.node x).kind = .sec)
    (hpk : (h.node p).kind ≠ .prop) (hcyc : cycleCheck h p x = false)
    (hnm : nameIn h (h.node p).secs (h.node x).name = false) :
    append h p x = (appendedS h p x, .ok) := by
  have hanc : ¬ Anc h x p := meetsUp_false w hcyc
  rw [append_sec_unfold hk hpk, hcyc, hnm,
    adopt_placed (ls := (h.node p).secs ++ [x]) (lp := (h.node p).props) w rfl
      (ne_of_not_anc hanc) fun hp => nameIn_false.mp hnm x ((w.memS p x).mpr ⟨hp, hk⟩) rfl]
  rfl

theorem append_prop_eq {h : H} (w : WF h) {p x : Nat} (hk : (h.node x).kind = .prop)
    (hpk : (h.node p).kind = .sec)
    (hnm : nameIn h (h.node p).props (h.node x).name = false) :
    append h p x = (appendedP h p x, .ok) := by
  rw [append_prop_unfold hk hpk, hnm,
    adopt_placed (ls := (h.node p).secs) (lp := (h.node p).props ++ [x]) w rfl
      (fun e => by rw [e, hpk] at hk; cases hk)
      fun hp => nameIn_false.mp hnm x ((w.memP p x).mpr ⟨hp, hk⟩) rfl]
  rfl

set_option linter.unusedVariables false in
theorem append_spec {h : H} (w : WF h) {p x : Nat} (hps : p < h.size) (hxs : x < h.size) :
    (∃ e, append h p x = (h, .raised e)) ∨
    ((h.node x).kind = .sec ∧ (h.node p).kind ≠ .prop ∧ cycleCheck h p x = false ∧
      nameIn h (h.node p).secs (h.node x).name = false ∧ append h p x = (appendedS h p x, .ok)) ∨
    ((h.node x).kind = .prop ∧ (h.node p).kind = .sec ∧
      nameIn h (h.node p).props (h.node x).name = false ∧ append h p x = (appendedP h p x, .ok)) := by
  by_cases hpp : (h.node p).kind = .prop
  · exact Or.inl (append_refused_kinds (Or.inl hpp))
  cases hkx : (h.node x).kind with
  | doc => exact Or.inl (append_refused_kinds (Or.inr (Or.inl hkx)))
  | sec =>
    rcases Bool.eq_false_or_eq_true (cycleCheck h p x) with hcyc | hcyc
    · rw [append_sec_unfold hkx hpp, hcyc]; exact Or.inl ⟨_, rfl⟩
    rcases Bool.eq_false_or_eq_true (nameIn h (h.node p).secs (h.node x).name) with hnm | hnm
    · rw [append_sec_unfold hkx hpp, hcyc, hnm]; exact Or.inl ⟨_, rfl⟩
    exact Or.inr (Or.inl ⟨rfl, hpp, hcyc, hnm, append_sec_eq w hkx hpp hcyc hnm⟩)
  | prop =>
    by_cases hpd : (h.node p).kind = .doc
    · exact Or.inl (append_refused_kinds (Or.inr (Or.inr ⟨hpd, hkx⟩)))
    have hpk : (h.node p).kind = .sec := Kind.eq_sec hpp hpd
    rcases Bool.eq_false_or_eq_true (nameIn h (h.node p).props (h.node x).name) with hnm | hnm
    · rw [append_prop_unfold hkx hpk, hnm]; exact Or.inl ⟨_, rfl⟩
    exact Or.inr (Or.inr ⟨rfl, hpk, hnm, append_prop_eq w hkx hpk hnm⟩)

theorem append_wf {h : H} (w : WF h) {p x : Nat} (hps : p < h.size) (hxs : x < h.size) :
    Safe h (append h p x) := by
  rcases append_spec w hps hxs with h1 | ⟨hk, hpk, hc, hn, he⟩ | ⟨hk, hpk, hn, he⟩
  · exact Or.inl h1
  · exact he ▸ .ok (wf_appendedS w hps hxs hk hpk hc hn)
  · exact he ▸ .ok (wf_appendedP w hps hxs hk hpk hn)

theorem insert_unfold {h : H} {p x : Nat} {pos : Int} (hkx : (h.node x).kind ≠ .doc)
    (hpk : (h.node p).kind ≠ .prop) (hpd : (h.node x).kind = .prop → (h.node p).kind ≠ .doc) :
    insert h p pos x =
      if nameIn h (kids (h.node x).kind (h.node p)) (h.node x).name then (h, .raised .valueError)
      else if (decide ((h.node x).kind = .sec) && cycleCheck h p x) then (h, .raised .valueError)
      else
        match adopt (upd h p (withKids (h.node x).kind (pyInsert · pos x))) p x with
        | some h2 => (h2, .ok)
        | none => (upd h p (withKids (h.node x).kind (pyInsert · pos x)), .raised .valueError) := by
  unfold insert
  cases hk : (h.node x).kind with
  | doc => exact absurd hk hkx
  | sec =>
    cases hp : (h.node p).kind
    · rfl
    · rfl
    · exact absurd hp hpk
  | prop => rw [Kind.eq_sec hpk (hpd hk)]; rfl

theorem insert_refused_kinds {h : H} {p x : Nat} {pos : Int}
    (hk : (h.node p).kind = .prop ∨ (h.node x).kind = .doc ∨
      ((h.node p).kind = .doc ∧ (h.node x).kind = .prop)) :
    ∃ e, insert h p pos x = (h, .raised e) := by
  unfold insert
  cases hp : (h.node p).kind <;> cases hx : (h.node x).kind <;> simp_all

theorem insert_spec {h : H} (w : WF h) {p x : Nat} (pos : Int) (hps : p < h.size) (hxs : x < h.size) :
    Safe h (insert h p pos x) := by
  by_cases hpp : (h.node p).kind = .prop
  · exact Or.inl (insert_refused_kinds (Or.inl hpp))
  by_cases hkd : (h.node x).kind = .doc
  · exact Or.inl (insert_refused_kinds (Or.inr (Or.inl hkd)))
  by_cases hpd : (h.node p).kind = .doc ∧ (h.node x).kind = .prop
  · exact Or.inl (insert_refused_kinds (Or.inr (Or.inr hpd)))
  have hpd : (h.node x).kind = .prop → (h.node p).kind ≠ .doc := fun e1 e2 => hpd ⟨e2, e1⟩
  rw [insert_unfold hkd hpp hpd]
  refine .ite (fun _ => .refuse) fun hnm => .ite (fun _ => .refuse) fun hcyc => ?_
  have hnm := Bool.eq_false_iff.mpr hnm
  have hanc := not_anc_of_check w hkd hpp (Bool.eq_false_iff.mpr hcyc)
  rw [adopt_placed w (withKids_lists _ _ _) (ne_of_not_anc hanc)
    fun hp => nameIn_false.mp hnm x (w.kid_mem hp) rfl]
  exact .ok (wf_placed w hps hxs hkd hpp hpd hanc hnm (pyInsert_perm _ _ _))

/-- The handles a walk towards the root has passed: distinct, allocated, of larger rank than `cur`.
    Pigeonhole: the walk is shorter than the heap, so `size + 1` rounds are enough. -/
structure Trail (h : H) (d : Nat → Nat) (seen : List Nat) (cur : Nat) : Prop where
  nodup : seen.Nodup
  lt : ∀ s ∈ seen, s < h.size
  above : ∀ s ∈ seen, d cur < d s
  cur_lt : cur < h.size

theorem Trail.start {h : H} {d : Nat → Nat} {cur : Nat} (hc : cur < h.size) : Trail h d [] cur :=
  ⟨.nil, nofun, nofun, hc⟩

theorem Trail.step {h : H} {d : Nat → Nat} {seen : List Nat} {cur p : Nat} (w : WF h)
    (hd : ∀ c p, (h.node c).parent = some p → d p < d c) (t : Trail h d seen cur)
    (hp : (h.node cur).parent = some p) : Trail h d (cur :: seen) p := by
  have hlt := hd cur p hp
  exact ⟨List.nodup_cons.mpr ⟨fun hm => Nat.lt_irrefl _ (t.above cur hm), t.nodup⟩,
    List.forall_mem_cons.mpr ⟨t.cur_lt, t.lt⟩,
    List.forall_mem_cons.mpr ⟨hlt, fun s e => Nat.lt_trans hlt (t.above s e)⟩, w.parent_lt hp⟩

theorem Trail.length_lt {h : H} {d : Nat → Nat} {seen : List Nat} {cur : Nat}
    (t : Trail h d seen cur) : seen.length < h.size :=
  length_le_of_nodup_lt (l := cur :: seen)
    (List.nodup_cons.mpr ⟨fun hm => Nat.lt_irrefl _ (t.above cur hm), t.nodup⟩)
    (List.forall_mem_cons.mpr ⟨t.cur_lt, t.lt⟩)

theorem meetsUp_exact_aux {h : H} (w : WF h) (d : Nat → Nat)
    (hd : ∀ c p, (h.node c).parent = some p → d p < d c) (obj : Nat) :
    ∀ (fuel cur : Nat) (seen : List Nat), Trail h d seen cur → h.size ≤ seen.length + fuel →
      ¬ Anc h obj cur → meetsUp h fuel (some cur) obj = false := by
  intro fuel
  induction fuel with
  | zero => intro cur seen t hlen _; have := t.length_lt; omega
  | succ fuel ih =>
    intro cur seen t hlen hanc
    simp only [meetsUp]
    rw [if_neg fun e : cur = obj => hanc (e ▸ Anc.refl _)]
    -- `meetsUp` matches on the fuel before it sees `none`, hence the case split for `rfl`
    split
    · cases fuel <;> rfl
    · cases hp : (h.node cur).parent with
      | none => cases fuel <;> rfl
      | some p =>
        exact ih p (cur :: seen) (t.step w hd hp) (by simp only [List.length_cons]; omega)
          fun ha => hanc (Anc.step hp ha)

theorem cycleCheck_exact {h : H} (w : WF h) {p x : Nat} (hps : p < h.size) (hanc : ¬ Anc h x p) :
    cycleCheck h p x = false := by
  obtain ⟨d, hd⟩ := w.rank
  exact meetsUp_exact_aux w d hd x (h.size + 1) p [] (.start hps) (by simp) hanc

theorem not_anc_parent {h : H} (w : WF h) {x p : Nat} (hp : (h.node x).parent = some p) :
    ¬ Anc h x p := by
  obtain ⟨d, hd⟩ := w.rank
  intro ha
  have := Anc.rank_le hd ha
  have := hd x p hp
  omega

theorem meetsUp_congr {h h' : H}
    (hsame : ∀ i, (h'.node i).kind = (h.node i).kind ∧ (h'.node i).parent = (h.node i).parent)
    (fuel : Nat) (cur : Option Nat) (obj : Nat) :
    meetsUp h' fuel cur obj = meetsUp h fuel cur obj := by
  induction fuel generalizing cur with
  | zero => cases cur <;> rfl
  | succ fuel ih =>
    cases cur with
    | none => rfl
    | some c =>
      simp only [meetsUp]
      rw [(hsame c).1, (hsame c).2]
      split
      · rfl
      · exact ih _

theorem nameIn_congr {h h' : H} {l : List Nat} {name : String}
    (hn : ∀ c ∈ l, (h'.node c).name = (h.node c).name) : nameIn h' l name = nameIn h l name := by
  unfold nameIn
  induction l with
  | nil => rfl
  | cons a t ih =>
    simp only [List.any_cons]
    rw [hn a (List.mem_cons_self), ih (fun c hc => hn c (List.mem_cons_of_mem _ hc))]

/-- `adopt` when the object already reports `p` (the parent setter wrote `_parent` first). -/
theorem adopt_marked {g : H} {p x : Nat} {ls lp : List Nat} {f : Node → Node} (hxp : x ≠ p)
    (hf : f (g.node p) = { g.node p with secs := ls, props := lp }) :
    adopt (upd (upd g x (fun n => { n with parent := some p })) p f) p x =
      some (attach g p x ls lp) := by
  have hf' : f ((upd g x (fun n => { n with parent := some p })).node p) =
      { (upd g x (fun n => { n with parent := some p })).node p with secs := ls, props := lp } := by
    rw [upd_other _ _ _ _ (Ne.symm hxp)]; exact hf
  rw [upd_congr (g := fun n => { n with secs := ls, props := lp }) hf']
  unfold adopt
  rw [upd_other _ _ _ _ hxp, upd_same]
  simp only [if_true, Option.some.injEq]
  refine H.ext' (fun j => ?_) rfl
  simp only [attach, upd_node]
  by_cases h1 : j = x
  · subst h1; simp [hxp]
  · by_cases h2 : j = p
    · subst h2; simp [h1]
    · simp [h1, h2]

/-- If `p` was the parent, the only child of that name was `x` itself. -/
theorem nameIn_detachIf {h : H} (w : WF h) {p x : Nat}
    (hnm : (h.node x).parent = some p ∨
      nameIn h (kids (h.node x).kind (h.node p)) (h.node x).name = false) :
    nameIn (detachIf h x) (kids (h.node x).kind ((detachIf h x).node p)) (h.node x).name = false := by
  rw [nameIn_congr (h := h) (fun c _ => detachIf_name h x c), detachIf_kids, nameIn_false]
  split
  · rename_i hp
    intro c hc hn
    have hc' := (w.nodup_kids _ p).mem_erase_iff.mp hc
    have hcp := w.mem_kids hc'.2
    exact hc'.1 (w.sib hcp.1 hp hcp.2 hn)
  · rename_i hp; exact nameIn_false.mp (hnm.resolve_left hp)

/-- `p.append(x)` right after `x._parent = p` was written (the parent setter's last two
    statements), for a detached `x`. -/
theorem append_marked {g : H} (w : WF g) {p x : Nat} (hx : (g.node x).parent = none)
    (hkx : (g.node x).kind ≠ .doc) (hpk : (g.node p).kind ≠ .prop)
    (hpd : (g.node x).kind = .prop → (g.node p).kind ≠ .doc) (hps : p < g.size)
    (hxs : x < g.size) (hanc : ¬ Anc g x p)
    (hnm : nameIn g (kids (g.node x).kind (g.node p)) (g.node x).name = false) :
    ∃ g', append (upd g x (fun n => { n with parent := some p })) p x = (g', .ok) ∧ WF g' := by
  have hxp : x ≠ p := ne_of_not_anc hanc
  have hnode : ∀ j, j ≠ x → (upd g x (fun n => { n with parent := some p })).node j = g.node j :=
    fun j hj => upd_other _ _ _ _ hj
  have hcyc : cycleCheck (upd g x (fun n => { n with parent := some p })) p x = false := by
    have hc0 := cycleCheck_exact w hps hanc
    unfold cycleCheck at hc0 ⊢
    rwa [upd_size, meetsUp_frame (z := x) (fun i hi => by rw [hnode i hi]; exact ⟨rfl, rfl⟩) hc0]
  have hnm2 : nameIn (upd g x (fun n => { n with parent := some p }))
      (kids (g.node x).kind (g.node p)) (g.node x).name = false := by
    rw [nameIn_congr (h := g) fun c hc => by
      rw [hnode c]; rintro rfl
      have := (w.mem_kids hc).1; rw [hx] at this; cases this]
    exact hnm
  obtain ⟨hS, hP⟩ := withKids_perm (f := (· ++ [x])) (n := g.node p) hkx
    (List.perm_append_singleton x _)
  rw [append_unfold (by rw [upd_same]; exact hkx) (by rw [hnode p hxp.symm]; exact hpk)
      (by rw [upd_same, hnode p hxp.symm]; exact hpd), hcyc, hnode p hxp.symm, upd_same, hnm2,
    Bool.and_false, adopt_marked hxp (withKids_lists _ _ _)]
  exact ⟨_, rfl, wf_attach w hx hkx (fun _ => hpk) (fun e => Kind.eq_sec hpk (hpd e)) hanc hxs hps
    (fun c hc hkc => nameIn_false.mp hnm c (hkc ▸ w.kid_mem hc)) hS hP⟩

theorem setParent_spec {h : H} (w : WF h) {x : Nat} (np : Option Nat) (hxs : x < h.size)
    (hnp : ∀ p, np = some p → p < h.size) : Safe h (setParent h x np) := by
  unfold setParent
  refine .ite (fun _ => .refuse) fun hkd => ?_
  cases np with
  | none =>
    cases hpar : (h.node x).parent with
    | none => exact .ok w
    | some q =>
      simp only [removeChild_some w hpar]
      exact .ok (wf_detach w hpar)
  | some p =>
    dsimp only
    refine .ite (fun _ => .refuse) fun hval => .ite (fun _ => .refuse) fun hclash =>
      .ite (fun _ => .refuse) fun hcyc => ?_
    have hpk : (h.node p).kind ≠ .prop := fun e => hval (by simp [e])
    have hpd : (h.node x).kind = .prop → (h.node p).kind ≠ .doc := fun e1 e2 =>
      hval (by simp [e1, e2])
    have hanc : ¬ Anc h x p := by
      by_cases hsame : (h.node x).parent = some p
      · exact not_anc_parent w hsame
      · exact not_anc_of_check w hkd hpk (by simpa [hsame] using hcyc)
    have hnm : (h.node x).parent = some p ∨
        nameIn h (kids (h.node x).kind (h.node p)) (h.node x).name = false := by
      by_cases hsame : (h.node x).parent = some p
      · exact .inl hsame
      · refine .inr ?_
        cases hk : (h.node x).kind with
        | doc => exact absurd hk hkd
        | sec => simpa [hsame, hk, kids] using hclash
        | prop => simpa [hsame, hk, kids] using hclash
    split
    · rename_i heq; cases (removeChild_parent_detachIf w x).symm.trans heq
    · rename_i h1 heq
      cases (removeChild_parent_detachIf w x).symm.trans heq
      refine Or.inr (append_marked (wf_detachIf w x) ?_ ?_ ?_ ?_ ?_ ?_
        (fun ha => hanc (.of_detachIf ha)) ?_)
      · rw [detachIf_parent, if_pos rfl]
      · rwa [detachIf_kind]
      · rwa [detachIf_kind]
      · rwa [detachIf_kind, detachIf_kind]
      · rw [detachIf_size]; exact hnp p rfl
      · rwa [detachIf_size]
      · rw [detachIf_kind, detachIf_name]; exact nameIn_detachIf w hnm

theorem reorder_spec {h : H} (w : WF h) (x : Nat) (ni : Int) : Safe h (reorder h x ni) := by
  unfold reorder
  refine .ite (fun _ => .refuse) fun _ => ?_
  split
  · exact .refuse
  rename_i p hp
  refine .ite (fun _ => .refuse) fun _ => .ite (fun _ => ?_) fun _ =>
    .ite (fun _ => .refuse) fun _ => ?_
  · split
    · exact .refuse
    · exact .ok (wf_upd_lists w (w.parent_lt hp) (fun _ => rfl) (fun _ => rfl) (fun _ => rfl)
        (reorderList_perm ‹_›) (.refl _))
  · split
    · exact .refuse
    · exact .ok (wf_upd_lists w (w.parent_lt hp) (fun _ => rfl) (fun _ => rfl) (fun _ => rfl)
        (.refl _) (reorderList_perm ‹_›))

theorem rename_spec {h : H} (w : WF h) {x : Nat} (new : String) (hxs : x < h.size) :
    Safe h (rename h x new) := by
  unfold rename
  refine .ite (fun _ => .refuse) fun _ => .ite (fun _ => .ok w) fun _ => ?_
  dsimp only
  generalize (if new = "" then (h.node x).id else new) = new'
  refine .ite (fun _ => .ok w) fun _ => .ite (fun _ => .refuse) fun hcl => .ok ?_
  -- the sibling check passed: no other child of the parent has the new name
  refine wf_upd w hxs (fun _ => rfl) (fun _ => rfl) (.refl _) (.refl _) ?_
  intro q c hq hc hkc _
  rw [hq] at hcl
  dsimp only at hcl
  rcases w.kind_of_parent hq with hk | hk
  · rw [if_pos hk] at hcl
    exact nameIn_false.mp (Bool.eq_false_iff.mpr hcl) c ((w.memS q c).mpr ⟨hc, hkc.trans hk⟩)
  · rw [if_neg (by rw [hk]; decide), if_neg (by rw [w.parP x q hq hk]; decide)] at hcl
    exact nameIn_false.mp (Bool.eq_false_iff.mpr hcl) c ((w.memP q c).mpr ⟨hc, hkc.trans hk⟩)

theorem construct_spec {h : H} (w : WF h) (k : Kind) (name id : String) (parent : Option Nat)
    (argsOk : Bool) (hp : ∀ p, parent = some p → p < h.size) :
    Safe h (construct h k name id parent argsOk) := by
  unfold construct
  refine .ite (fun _ => .refuse) fun _ => ?_
  have wa := wf_alloc w k name id
  have hsz : (alloc h k name id).1.size = h.size + 1 := rfl
  dsimp only
  split
  · exact .ok wa
  · exact .ok wa
  · rename_i p _
    have hps := hp p rfl
    rcases setParent_spec wa (x := h.size) (some p) (by omega)
      (by intro q hq; cases hq; omega) with ⟨e, he⟩ | ⟨h', he, wh⟩
    · rw [show (alloc h k name id).2 = h.size from rfl, he]; exact .refuse
    · rw [show (alloc h k name id).2 = h.size from rfl, he]; exact .ok wh

/-- The checking loop sees a heap only through kinds, names, the walk of the cycle check and the
    names taken in `p`, listed or met earlier in the argument. -/
theorem extendCheck_congr {g g' : H} {p : Nat} (hkind : ∀ c, (g'.node c).kind = (g.node c).kind)
    (hname : ∀ c, (g'.node c).name = (g.node c).name)
    (hcyc : ∀ y, cycleCheck g' p y = cycleCheck g p y) :
    ∀ (xs : List Nat) (sn sn' pn pn' : List String),
      (∀ n, (nameIn g' (g'.node p).secs n || sn.contains n) =
        (nameIn g (g.node p).secs n || sn'.contains n)) →
      (∀ n, (nameIn g' (g'.node p).props n || pn.contains n) =
        (nameIn g (g.node p).props n || pn'.contains n)) →
      extendCheck g' p xs sn pn = extendCheck g p xs sn' pn' := by
  intro xs
  induction xs with
  | nil => intros; rfl
  | cons y ys ih =>
    intro sn sn' pn pn' hS hP
    have push : ∀ {a b : List String} {f f' : String → Bool} (m : String),
        (∀ n, (f' n || a.contains n) = (f n || b.contains n)) →
        ∀ n, (f' n || (m :: a).contains n) = (f n || (m :: b).contains n) := by
      intro a b f f' m hab n
      simp only [List.contains_cons]
      rw [Bool.or_left_comm, hab n, Bool.or_left_comm]
    simp only [extendCheck, hkind, hname, hcyc, hS, hP]
    rw [ih ((g.node y).name :: sn) ((g.node y).name :: sn') pn pn' (push _ hS) hP,
      ih sn sn' ((g.node y).name :: pn) ((g.node y).name :: pn') hS (push _ hP)]

theorem of_ite_some_eq_none {α : Type} {c : Prop} [Decidable c] {e : α} {r : Option α}
    (h : (if c then some e else r) = none) : ¬ c ∧ r = none := by
  split at h
  · cases h
  · exact ⟨‹_›, h⟩

/-- A passed check makes every append of the loop succeed: the names `extendCheck` kept in its
    accumulators are those the loop has meanwhile put into `p` (`extendCheck_congr`). -/
theorem appendAll_ok {p : Nat} : ∀ (xs : List Nat) (g : H), WF g → p < g.size →
    (g.node p).kind ≠ .prop → (∀ x ∈ xs, x < g.size) → extendCheck g p xs [] [] = none →
    ∃ g', appendAll g p xs = (g', .ok) ∧ WF g' := by
  intro xs
  induction xs with
  | nil => intro g wg _ _ _ _; exact ⟨g, rfl, wg⟩
  | cons x xs ih =>
    intro g wg hps hpk hlt hc
    have hxlt := hlt x List.mem_cons_self
    simp only [extendCheck] at hc
    simp only [appendAll]
    -- what `extendCheck_congr` asks of the heap after `x` went in
    have step : ∀ {ls lp : List Nat} {sn pn : List String}, cycleCheck g p x = false →
        (∀ n, (nameIn g ls n || [].contains n) = (nameIn g (g.node p).secs n || sn.contains n)) →
        (∀ n, (nameIn g lp n || [].contains n) = (nameIn g (g.node p).props n || pn.contains n)) →
        extendCheck g p xs sn pn = none → WF (attach (detachIf g x) p x ls lp) →
        ∃ g', appendAll (attach (detachIf g x) p x ls lp) p xs = (g', .ok) ∧ WF g' := by
      intro ls lp sn pn hwalk hS hP hc wg'
      have hkind : ∀ c, ((attach (detachIf g x) p x ls lp).node c).kind = (g.node c).kind :=
        fun c => by rw [attach_kind, detachIf_kind]
      have hname : ∀ c, ((attach (detachIf g x) p x ls lp).node c).name = (g.node c).name :=
        fun c => by rw [attach_name, detachIf_name]
      have hsize : (attach (detachIf g x) p x ls lp).size = g.size := detachIf_size g x
      refine ih _ wg' (by rwa [hsize]) (by rwa [hkind]) (fun y hy => by
        rw [hsize]; exact hlt y (List.mem_cons_of_mem _ hy)) ?_
      have hcyc : ∀ y, cycleCheck (attach (detachIf g x) p x ls lp) p y = cycleCheck g p y := by
        intro y
        unfold cycleCheck at hwalk ⊢
        rw [hsize, meetsUp_frame (z := x) (fun i hi => ⟨hkind i, by
          rw [attach_parent, if_neg hi, detachIf_parent, if_neg hi]⟩) hwalk]
      rw [extendCheck_congr hkind hname hcyc xs [] sn [] pn
        (fun n => by rw [attach_secs, if_pos rfl, nameIn_congr (h := g) fun c _ => hname c]; exact hS n)
        (fun n => by rw [attach_props, if_pos rfl, nameIn_congr (h := g) fun c _ => hname c]; exact hP n)]
      exact hc
    have taken : ∀ (l : List Nat) (n : String),
        (nameIn g (l ++ [x]) n || ([] : List String).contains n) =
          (nameIn g l n || [(g.node x).name].contains n) := fun l n => by
      simp only [nameIn, List.any_append, List.any_cons, List.any_nil, List.contains_cons,
        List.contains_nil, Bool.or_false, BEq.comm (a := n)]
    cases hk : (g.node x).kind with
    | doc => simp [hk] at hc
    | sec =>
      simp only [hk] at hc
      obtain ⟨hnm, hc⟩ := of_ite_some_eq_none hc
      obtain ⟨hcyc, hc⟩ := of_ite_some_eq_none hc
      have hnm : nameIn g (g.node p).secs (g.node x).name = false := by simpa using hnm
      have hcyc := Bool.eq_false_iff.mpr hcyc
      rw [append_sec_eq wg hk hpk hcyc hnm]
      exact step hcyc (taken _) (fun n => rfl) hc
        (wf_appendedS wg hps hxlt hk hpk hcyc hnm)
    | prop =>
      simp only [hk] at hc
      obtain ⟨hpd, hc⟩ := of_ite_some_eq_none hc
      obtain ⟨hnm, hc⟩ := of_ite_some_eq_none hc
      have hnm : nameIn g (g.node p).props (g.node x).name = false := by simpa using hnm
      have hpsec : (g.node p).kind = .sec := Kind.eq_sec hpk hpd
      rw [append_prop_eq wg hk hpsec hnm]
      -- a Property is nobody's ancestor: the walk from `p` does not meet it
      have hwalk : cycleCheck g p x = false :=
        cycleCheck_exact wg hps (wg.not_anc_of_prop hk hpk)
      exact step hwalk (fun n => rfl) (taken _) hc
        (wf_appendedP wg hps hxlt hk hpsec hnm)

theorem extend_spec {h : H} (w : WF h) {p : Nat} (xs : List Nat) (hps : p < h.size)
    (hxs : ∀ x ∈ xs, x < h.size) : Safe h (extend h p xs) := by
  unfold extend
  refine .ite (fun _ => .refuse) fun hpk => ?_
  split
  · exact .refuse
  · exact Or.inr (appendAll_ok xs h w hps hpk hxs ‹_›)

end Heap
