/-
C02 helper lemmas: what the writer's refusal (`writeRefused`, ParserException on a tuple item
containing a comma) decides. On a valid document the writer refuses exactly the documents the
bracketed tuple text cannot represent, so "refused or round trip" holds.
-/
import OdmlModel.Proofs.DictRound

namespace Dict

theorem itemHasComma_eq (v : J) : itemHasComma v = !tupleItemRepr v := by
  cases v <;> simp [itemHasComma, tupleItemRepr]

theorem valHasComma_eq (v : J) : valHasComma v = !valRepr v := by
  cases v <;> simp [valHasComma, valRepr, List.any_eq_not_all_not, itemHasComma_eq]

/-- A stored value of a non-tuple dtype class is not a list. -/
theorem valRepr_of_valOk (lib : Lib) (k : DtKind) (v : J) (hk : notTupleKind k = true)
    (hv : valOk lib k v = true) : valRepr v = true := by
  cases v <;> first | rfl | (cases k <;> simp [valOk, notTupleKind] at hv hk)

/-- On a valid Property the writer's refusal test is exact: not refused means every value can be
    carried by the bracketed text form. -/
theorem valuesRepr_of_not_refused (lib : Lib) (p : Prp) (hwf : wfProp lib p = true)
    (hnr : propWriteRefused p = false) : p.values.all valRepr = true := by
  simp only [wfProp, Bool.and_eq_true] at hwf
  cases hd : p.dtype with
  | none => simp [show p.values = [] by simpa [hd] using hwf.2]
  | some dt =>
    simp only [hd, Bool.and_eq_true, beq_iff_eq] at hwf
    obtain ⟨_, ⟨⟨hne, _⟩, hlow⟩, hall⟩ := hwf
    rw [List.all_eq_true]
    intro v hv
    cases ht : isTupleDtype dt with
    | true =>
      -- tuple dtype: the refusal test looked at every value
      simp only [propWriteRefused, hd, hne, ht, Bool.and_self, Bool.true_and,
        List.isEmpty_eq_false_iff.2 (List.ne_nil_of_mem hv), Bool.not_false] at hnr
      simpa [valHasComma_eq] using List.any_eq_false.1 hnr v hv
    | false =>
      -- any other dtype: stored values are scalars
      exact valRepr_of_valOk lib _ v (classify_not_tuple_of hlow ht) (List.all_eq_true.1 hall v hv)

theorem reprProp_of_not_refused (lib : Lib) (p : Prp) (hwf : wfProp lib p = true)
    (ha : atomsProp p = true) (hnr : propWriteRefused p = false) : reprProp p = true := by
  simp only [atomsProp, Bool.and_eq_true] at ha
  simp only [reprProp, Bool.and_eq_true]
  exact ⟨ha, valuesRepr_of_not_refused lib p hwf hnr⟩

mutual
theorem reprSec_of_not_refused (lib : Lib) : (s : Sec) → wfSec lib s = true → atomsSec s = true →
    secWriteRefused s = false → reprSec s = true
  | .mk _ _ _ _ _ _ _ _ _ _ props secs, hwf, ha, hnr => by
    simp only [wfSec, Bool.and_eq_true] at hwf
    simp only [atomsSec, Bool.and_eq_true] at ha
    simp only [secWriteRefused, Bool.or_eq_false_iff] at hnr
    simp only [reprSec, Bool.and_eq_true]
    have hps := List.all_eq_true.1 hwf.1.1.1.2
    have has := List.all_eq_true.1 ha.1.2
    have hrs := List.any_eq_false.1 hnr.1
    exact ⟨⟨ha.1.1, List.all_eq_true.2 fun p hp =>
        reprProp_of_not_refused lib p (hps p hp) (has p hp) (by simpa using hrs p hp)⟩,
      reprSecs_of_not_refused lib secs hwf.1.2 ha.2 hnr.2⟩
theorem reprSecs_of_not_refused (lib : Lib) : (l : List Sec) → wfSecs lib l = true →
    atomsSecs l = true → secsWriteRefused l = false → reprSecs l = true
  | [], _, _, _ => rfl
  | s :: r, hwf, ha, hnr => by
    simp only [wfSecs, Bool.and_eq_true] at hwf
    simp only [atomsSecs, Bool.and_eq_true] at ha
    simp only [secsWriteRefused, Bool.or_eq_false_iff] at hnr
    simp only [reprSecs, Bool.and_eq_true]
    exact ⟨reprSec_of_not_refused lib s hwf.1 ha.1 hnr.1, reprSecs_of_not_refused lib r hwf.2 ha.2 hnr.2⟩
end

theorem dictRepr_of_not_refused (lib : Lib) (d : Doc) (hwf : wfDoc lib d = true)
    (ha : atomsDoc d = true) (hnr : writeRefused d = false) : dictRepr d = true := by
  simp only [wfDoc, Bool.and_eq_true] at hwf
  simp only [atomsDoc, Bool.and_eq_true] at ha
  simp only [dictRepr, Bool.and_eq_true]
  exact ⟨ha.1, reprSecs_of_not_refused lib d.secs hwf.1.2 ha.2 hnr⟩

theorem not_refused_of_reprProps (ps : List Prp) (h : ps.all reprProp = true) :
    ps.any propWriteRefused = false := by
  rw [List.any_eq_false]
  intro p hp
  have hr := (List.all_eq_true.1 h) p hp
  simp only [reprProp, Bool.and_eq_true] at hr
  simp [propWriteRefused, List.any_eq_not_all_not, valHasComma_eq, hr.2]

mutual
theorem not_refused_of_reprSec : (s : Sec) → reprSec s = true → secWriteRefused s = false
  | .mk _ _ _ _ _ _ _ _ _ _ props secs, hr => by
    simp only [reprSec, Bool.and_eq_true] at hr
    simp only [secWriteRefused, Bool.or_eq_false_iff]
    exact ⟨not_refused_of_reprProps props hr.1.2, not_refused_of_reprSecs secs hr.2⟩
theorem not_refused_of_reprSecs : (l : List Sec) → reprSecs l = true → secsWriteRefused l = false
  | [], _ => rfl
  | s :: r, hr => by
    simp only [reprSecs, Bool.and_eq_true] at hr
    simp only [secsWriteRefused, Bool.or_eq_false_iff]
    exact ⟨not_refused_of_reprSec s hr.1, not_refused_of_reprSecs r hr.2⟩
end

/-- A document inside `dictRepr` is never refused by the writer. -/
theorem not_refused_of_dictRepr (d : Doc) (h : dictRepr d = true) : writeRefused d = false := by
  simp only [dictRepr, Bool.and_eq_true] at h
  exact not_refused_of_reprSecs d.secs h.2

end Dict
