/-
C16 — the denotation of an XML input tree (`denoteTag`, `tagProblems`, `tagRepeats`) and the proof
that `parseTag` computes it for every tree (`parse_spec`). See `Proofs/ReaderSpec.lean`.
-/
import OdmlModel.Proofs.ReaderSpec

namespace Reader

variable {g : Guards} {env : Env} {m : Mode}

/-- `from_csv` refuses the text of a `<value>` element -/
def argProblem (env : Env) (kind : Kind) (t : Str) (text : Option Str) : Nat :=
  if mapName kind t == "values".toList && (curText text).truthy && env.csvFails (text.getD []) then 1
  else 0

/-- "Element is given multiple times" -/
def argRepeat (kind : Kind) (t : Str) (a : Args) : Nat :=
  if a.has (mapName kind t) then 1 else 0

/-- the keyword arguments after the element -/
def argOf (env : Env) (kind : Kind) (t : Str) (text : Option Str) (a : Args) : Args :=
  let an := mapName kind t
  let cur := curText text
  let raw := text.getD []
  if an == "values".toList && cur.truthy then
    if env.csvFails raw then a else a.set an (.values raw)
  else if endsWith an "_cardinality".toList && cur.truthy then
    a.set an (.card (Card.parseCardText raw))
  else a.set an cur

theorem argStep_spec (hcsv : g.guardCsv = true) (hdec : g.decimalCard = true)
    (kind : Kind) (t : Str) (text : Option Str) (a : Args) (e : List Str)
    (c : List (Obj Str)) (w : Nat) :
    argStep g env m kind t text ⟨a, e, c, w⟩
      = outcome m (argProblem env kind t text)
          ⟨argOf env kind t text a, e, c, w + argRepeat kind t a + argProblem env kind t text⟩ := by
  have hw : (if a.has (mapName kind t) then w + 1 else w) = w + argRepeat kind t a := by
    unfold argRepeat; split <;> rfl
  unfold argStep argProblem argOf
  simp only [hcsv, hdec, if_true, Bool.not_true, Bool.false_and, hw]
  by_cases h1 : (mapName kind t == "values".toList && (curText text).truthy) = true
  · by_cases h2 : env.csvFails (text.getD []) = true
    · simp only [h1, h2, if_true, Bool.and_self]
      exact raiseOrWarn_bind (pure_eq_outcome m _) rfl rfl
    · simp only [h1, h2, if_true, Bool.and_false, Bool.false_eq_true, if_false]
      exact pure_eq_outcome m _
  · simp only [h1, Bool.false_and, Bool.false_eq_true, if_false]
    split <;> exact pure_eq_outcome m _

/-- What the child loop of `parse_tag` does with an element whose lower-cased tag is `t`. -/
inductive KidClass where
  | object (k : Kind)     -- an odML object of its own: `parse_element(node)`
  | arg                   -- an argument of the enclosing object
  | unknown               -- not an element of this format
  deriving DecidableEq, Repr

def kidClass (kind : Kind) (t : Str) : KidClass :=
  if isArgKey kind t then
    match kindOfTag t, inMapKeys kind t with
    | some k', true => .object k'
    | _, _ => .arg
  else .unknown

/-- the keyword arguments collected from the argument elements, in document order -/
def specArgs (env : Env) (kind : Kind) : List Xml → Args → Args
  | [], a => a
  | .other _ :: rest, a => specArgs env kind rest a
  | .elem t0 _ text _ :: rest, a =>
    match kidClass kind (Py.lower t0) with
    | .arg => specArgs env kind rest (argOf env kind (Py.lower t0) text a)
    | _ => specArgs env kind rest a

/-- the keys of `extra_args`: one per object child -/
def specExtra (kind : Kind) : List Xml → List Str
  | [] => []
  | .other _ :: rest => specExtra kind rest
  | .elem t0 _ _ _ :: rest =>
    match kidClass kind (Py.lower t0) with
    | .object _ => mapName kind (Py.lower t0) :: specExtra kind rest
    | _ => specExtra kind rest

/-- The object `fmt.create(**args)` gives; the default object when it raises. -/
def created (env : Env) (kind : Kind) (args : Args) : Obj Str :=
  if env.createFails kind args then Obj.mk kind Name.fresh false [] []
  else Obj.mk kind (objName env kind args) true [] []

/-- `insert_children`: attach the valid ones of the parsed children -/
def attach (insert : Bool) (base : Obj Str) (children : List (Obj Str)) : Obj Str :=
  if insert then keepValid (· == ·) base children else base

mutual
/-- **The valid parts of an element**: the object made from its argument elements, with the valid
    parts of its Section / Property children attached unless the parent cannot hold the sort or
    an earlier kept sibling of the sort has the name. -/
def denoteTag (env : Env) (kind : Kind) (insert : Bool) : Xml → Obj Str
  | .other _ => Obj.mk kind Name.fresh false [] []
  | .elem _ _ _ kids =>
    attach insert (created env kind (specArgs env kind kids [])) (denoteKids env kind kids)
/-- the valid parts of the object children of an element of kind `kind`, in document order -/
def denoteKids (env : Env) (kind : Kind) : List Xml → List (Obj Str)
  | [] => []
  | .other _ :: rest => denoteKids env kind rest
  | .elem t0 attrs text kids :: rest =>
    match kidClass kind (Py.lower t0) with
    | .object k' => denoteTag env k' (k' != .prop) (.elem t0 attrs text kids) :: denoteKids env kind rest
    | _ => denoteKids env kind rest
end

mutual
/-- **The problems of an element** (each one a call of `self.error`): unsupported attributes,
    unknown child elements (reported twice), values `from_csv` refuses, missing mandatory elements,
    a constructor that refuses the arguments, children that cannot be attached — of the element and
    of every object element below it. -/
def tagProblems (env : Env) (kind : Kind) (insert : Bool) (tag : Str) : Xml → Nat
  | .other _ => 0
  | .elem _ attrs _ kids =>
    attrProblems tag attrs + kidsProblems env kind kids
      + mandatoryMissing kind ((specArgs env kind kids []).map (·.1) ++ specExtra kind kids) (argTable kind)
      + (if env.createFails kind (specArgs env kind kids []) then 1 else 0)
      + (if insert then
          refusedCount (· == ·) (created env kind (specArgs env kind kids [])) (denoteKids env kind kids)
         else 0)
def kidsProblems (env : Env) (kind : Kind) : List Xml → Nat
  | [] => 0
  | .other _ :: rest => kidsProblems env kind rest
  | .elem t0 attrs text kids :: rest =>
    match kidClass kind (Py.lower t0) with
    | .object k' =>
      tagProblems env k' (k' != .prop) (Py.lower t0) (.elem t0 attrs text kids) + kidsProblems env kind rest
    | .arg => argProblem env kind (Py.lower t0) text + kidsProblems env kind rest
    | .unknown => 2 + kidsProblems env kind rest
end

mutual
/-- The "given multiple times" warnings of an element and of every object element below it. -/
def tagRepeats (env : Env) (kind : Kind) : Xml → Nat
  | .other _ => 0
  | .elem _ _ _ kids => kidsRepeats env kind kids []
def kidsRepeats (env : Env) (kind : Kind) : List Xml → Args → Nat
  | [], _ => 0
  | .other _ :: rest, a => kidsRepeats env kind rest a
  | .elem t0 attrs text kids :: rest, a =>
    match kidClass kind (Py.lower t0) with
    | .object k' => tagRepeats env k' (.elem t0 attrs text kids) + kidsRepeats env kind rest a
    | .arg => argRepeat kind (Py.lower t0) a
        + kidsRepeats env kind rest (argOf env kind (Py.lower t0) text a)
    | .unknown => kidsRepeats env kind rest a
end

theorem parseKids_elem (kind : Kind) (t0 : Str)
    (attrs : List (Str × Str)) (text : Option Str) (kids rest : List Xml) (st : Loop) :
    parseKids g env m kind (.elem t0 attrs text kids :: rest) st
      = match kidClass kind (Py.lower t0) with
        | .object k' =>
          parseTag g env m k' (k' != .prop) (Py.lower t0) (.elem t0 attrs text kids) st.w >>= fun p =>
            parseKids g env m kind rest
              { st with extra := st.extra ++ [mapName kind (Py.lower t0)],
                        children := st.children ++ [p.1], w := p.2 }
        | .arg => argStep g env m kind (Py.lower t0) text st >>= fun st' => parseKids g env m kind rest st'
        | .unknown =>
          raiseOrWarn m st.w >>= fun w1 => raiseOrWarn m w1 >>= fun w2 =>
            parseKids g env m kind rest { st with w := w2 } := by
  rw [parseKids]
  unfold kidClass
  cases isArgKey kind (Py.lower t0) <;> cases kindOfTag (Py.lower t0) <;>
    cases inMapKeys kind (Py.lower t0) <;> rfl

theorem finishTag_spec (hg : g.guardAppend = true) (kind : Kind)
    (insert : Bool) (a : Args) (e : List Str) (c : List (Obj Str)) (w : Nat) :
    finishTag g env m kind insert ⟨a, e, c, w⟩
      = outcome m
          (mandatoryMissing kind (a.map (·.1) ++ e) (argTable kind)
            + ((if env.createFails kind a then 1 else 0)
              + (if insert then refusedCount (· == ·) (created env kind a) c else 0)))
          (attach insert (created env kind a) c,
           w + mandatoryMissing kind (a.map (·.1) ++ e) (argTable kind)
            + ((if env.createFails kind a then 1 else 0)
              + (if insert then refusedCount (· == ·) (created env kind a) c else 0))) := by
  have ins : ∀ (o : Obj Str) (w1 : Nat),
      (if insert then insertChildren g m o c w1 else pure (o, w1))
        = outcome m (if insert then refusedCount (· == ·) o c else 0)
            (attach insert o c, w1 + (if insert then refusedCount (· == ·) o c else 0)) := by
    intro o w1
    cases insert with
    | true => exact insertChildren_eq g hg m o c w1
    | false => exact pure_eq_outcome m _
  unfold finishTag created
  dsimp only
  rw [checkMandatory_spec]
  refine outcome_bind ?_ rfl rfl
  split
  · rw [raiseOrWarn_pure]
    refine outcome_bind (ins _ _) rfl ?_
    dsimp only
    congr 1
    omega
  · refine (ins _ _).trans ?_
    congr 1
    · omega
    · congr 1
      omega

/-- **The XML reader returns the denotation of its input** — for every element tree of any depth,
    every mode, every `Env` and guards with `XmlOk`: the valid parts, one warning per
    problem and per repeated element; in strict mode a ParserException iff there is a problem.
    The second part is the same for the child loop, started in any state. -/
theorem parse_spec (hg : g.XmlOk) :
    (∀ (x : Xml) (kind : Kind) (insert : Bool) (tag : Str) (w : Nat), (∃ t a tx ks, x = .elem t a tx ks) →
      parseTag g env m kind insert tag x w
        = outcome m (tagProblems env kind insert tag x)
            (denoteTag env kind insert x,
             w + tagProblems env kind insert tag x + tagRepeats env kind x)) ∧
    (∀ (ks : List Xml) (kind : Kind) (a : Args) (e : List Str) (c : List (Obj Str)) (w : Nat),
      parseKids g env m kind ks ⟨a, e, c, w⟩
        = outcome m (kidsProblems env kind ks)
            ⟨specArgs env kind ks a, e ++ specExtra kind ks, c ++ denoteKids env kind ks,
             w + kidsProblems env kind ks + kidsRepeats env kind ks a⟩) := by
  obtain ⟨h1, h2, h3, h4⟩ := hg
  refine Xml.induct ?elem ?other ?nil ?cons
  case elem =>
    intro t a tx ks ih kind insert tag w _
    rw [parseTag]
    -- the `do` block, as the binds it stands for
    show (attrLoop m tag a w >>= fun w0 =>
      parseKids g env m kind ks ⟨[], [], [], w0⟩ >>= fun st => finishTag g env m kind insert st) = _
    simp only [attrLoop_spec, ih, tagProblems, denoteTag, tagRepeats]
    refine outcome_bind (outcome_bind (finishTag_spec h2 kind insert _ _ _ _) rfl rfl) ?_ ?_
    · simp only [List.nil_append]
      omega
    · simp only [List.nil_append]
      congr 1
      omega
  case other =>
    intro k kind insert tag w ⟨t, a, tx, ks, h⟩
    cases h
  case nil =>
    intro kind a e c w
    rw [parseKids]
    simp only [specArgs, specExtra, denoteKids, kidsProblems, kidsRepeats, List.append_nil, Nat.add_zero]
    exact pure_eq_outcome m _
  case cons =>
    intro x rest ihx ihr kind a e c w
    cases x with
    | other k =>
      rw [parseKids]
      simp only [h1, if_true, specArgs, specExtra, denoteKids, kidsProblems, kidsRepeats]
      exact ihr kind a e c w
    | elem t0 attrs text kids =>
      rw [parseKids_elem]
      simp only [specArgs, specExtra, denoteKids, kidsProblems, kidsRepeats]
      cases kidClass kind (Py.lower t0) with
      | object k' =>
        simp only
        rw [ihx k' (k' != .prop) (Py.lower t0) w ⟨_, _, _, _, rfl⟩]
        refine outcome_bind (ihr kind _ _ _ _) rfl ?_
        simp only [List.append_assoc, List.singleton_append]
        congr 1
        omega
      | arg =>
        simp only
        rw [argStep_spec h3 h4]
        refine outcome_bind (ihr kind _ _ _ _) rfl ?_
        congr 1
        omega
      | unknown =>
        simp only
        refine raiseOrWarn_bind (raiseOrWarn_bind (ihr kind _ _ _ _) rfl rfl) (by omega) ?_
        congr 1
        omega

end Reader
