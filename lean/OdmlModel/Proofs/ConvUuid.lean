/-
C15: `_check_add_ids` runs `_add_id` once per enclosing Section on every Property.  `uuid.UUID`
accepts the text it printed and prints it the same way (`parseUuid_idem`), so the runs after the
first leave the id alone (`idOf_idem`).
-/
import OdmlModel.Proofs.Conv
namespace Conv
open Conv.Xml

theorem isHex_iff (c : Char) : isHex c = true ↔
    (48 ≤ c.toNat ∧ c.toNat ≤ 57) ∨ (97 ≤ c.toNat ∧ c.toNat ≤ 102) ∨ (65 ≤ c.toNat ∧ c.toNat ≤ 70) := by
  simp only [isHex, Char.isDigit, Bool.or_eq_true, Bool.and_eq_true, decide_eq_true_eq, Char.le_def,
    ge_iff_le, UInt32.le_iff_toNat_le, Char.toNat, or_assoc]
  exact Iff.rfl

/-- The digits of the text `uuid.UUID` prints: `0`-`9` and `a`-`f`. -/
def LowHex (c : Char) : Prop := (48 ≤ c.toNat ∧ c.toNat ≤ 57) ∨ (97 ≤ c.toNat ∧ c.toNat ≤ 102)

theorem lowHex_toLower (c : Char) (h : isHex c = true) : LowHex c.toLower := by
  have := (isHex_iff c).1 h
  unfold LowHex
  rw [Py.toLower_toNat]
  split <;> omega

theorem LowHex.spec {c : Char} (h : LowHex c) :
    isHex c = true ∧ c.toLower = c ∧ c ≠ 'u' ∧ c ≠ '{' ∧ c ≠ '}' ∧ c ≠ '-' := by
  refine ⟨(isHex_iff c).2 (by unfold LowHex at h; omega), Char.toNat_inj.1 ?_, ?_, ?_, ?_, ?_⟩
  · rw [Py.toLower_toNat]; unfold LowHex at h; split <;> omega
  all_goals (rintro rfl; simp [LowHex] at h)

theorem removeAllGo_no_head (c0 : Char) (rest s : List Char) (h : c0 ∉ s) :
    removeAllGo (c0 :: rest) 0 s = s := by
  induction s with
  | nil => rfl
  | cons c cs ih =>
    have hc : (c0 == c) = false := by
      simp only [beq_eq_false_iff_ne, ne_eq]; intro e; apply h; simp [e]
    have hp : (c0 :: rest).isPrefixOf (c :: cs) = false := by simp [List.isPrefixOf, hc]
    simp only [removeAllGo, hp, Bool.false_and, Bool.false_eq_true, ↓reduceIte]
    rw [ih (fun hm => h (List.mem_cons_of_mem _ hm))]

theorem dropWhile_of_all_false (p : Char → Bool) (s : List Char) (h : ∀ c ∈ s, p c = false) :
    s.dropWhile p = s := by
  cases s with
  | nil => rfl
  | cons c cs => simp [List.dropWhile, h c (by simp)]

theorem uuidFmt_filter (h : List Char) (hc : ∀ c ∈ h, LowHex c) :
    (uuidFmt h).filter (· != '-') = h := by
  have key : ∀ n m, (h.drop n).take m ++ h.drop (n + m) = h.drop n := fun n m => by
    rw [← List.drop_drop, List.take_append_drop]
  have hd : (('-' : Char) != '-') = false := by decide
  -- the dashes go, the five pieces join to `h` again, and `h` holds no dash
  simp only [uuidFmt, List.filter_append, List.filter_cons, hd, Bool.false_eq_true, ↓reduceIte,
    List.append_assoc]
  rw [← List.filter_append, ← List.filter_append, ← List.filter_append, ← List.filter_append,
    (key 16 4 : _ ++ h.drop 20 = _), (key 12 4 : _ ++ h.drop 16 = _),
    (key 8 4 : _ ++ h.drop 12 = _), List.take_append_drop, List.filter_eq_self]
  intro c hm
  simpa using (hc c hm).spec.2.2.2.2.2

theorem uuidHex_uuidFmt (h : List Char) (hl : h.length = 32) (hc : ∀ c ∈ h, LowHex c) :
    uuidHex (uuidFmt h) = some h := by
  have hne : ∀ c ∈ uuidFmt h, c ≠ 'u' ∧ c ≠ '{' ∧ c ≠ '}' := by
    intro c hm
    by_cases e : c = '-'
    · subst e; decide
    · have : c ∈ h := by
        rw [← uuidFmt_filter h hc]; exact List.mem_filter.2 ⟨hm, by simpa using e⟩
      have := (hc c this).spec
      exact ⟨this.2.2.1, this.2.2.2.1, this.2.2.2.2.1⟩
  have hu : 'u' ∉ uuidFmt h := fun hm => (hne _ hm).1 rfl
  have e1 : "urn:".toList = 'u' :: ['r', 'n', ':'] := by decide
  have e2 : "uuid:".toList = 'u' :: ['u', 'i', 'd', ':'] := by decide
  have hb : ∀ c ∈ uuidFmt h, (c == '{' || c == '}') = false := by
    intro c hm; have := hne c hm; simp [this.2.1, this.2.2]
  have hb' : ∀ c ∈ (uuidFmt h).reverse, (c == '{' || c == '}') = false := by
    intro c hm; exact hb c (List.mem_reverse.1 hm)
  have hall : h.all isHex = true := by
    simp only [List.all_eq_true]; intro c hm; exact ((hc c hm).spec).1
  have hmap : h.map Char.toLower = h := by
    calc h.map Char.toLower = h.map id :=
          List.map_congr_left (fun c hm => ((hc c hm).spec).2.1)
      _ = h := by simp
  -- only `0-9a-f-` in the text: no prefix to remove, no brace to strip
  simp only [uuidHex, removeAll, e1, e2, removeAllGo_no_head _ _ _ hu, stripBraces]
  rw [dropWhile_of_all_false _ _ hb, dropWhile_of_all_false _ _ hb', List.reverse_reverse,
    uuidFmt_filter h hc]
  simp [hl, hall, hmap]

theorem parseUuid_idem (t u : List Char) (h : parseUuid t = some u) : parseUuid u = some u := by
  unfold parseUuid at h ⊢
  cases hh : uuidHex t with
  | none => rw [hh] at h; cases h
  | some g =>
    rw [hh] at h
    simp only [Option.map_some, Option.some.injEq] at h
    subst h
    have hg : g.length = 32 ∧ ∀ c ∈ g, LowHex c := by
      unfold uuidHex at hh
      simp only [] at hh
      split at hh
      · rename_i hcond
        simp only [Bool.and_eq_true, decide_eq_true_eq, List.all_eq_true] at hcond
        simp only [Option.some.injEq] at hh
        subst hh
        refine ⟨by simpa using hcond.1, ?_⟩
        intro c hm
        simp only [List.mem_map] at hm
        obtain ⟨c', hc', rfl⟩ := hm
        exact lowHex_toLower c' (hcond.2 c' hc')
      · cases hh
    rw [uuidHex_uuidFmt g hg.1 hg.2]
    rfl

theorem idOf_some {fresh t u : List Char} (h : parseUuid t = some u) : idOf fresh t = u := by
  simp only [idOf, h]

theorem idOf_none {fresh t : List Char} (h : parseUuid t = none) : idOf fresh t = fresh := by
  simp only [idOf, h]

theorem idOf_idem (fresh t : List Char) (hf : idOf fresh fresh = fresh) :
    idOf fresh (idOf fresh t) = idOf fresh t := by
  cases hp : parseUuid t with
  | none => rw [idOf_none hp]; exact hf
  | some u => rw [idOf_some hp, idOf_some (parseUuid_idem t u hp)]

end Conv
