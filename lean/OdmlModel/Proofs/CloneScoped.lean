/-
C11: well-formedness of the store is an invariant of every operation.

`WFG K h`: every reference held by an allocated object or value list points to something allocated
(`K = false`: exactly `Scoped h`), and for `K = true` also the typing SmartList / `append` enforce in
the code: `_sections` holds Sections, `_props` holds Properties, the parent of a Property is a
Section, the parent of a Section is a Section or a Document.  One pass over the operations, generic in
`K`, proves both.
-/
import OdmlModel.Proofs.CloneRuns
import OdmlModel.Proofs.CloneSep
namespace Clone

def NodeWf (K : Bool) (h : H) (n : Node) : Prop :=
  (n.kind ≠ .doc → ∀ p, n.parent = some p →
    p < h.nN ∧ (K = true → (h.node p).kind ≠ .prop ∧ (n.kind = .prop → (h.node p).kind = .sec))) ∧
  (n.kind ≠ .prop → ∀ c, c ∈ n.secs → c < h.nN ∧ (K = true → (h.node c).kind = .sec)) ∧
  (n.kind = .sec → ∀ c, c ∈ n.props → c < h.nN ∧ (K = true → (h.node c).kind = .prop)) ∧
  (n.kind = .prop → ∀ c, n.vals = some c → c < h.nV)

structure WFG (K : Bool) (h : H) : Prop where
  node : ∀ a, a < h.nN → NodeWf K h (h.node a)
  cell : ∀ c, c < h.nV → ∀ t, Item.ref t ∈ h.vcell c → t < h.nT

/-- Well-formed store: no dangling references, child lists and parents well-typed. -/
abbrev WF (h : H) : Prop := WFG true h

theorem WFG.scoped {K h} (w : WFG K h) : Scoped h := by
  refine ⟨fun a ha _ => ?_, fun c hc _ t ht => w.cell c hc t ht⟩
  obtain ⟨w1, w2, w3, w4⟩ := w.node a ha
  exact ⟨fun k p hp => (w1 k p hp).1, fun k c hc => (w2 k c hc).1, fun k c hc => (w3 k c hc).1, w4⟩

theorem wfg_false_iff_scoped (h : H) : WFG false h ↔ Scoped h := by
  refine ⟨WFG.scoped, fun sc => ⟨fun a ha => ?_, fun c hc t ht => sc.2 c hc hc t ht⟩⟩
  obtain ⟨w1, w2, w3, w4⟩ := sc.1 a ha ha
  exact ⟨fun k p hp => ⟨w1 k p hp, nofun⟩, fun k c hc => ⟨w2 k c hc, nofun⟩, fun k c hc => ⟨w3 k c hc, nofun⟩, w4⟩

theorem wfg_empty (K) : WFG K empty :=
  ⟨fun a ha => by simp [empty] at ha, fun c hc => by simp [empty] at hc⟩

theorem NodeWf.mono {K h h' n} (mN : h.nN ≤ h'.nN) (mV : h.nV ≤ h'.nV)
    (hk : ∀ a, a < h.nN → (h'.node a).kind = (h.node a).kind) (w : NodeWf K h n) : NodeWf K h' n := by
  obtain ⟨w1, w2, w3, w4⟩ := w
  refine ⟨fun k p hp => ?_, fun k c hc => ?_, fun k c hc => ?_, fun k c hc => ?_⟩
  · obtain ⟨a, b⟩ := w1 k p hp
    exact ⟨Nat.lt_of_lt_of_le a mN, fun hK => by rw [hk p a]; exact b hK⟩
  · obtain ⟨a, b⟩ := w2 k c hc
    exact ⟨Nat.lt_of_lt_of_le a mN, fun hK => by rw [hk c a]; exact b hK⟩
  · obtain ⟨a, b⟩ := w3 k c hc
    exact ⟨Nat.lt_of_lt_of_le a mN, fun hK => by rw [hk c a]; exact b hK⟩
  · exact Nat.lt_of_lt_of_le (w4 k c hc) mV

/-- Every object / list of the new store is an unchanged old one, or well-formed as it stands. -/
theorem wfg_of {K h h'} (w : WFG K h) (m : Mono h h')
    (hk : ∀ a, a < h.nN → (h'.node a).kind = (h.node a).kind)
    (hn : ∀ a, a < h'.nN → (a < h.nN ∧ h'.node a = h.node a) ∨ NodeWf K h' (h'.node a))
    (hc : ∀ c, c < h'.nV → (c < h.nV ∧ h'.vcell c = h.vcell c) ∨ ∀ t, Item.ref t ∈ h'.vcell c → t < h'.nT) :
    WFG K h' := by
  refine ⟨fun a ha => ?_, fun c hlt t ht => ?_⟩
  · rcases hn a ha with ⟨hl, he⟩ | hw
    · rw [he]; exact (w.node a hl).mono m.nN m.nV hk
    · exact hw
  · rcases hc c hlt with ⟨hl, he⟩ | hw
    · rw [he] at ht; exact Nat.lt_of_lt_of_le (w.cell c hl t ht) m.nT
    · exact hw t ht

theorem wfg_updN {K h} (w : WFG K h) (i : Nat) (f : Node → Node)
    (hk : (f (h.node i)).kind = (h.node i).kind)
    (hf : NodeWf K h (h.node i) → NodeWf K h (f (h.node i))) : WFG K (updN h i f) := by
  have hk' : ∀ a, a < h.nN → ((updN h i f).node a).kind = (h.node a).kind := by
    intro a _; rw [updN_node]; split
    · rename_i e; subst e; exact hk
    · rfl
  refine wfg_of w (Mono.refl _) hk' (fun a ha => ?_) (fun c hc => Or.inl ⟨hc, rfl⟩)
  by_cases e : a = i
  · subst e
    right
    rw [updN_same]
    exact NodeWf.mono (h := h) (Nat.le_refl _) (Nat.le_refl _) hk' (hf (w.node a ha))
  · exact Or.inl ⟨ha, updN_other _ _ _ _ e⟩

/-- What `NodeWf` reads of an object. -/
def Node.refs (n : Node) := (n.kind, n.parent, n.secs, n.props, n.vals)

theorem wfg_updAttr {K h} (w : WFG K h) (i : Nat) (f : Node → Node) (hf : ∀ n, (f n).refs = n.refs) :
    WFG K (updN h i f) := by
  have e := hf (h.node i)
  simp only [Node.refs, Prod.mk.injEq] at e
  obtain ⟨k, p, sc, pr, v⟩ := e
  refine wfg_updN w i f k (fun hn => ?_)
  unfold NodeWf at hn ⊢
  rw [k, p, sc, pr, v]
  exact hn

theorem wfg_updV {K h} (w : WFG K h) (i : Nat) (f : List Item → List Item)
    (hf : (∀ t, Item.ref t ∈ h.vcell i → t < h.nT) → ∀ t, Item.ref t ∈ f (h.vcell i) → t < h.nT) :
    WFG K (updV h i f) := by
  refine wfg_of w (Mono.refl _) (fun _ _ => rfl) (fun a ha => Or.inl ⟨ha, rfl⟩) (fun c hc => ?_)
  by_cases e : c = i
  · subst e; right
    rw [updV_vcell, if_pos rfl]
    exact hf (w.cell c hc)
  · left; exact ⟨hc, by rw [updV_vcell, if_neg e]⟩

theorem wfg_updT {K h} (w : WFG K h) (i : Nat) (f : List String → List String) : WFG K (updT h i f) :=
  wfg_of w (Mono.refl _) (fun _ _ => rfl) (fun _ ha => Or.inl ⟨ha, rfl⟩) (fun _ hc => Or.inl ⟨hc, rfl⟩)

theorem wfg_same {K h h'} (w : WFG K h) (hn : h'.node = h.node) (hv : h'.vcell = h.vcell) (eN : h'.nN = h.nN)
    (eV : h'.nV = h.nV) (mT : h.nT ≤ h'.nT) : WFG K h' := by
  refine ⟨fun a ha => ?_, fun c hc t ht => ?_⟩
  · rw [hn]; rw [eN] at ha
    exact (w.node a ha).mono (Nat.le_of_eq eN.symm) (Nat.le_of_eq eV.symm) (fun b _ => by rw [hn])
  · rw [hv] at ht; rw [eV] at hc; exact Nat.lt_of_lt_of_le (w.cell c hc t ht) mT

theorem wfg_allocT {K h} (w : WFG K h) (l : List String) : WFG K (allocT h l).1 :=
  wfg_same w rfl rfl rfl rfl (by simp)

theorem wfg_newId {K h} (w : WFG K h) (i : Nat) : WFG K (newId h i) :=
  wfg_same (wfg_updAttr w i (fun n => { n with id := h.nextId }) (fun _ => rfl)) rfl rfl rfl rfl (Nat.le_refl _)

theorem wfg_allocV {K h} (w : WFG K h) (l : List Item) (hl : ∀ t, Item.ref t ∈ l → t < h.nT) :
    WFG K (allocV h l).1 := by
  refine wfg_of w (ext_allocV h l).1 (fun _ _ => rfl) (fun a ha => Or.inl ⟨ha, rfl⟩) (fun c hc => ?_)
  by_cases e : c = h.nV
  · right; rw [allocV_vcell, if_pos e]; exact hl
  · exact Or.inl ⟨Nat.lt_of_le_of_ne (Nat.le_of_lt_succ hc) e, by rw [allocV_vcell, if_neg e]⟩

theorem wfg_allocN {K h} (w : WFG K h) (n : Node) (hn : NodeWf K (allocN h n).1 n) : WFG K (allocN h n).1 := by
  have hk' : ∀ a, a < h.nN → ((allocN h n).1.node a).kind = (h.node a).kind := by
    intro a ha; rw [allocN_node, if_neg (Nat.ne_of_lt ha)]
  refine wfg_of w (ext_allocN h n).1 hk' (fun a ha => ?_) (fun c hc => Or.inl ⟨hc, rfl⟩)
  by_cases e : a = h.nN
  · right; rw [allocN_node, if_pos e]; exact hn
  · exact Or.inl ⟨Nat.lt_of_le_of_ne (Nat.le_of_lt_succ ha) e, by rw [allocN_node, if_neg e]⟩

theorem TupOnly.wfg {K h h' out} (r : TupOnly h h' out) (w : WFG K h) :
    WFG K h' ∧ ∀ t, Item.ref t ∈ out → t < h'.nT :=
  ⟨wfg_same w r.node r.vcell r.nN r.nV r.ext.mono.nT, fun t ht => (r.fresh t ht).2⟩

theorem TupOnly.wfg_alloc {K h h' out} (r : TupOnly h h' out) (w : WFG K h) : WFG K (allocV h' out).1 :=
  wfg_allocV (r.wfg w).1 _ (r.wfg w).2

theorem TupOnly.wfg_bind {K h h' out} (r : TupOnly h h' out) (w : WFG K h) (p : Nat) :
    WFG K (updN (allocV h' out).1 p fun n => { n with vals := some h'.nV }) :=
  wfg_updN (r.wfg_alloc w) p _ rfl
    (fun hn => ⟨hn.1, hn.2.1, hn.2.2.1, fun _ c hc => by cases hc; exact Nat.lt_succ_self _⟩)

theorem wfg_setValuesItems {K h} (w : WFG K h) (p : Nat) (src : List Item) : WFG K (setValuesItems h p src) :=
  setValuesItems_eq h p src ▸ (convertItems_spec src h).toTupOnly.wfg_bind w p

theorem wfg_setValuesLits {K h} (w : WFG K h) (p : Nat) (src : List Lit) : WFG K (setValuesLits h p src) :=
  setValuesLits_eq h p src ▸ (litItems_tupOnly src h).wfg_bind w p

/-- Bound on the inner-list references of a value list, as an `ItemsIn` statement. -/
def Rt (N : Nat) : Reg := ⟨fun _ => True, fun _ => True, fun t => t < N⟩

theorem wfg_litAppend {K h} (w : WFG K h) (c : Nat) (v : Lit) :
    WFG K (updV (litItems h [v]).1 c (fun l => l ++ (litItems h [v]).2)) := by
  obtain ⟨w1, i1⟩ := (litItems_tupOnly [v] h).wfg w
  exact wfg_updV w1 c _ (fun hin => itemsIn_append (R := Rt _) hin i1)

theorem wfg_litSet {K h} (w : WFG K h) (c i : Nat) (v : Lit) :
    WFG K (updV (litItems h [v]).1 c (fun l => match (litItems h [v]).2 with | it :: _ => l.set i it | [] => l)) := by
  obtain ⟨w1, i1⟩ := (litItems_tupOnly [v] h).wfg w
  exact wfg_updV w1 c _ (fun hin => itemsIn_head (R := Rt _) i1 _ hin i)

theorem wfg_setAttr {K h} (w : WFG K h) (x i : Nat) (v : String) : WFG K (setAttr h x i v) :=
  wfg_updAttr w x _ (fun _ => rfl)

theorem wfg_listInnerSet {K h} (w : WFG K h) (c i j : Nat) (s : String) : WFG K (listInnerSet h c i j s).1 :=
  listInnerSet_cases w (fun t _ => wfg_updT w t _)

theorem wfg_initRecord {K h} (w : WFG K h) (x : Nat) : WFG K (initRecord h x) := by
  have w1 : WFG K (allocD h []).1 := wfg_same w rfl rfl rfl rfl (Nat.le_refl _)
  unfold initRecord
  exact wfg_updAttr w1 x _ (fun _ => rfl)

theorem wfg_newObj {K h} (w : WFG K h) (k : Kind) (name : String) (attrs : List String) (vals : List Lit) :
    WFG K (newObj h k name attrs vals).1 := by
  unfold newObj
  simp only
  have w0 : WFG K { h with nextId := h.nextId + 1 } := wfg_same w rfl rfl rfl rfl (Nat.le_refl _)
  have w1 := wfg_allocN w0 (Node.mk k name h.nextId attrs none [] [] none none 0)
    ⟨fun _ p hp => (nomatch hp), fun _ c hc => (nomatch hc), fun _ c hc => (nomatch hc), fun _ c hc => (nomatch hc)⟩
  exact ite_fst (wfg_setValuesLits w1 _ vals) (ite_fst (wfg_initRecord w1 _) w1)

theorem wfg_fillAttr {K h} (w : WFG K h) (x t d k : Nat) : WFG K (fillAttr h x t d k) := by
  unfold fillAttr
  split
  · rename_i v _ _
    exact wfg_same (wfg_updAttr w x (fun n => { n with attrs := n.attrs.set k v }) (fun _ => rfl)) rfl rfl rfl rfl
      (Nat.le_refl _)
  · exact w

theorem wfg_takeBack {K} (x : Nat) : ∀ (l : List (Nat × String)) (h : H), WFG K h → WFG K (takeBack h x l) := by
  intro l
  induction l with
  | nil => intro h w; exact w
  | cons kv rest ih =>
    intro h w
    obtain ⟨k, v⟩ := kv
    simp only [takeBack]
    split
    · exact ih _ (wfg_updAttr w x (fun n => { n with attrs := n.attrs.set k "None" }) (fun _ => rfl))
    · exact ih _ w

theorem wfg_mergeOp {K h} (w : WFG K h) (x t : Nat) (record : Bool) : WFG K (mergeOp h x t record).1 := by
  refine mergeOp_cases w ?_
  have w3 := wfg_fillAttr (wfg_fillAttr (wfg_same w rfl rfl rfl rfl (Nat.le_refl _) : WFG K (allocD h (recOf h x)).1)
    x t (allocD h (recOf h x)).2 defAttr) x t (allocD h (recOf h x)).2 refAttr
  cases record with
  | false => exact w3
  | true =>
    exact wfg_updAttr (wfg_updAttr w3 x (fun n => { n with mattrs := (allocD h (recOf h x)).2 }) (fun _ => rfl)) x
      (fun n => { n with merged := some t }) (fun _ => rfl)

theorem wfg_unmergeOp {K h} (w : WFG K h) (x : Nat) : WFG K (unmergeOp h x).1 := by
  refine unmergeOp_cases w ?_
  have w2 : WFG K (allocD (takeBack h x (recOf h x)) []).1 :=
    wfg_same (wfg_takeBack x (recOf h x) h w) rfl rfl rfl rfl (Nat.le_refl _)
  exact wfg_updAttr (wfg_updAttr w2 x (fun n => { n with mattrs := (allocD (takeBack h x (recOf h x)) []).2 })
    (fun _ => rfl)) x (fun n => { n with merged := none }) (fun _ => rfl)

theorem kind_sec_of {k : Kind} (h1 : k ≠ .prop) (h2 : k ≠ .doc) : k = .sec := by
  cases k <;> simp_all

theorem wfg_childAppend {K h} (w : WFG K h) (p x : Nat) (hx : x < h.nN)
    (hk : K = true → AttachOk (h.node p).kind (h.node x).kind) :
    WFG K (setChildList h p ((h.node x).kind != .prop) (fun l => l ++ [x])) := by
  unfold setChildList
  by_cases hb : ((h.node x).kind != .prop) = true
  · simp only [hb, if_true]
    refine wfg_updN w p _ rfl (fun hn => ⟨hn.1, fun k c hc => ?_, hn.2.2.1, hn.2.2.2⟩)
    rcases List.mem_append.1 hc with hc | hc
    · exact hn.2.1 k c hc
    · cases List.mem_singleton.1 hc
      refine ⟨hx, fun hK => ?_⟩
      obtain ⟨a, _, _⟩ := hk hK
      simp only [bne_iff_ne, ne_eq] at hb
      exact kind_sec_of hb a
  · have hb' : ((h.node x).kind != .prop) = false := by simpa using hb
    simp only [hb', Bool.false_eq_true, if_false]
    refine wfg_updN w p _ rfl (fun hn => ⟨hn.1, hn.2.1, fun k c hc => ?_, hn.2.2.2⟩)
    rcases List.mem_append.1 hc with hc | hc
    · exact hn.2.2.1 k c hc
    · cases List.mem_singleton.1 hc
      exact ⟨hx, fun _ => by simpa using hb⟩

theorem wfg_childErase {K h} (w : WFG K h) (p : Nat) (b : Bool) (i : Nat) :
    WFG K (setChildList h p b (fun l => l.eraseIdx i)) := by
  unfold setChildList
  refine wfg_updN w p _ (by split <;> rfl) (fun hn => ?_)
  split
  · exact ⟨hn.1, fun k c hc => hn.2.1 k c (List.mem_of_mem_eraseIdx hc), hn.2.2.1, hn.2.2.2⟩
  · exact ⟨hn.1, hn.2.1, fun k c hc => hn.2.2.1 k c (List.mem_of_mem_eraseIdx hc), hn.2.2.2⟩

theorem wfg_setParent {K h} (w : WFG K h) (x : Nat) (np : Option Nat)
    (hnp : ∀ p, np = some p → p < h.nN ∧ (K = true → AttachOk (h.node p).kind (h.node x).kind)) :
    WFG K (updN h x (fun n => { n with parent := np })) := by
  refine wfg_updN w x _ rfl (fun hn => ⟨fun _ p hp => ?_, hn.2.1, hn.2.2.1, hn.2.2.2⟩)
  obtain ⟨a, b⟩ := hnp p hp
  exact ⟨a, fun hK => ⟨(b hK).2.1, (b hK).2.2⟩⟩

theorem wfg_attach {K h h'} (w : WFG K h) (c child : Nat) (hc : c < h.nN) (hch : child < h.nN)
    (hk : K = true → AttachOk (h.node c).kind (h.node child).kind)
    (ha : attach h c child = (h', none)) : WFG K h' := by
  rw [attach_ok ha]
  refine wfg_setParent (wfg_childAppend w c child hch hk) child (some c) (fun p hp => ?_)
  cases hp
  refine ⟨hc, fun hK => ?_⟩
  rw [setChildList_kind, setChildList_kind]
  exact hk hK

theorem wfg_removeChild {K h h'} (w : WFG K h) (q x : Nat) (hr : removeChild h q x = some h') : WFG K h' := by
  obtain ⟨i, rfl⟩ := removeChild_ok hr
  exact wfg_setParent (wfg_childErase w q _ i) x none (fun p hp => by cases hp)

theorem removeChild_sizes {h h' : H} {q x : Nat} (hr : removeChild h q x = some h') :
    h'.nN = h.nN ∧ ∀ a, (h'.node a).kind = (h.node a).kind := by
  obtain ⟨i, rfl⟩ := removeChild_ok hr
  refine ⟨rfl, fun a => ?_⟩
  rw [updN_node]
  split
  · simp only; rw [setChildList_kind]
  · rw [setChildList_kind]

theorem wfg_append {K h} (w : WFG K h) (p x : Nat) (hp : p < h.nN) (hx : x < h.nN) :
    WFG K (append h p x).1 := by
  refine append_cases w (fun hk h1 hh1 => ?_)
  have sk : ∀ a, (h1.node a).kind = (h.node a).kind := fun a => by rw [hh1, setChildList_kind]
  have w1 : WFG K h1 := by rw [hh1]; exact wfg_childAppend w p x hx (fun _ => hk)
  have n1 : h1.nN = h.nN := by rw [hh1]; rfl
  -- `x._parent = p` in a store with the sizes and kinds of `h`
  have setp : ∀ hh : H, WFG K hh → hh.nN = h.nN → (∀ a, (hh.node a).kind = (h.node a).kind) →
      WFG K (updN hh x (fun n => { n with parent := some p })) := by
    intro hh wh en ek
    refine wfg_setParent wh x (some p) (fun q hq => ?_)
    cases hq
    exact ⟨en ▸ hp, fun _ => by rw [ek, ek]; exact hk⟩
  refine ⟨w1, setp h1 w1 n1 sk, fun q h2 _ hrm => ?_⟩
  obtain ⟨sN, sK⟩ := removeChild_sizes hrm
  exact setp h2 (wfg_removeChild w1 q x hrm) (sN.trans n1) (fun a => by rw [sK, sk])

/-- Every successful (recursive) clone call keeps the store well-formed. -/
def RecWf (K : Bool) (rec : H → Nat → H × Res) : Prop :=
  ∀ h s h1 sc, WFG K h → s < h.nN → rec h s = (h1, .ok sc) → WFG K h1

theorem cloneLoop_wf {K rec} (hrec : RecOk rec) (hwf : RecWf K rec) {c : Nat} :
    ∀ {l : List Nat} {h h' : H}, WFG K h → c < h.nN →
      (∀ s, s ∈ l → s < h.nN ∧ (K = true → AttachOk (h.node c).kind (h.node s).kind)) →
      cloneLoop rec h c l = (h', none) → WFG K h' := by
  intro l
  induction l with
  | nil => intro h h' w _ _ hl; rw [cloneLoop_nil hl]; exact w
  | cons s rest ih =>
    intro h h' w hc hs hl
    obtain ⟨h1, sc, h2, hr, hat, hl⟩ := cloneLoop_cons hl
    have ok := hrec h s h1 sc hr
    obtain ⟨hs1, hs3⟩ := hs s (List.mem_cons_self ..)
    have w1 := hwf h s h1 sc w hs1 hr
    have m2 : h.nN ≤ h2.nN := (ok.ext.1.trans (attach_mono hat)).1
    have w2 : WFG K h2 := by
      refine wfg_attach w1 c sc (Nat.lt_of_lt_of_le hc ok.ext.mono.nN) (ok.c_eq ▸ ok.lt) (fun hK => ?_) hat
      rw [ok.kind, ok.ext.node c hc]; exact hs3 hK
    refine ih w2 (Nat.lt_of_lt_of_le hc m2) (fun s' hs' => ?_) hl
    obtain ⟨a, d⟩ := hs s' (List.mem_cons_of_mem _ hs')
    refine ⟨Nat.lt_of_lt_of_le a m2, fun hK => ?_⟩
    rw [attach_kind hat, attach_kind hat, ok.ext.node c hc, ok.ext.node s' a]
    exact d hK

theorem wfg_copy {K h} (w : WFG K h) (x : Nat) (hx : x < h.nN) :
    WFG K (updN (allocN h (h.node x)).1 h.nN (fun n => { n with parent := none })) :=
  wfg_setParent (wfg_allocN w (h.node x) ((w.node x hx).mono (Nat.le_succ _) (Nat.le_refl _)
    (fun a ha => by rw [allocN_node, if_neg (Nat.ne_of_lt ha)]))) h.nN none (fun p hp => by cases hp)

theorem cloneProp_wf {K h} (w : WFG K h) (x : Nat) (keep : Bool) (hx : x < h.nN) :
    WFG K (cloneProp h x keep).1 := by
  simp only [cloneProp, allocN_ret]
  have w3 := fun src => wfg_setValuesItems (wfg_copy w x hx) h.nN src
  split
  · exact w3 _
  · exact wfg_newId (w3 _) _

theorem cloneBody_wf {K rec} (hrec : RecOk rec) (hwf : RecWf K rec) {h : H} {x : Nat} {ch keep : Bool} {h' : H}
    {c : Nat} (w : WFG K h) (hx : x < h.nN) (hk : (h.node x).kind ≠ .prop)
    (hb : cloneBody rec h x ch keep = (h', .ok c)) : WFG K h' := by
  obtain ⟨_, h4, hl4, h5, hh5, hrest⟩ := cloneBody_run hb
  have wx := w.node x hx
  have o3 : ∀ a, a < h.nN → (bodyStart h x).node a = h.node a := (ext_bodyStart h x).2.1
  have k3 : ((bodyStart h x).node h.nN).kind = (h.node x).kind := by rw [bodyStart_node]
  have w3 : WFG K (bodyStart h x) :=
    wfg_updN (wfg_copy w x hx) h.nN _ rfl (fun hn => ⟨hn.1, fun _ c hc => by simp at hc, hn.2.2.1, hn.2.2.2⟩)
  have f4 := (cloneLoop_loop _ hl4).frame hrec (Nat.lt_succ_self _)
  have w4 : WFG K h4 := by
    refine cloneLoop_wf hrec hwf w3 (Nat.lt_succ_self _) (fun s hs => ?_) hl4
    rw [o3 x hx] at hs
    obtain ⟨a, b⟩ := wx.2.1 hk s (List.mem_ite_nil_right.1 hs).2
    refine ⟨Nat.lt_succ_of_lt a, fun hK => ?_⟩
    rw [k3, o3 s a, b hK]
    exact ⟨by simp, hk, by simp⟩
  have s5 : LoopFrame h.nN h4 h5 ∧ WFG K h5 := by
    rw [hh5]; split
    · exact ⟨.refl _ _, w4⟩
    · exact ⟨.newId _ _, wfg_newId w4 _⟩
  have f5 := f4.trans s5.1
  have m5 : h.nN < h5.nN := f5.mono.nN
  split at hrest
  · rw [hrest]; exact s5.2
  · rename_i hnd
    obtain ⟨h6, hh6, hl7⟩ := hrest
    have hsec : (h.node x).kind = .sec := kind_sec_of hk hnd
    have f6 : LoopFrame h.nN (bodyStart h x) h6 := f5.trans (by rw [hh6]; exact .updN _ _ _ rfl)
    have w6 : WFG K h6 := by
      rw [hh6]
      exact wfg_updN s5.2 h.nN _ rfl (fun hn => ⟨hn.1, hn.2.1, fun _ c hc => by simp at hc, hn.2.2.2⟩)
    have m6 : h.nN < h6.nN := by rw [hh6]; exact m5
    have o6 : ∀ a, a < h.nN → h6.node a = h.node a := fun a ha => by
      rw [f6.node a (Nat.lt_succ_of_lt ha) (Nat.ne_of_lt ha), o3 a ha]
    refine cloneLoop_wf hrec hwf w6 m6 (fun s hs => ?_) hl7
    rw [o6 x hx] at hs
    obtain ⟨a, b⟩ := wx.2.2.1 hsec s (List.mem_ite_nil_right.1 hs).2
    refine ⟨Nat.lt_trans a m6, fun hK => ?_⟩
    rw [f6.kind, k3, hsec, o6 s a, b hK]
    exact ⟨by simp, by simp, fun _ => rfl⟩

theorem cloneF_wf {K} : ∀ (f : Nat) {h : H} {x : Nat} {ch keep : Bool} {h' : H} {c : Nat},
    WFG K h → x < h.nN → cloneF f h x ch keep = (h', .ok c) → WFG K h' := by
  intro f
  induction f with
  | zero => intro h x ch keep h' c _ _ hc; cases hc
  | succ f ih =>
    intro h x ch keep h' c w hx hc
    have hc := cloneF_ok hc
    split at hc
    · have := cloneProp_wf w x keep hx
      rwa [hc] at this
    · rename_i hk
      exact cloneBody_wf (cloneF_recOk f keep) (fun _ _ _ _ w hs hr => ih w hs hr) w hx hk hc

theorem cloneF_recWf (K : Bool) (f : Nat) (keep : Bool) : RecWf K (fun h s => cloneF f h s true keep) :=
  fun _ _ _ _ w hs hr => cloneF_wf f w hs hr

/-- `child`, when there is one (`curr ≠ self`), is a new Section: the copy of the chain element below `curr`. -/
theorem exportLoop_wf {K} {b : H} (wb : WFG K b) : ∀ (fuel : Nat) {h : H} {self curr child : Nat} {h' : H} {r : Nat},
    WFG K h → Ext b h → curr < b.nN → (K = true → (b.node curr).kind ≠ .prop) →
    (curr ≠ self → b.nN ≤ child ∧ child < h.nN ∧ (K = true → (h.node child).kind = .sec)) →
    exportLoop fuel h self curr child = (h', .ok r) → WFG K h' := by
  intro fuel
  induction fuel with
  | zero => intro h self curr child h' r _ _ _ _ _ he; cases he
  | succ fuel ih =>
    intro h self curr child h' r w e hcur hkc hch he
    obtain ⟨h1, par, h2, h3, hcl, hr2, hr3, e2, m2, f3, e3, hrest⟩ :=
      exportLoop_step e hcur (fun hne => (hch hne).1) he
    have ok := cloneF_spec hcl
    have w1 := cloneF_wf 1 w (Nat.lt_of_lt_of_le hcur e.mono.nN) hcl
    have hparb : b.nN ≤ par := ok.c_eq ▸ e.mono.nN
    have hpar1 : par < h1.nN := ok.c_eq ▸ ok.lt
    have hpar2 : par < h2.nN := Nat.lt_of_lt_of_le hpar1 m2.nN
    have kpar : (h1.node par).kind = (b.node curr).kind := by rw [ok.kind, e.node curr hcur]
    have s2 : WFG K h2 ∧ (h2.node par).kind = (b.node curr).kind := by
      split at hr2
      · rename_i hne
        obtain ⟨c1, c2, c3⟩ := hch hne
        refine ⟨wfg_attach w1 par child hpar1 (Nat.lt_of_lt_of_le c2 ok.ext.mono.nN) (fun hK => ?_) hr2,
          by rw [attach_kind hr2]; exact kpar⟩
        rw [kpar, ok.ext.node child c2, c3 hK]
        exact ⟨by simp, hkc hK, by simp⟩
      · rw [← (Prod.mk.inj hr2).1]; exact ⟨w1, kpar⟩
    obtain ⟨w2, k2⟩ := s2
    have w3 : WFG K h3 := by
      refine cloneLoop_wf (cloneF_recOk 1 true) (cloneF_recWf K 1 true) w2 hpar2 (fun s hs => ?_) hr3
      obtain ⟨hsec, hs⟩ := List.mem_ite_nil_right.1 hs
      obtain ⟨a, c⟩ := (wb.node curr hcur).2.2.1 hsec s hs
      refine ⟨Nat.lt_of_lt_of_le a e2.mono.nN, fun hK => ?_⟩
      rw [k2, hsec, e2.node s a, c hK]
      exact ⟨by simp, by simp, fun _ => rfl⟩
    cases hq : parentOf b curr with
    | none => rw [hq] at hrest; rw [hrest.1]; exact w3
    | some q =>
      rw [hq] at hrest
      obtain ⟨hnd, hq'⟩ := parentOf_some hq
      obtain ⟨q1, q2⟩ := (wb.node curr hcur).1 hnd q hq'
      refine ih w3 e3 q1 (fun hK => (q2 hK).1) (fun _ => ⟨hparb, Nat.lt_of_lt_of_le hpar2 f3.mono.nN, fun hK => ?_⟩) hrest
      rw [f3.kind, k2]
      exact kind_sec_of (hkc hK) hnd

theorem wfg_exportLeaf {K h} (w : WFG K h) (x : Nat) (hx : x < h.nN) : WFG K (exportLeaf h x).1 := by
  unfold exportLeaf
  refine dropOnErr_fst _ w (fun h' c hc => ?_)
  unfold exportLeafF at hc
  split at hc
  · rename_i hk
    split at hc
    · rename_i p hp
      obtain ⟨p1, p2⟩ := (w.node x hx).1 (by rw [hk]; simp) p hp
      exact exportLoop_wf w _ w (Ext.refl h) p1 (fun hK => (p2 hK).1) (fun hne => absurd rfl hne) hc
    · rw [← (Prod.mk.inj hc).1]
      exact cloneProp_wf w x true hx
  · rename_i hk
    exact exportLoop_wf w _ w (Ext.refl h) hx (fun _ e => hk e) (fun hne => absurd rfl hne) hc

theorem step_wfg {K h} (w : WFG K h) (op : Op) : WFG K (step h op).1 := by
  unfold step
  split
  · exact w
  · rename_i hguard
    -- only the operations that read an object (clone, export_leaf, append) need it to be allocated
    have obj : ∀ x, x ∈ op.objs → x < h.nN := fun x hx => Nat.lt_of_not_le (fun hge =>
      hguard (Bool.or_eq_true_iff.2 (.inl (List.any_eq_true.2 ⟨x, hx, decide_eq_true hge⟩))))
    refine ite_fst w ?_
    cases op with
    | clone x ch keep => exact dropOnErr_fst _ w (fun _ _ hc => cloneF_wf _ w (obj x (.head _)) hc)
    | exportLeaf x => exact wfg_exportLeaf w x (obj x (.head _))
    | getValues p => exact (convertItems_spec (valsOf h p) h).toTupOnly.wfg_alloc w
    | setValuesFrom p c => exact wfg_setValuesItems w p _
    | setValuesLits p vs => exact wfg_setValuesLits w p vs
    | appendValue p v =>
      exact appendValue_cases w (wfg_setValuesLits w p [v]) (fun c _ => wfg_litAppend w c v)
    | setValueAt p i v => rw [optErr_fst]; exact setValueAt_cases w (fun c _ => wfg_litSet w c i v)
    | setDtype p v => exact wfg_setValuesItems (wfg_setAttr w p 0 v) p _
    | newList vs => exact (litItems_tupOnly vs h).wfg_alloc w
    | listAppend c v => exact wfg_litAppend w c v
    | listSet c i v => rw [optErr_fst]; exact ite_fst w (wfg_litSet w c i v)
    | listDel c i =>
      rw [optErr_fst]
      exact ite_fst w (wfg_updV w c (fun l => l.eraseIdx i) (fun hin => itemsIn_erase (R := Rt _) hin i))
    | listInnerSet c i j str => rw [optErr_fst]; exact wfg_listInnerSet w c i j str
    | valueInnerSet p i j str =>
      rw [optErr_fst]; exact valueInnerSet_cases w (fun c _ _ => wfg_listInnerSet w c i j str)
    | newObj k name attrs vals => exact wfg_newObj w k name attrs vals
    | append p x => rw [optErr_fst]; exact wfg_append w p x (obj p (.head _)) (obj x (.tail _ (.head _)))
    | remove p x => rw [optErr_fst]; exact remove_cases w (fun _ hr => wfg_removeChild w p x hr)
    | rename x new => rw [optErr_fst]; exact rename_cases w (wfg_updAttr w x _ (fun _ => rfl))
    | setAttr x i v => exact wfg_setAttr w x i v
    | mergeAttrs x t record => rw [optErr_fst]; exact wfg_mergeOp w x t record
    | unmergeAttrs x => rw [optErr_fst]; exact wfg_unmergeOp w x
    | newId x => exact wfg_newId w x

theorem run_wfg {K} : ∀ (ops : List Op) (h : H), WFG K h → WFG K (run h ops) := by
  intro ops
  induction ops with
  | nil => intro h w; exact w
  | cons op rest ih => intro h w; exact ih (step h op).1 (step_wfg w op)

theorem scoped_step {h : H} (sc : Scoped h) (op : Op) : Scoped (step h op).1 :=
  (wfg_false_iff_scoped _).1 (step_wfg ((wfg_false_iff_scoped h).2 sc) op)

theorem scoped_run {h : H} (sc : Scoped h) (ops : List Op) : Scoped (run h ops) :=
  (wfg_false_iff_scoped _).1 (run_wfg ops h ((wfg_false_iff_scoped h).2 sc))

theorem run_empty_wf (ops : List Op) : WF (run empty ops) := run_wfg ops empty (wfg_empty true)

theorem run_empty_scoped (ops : List Op) : Scoped (run empty ops) := (run_empty_wf ops).scoped

end Clone
