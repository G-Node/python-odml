/-
The `.document` query of `Model/HeapQuery.lean` on a well-formed heap: the walk to the root ends
within `size + 1` rounds (pigeonhole on the handles met), never stops early at a "falsy" parent (a
parent lists its child, so it is not empty), and answers the unique parentless ancestor.
-/
import OdmlModel.Model.HeapQuery
import OdmlModel.Proofs.HeapOps

namespace Heap

/-- On a well-formed heap a parent is never falsy: it lists the child. -/
theorem truthy_parent {h : H} (w : WF h) {c p : Nat} (hp : (h.node c).parent = some p) :
    truthy h p = true := by
  rcases w.kind_of_parent hp with hk | hk
  · have hm : c ∈ (h.node p).secs := (w.memS p c).mpr ⟨hp, hk⟩
    have hne : (h.node p).secs.isEmpty = false := List.isEmpty_eq_false_iff_exists_mem.mpr ⟨c, hm⟩
    unfold truthy
    cases (h.node p).kind <;> simp [hne]
  · have hm : c ∈ (h.node p).props := (w.memP p c).mpr ⟨hp, hk⟩
    have hpk := w.parP c p hp hk
    have hne : (h.node p).props.isEmpty = false := List.isEmpty_eq_false_iff_exists_mem.mpr ⟨c, hm⟩
    unfold truthy
    rw [hpk]; simp [hne]

/-- `rootWalk` with `size` rounds left reaches the parentless ancestor (pigeonhole on `Trail`, as in
    `meetsUp_exact_aux`). -/
theorem rootWalk_exact_aux {h : H} (w : WF h) (d : Nat → Nat)
    (hd : ∀ c p, (h.node c).parent = some p → d p < d c) :
    ∀ (fuel cur : Nat) (seen : List Nat), Trail h d seen cur → h.size ≤ seen.length + fuel →
      ∃ r, rootWalk h fuel cur = some r ∧ Anc h r cur ∧ (h.node r).parent = none := by
  intro fuel
  induction fuel with
  | zero => intro cur seen t hlen; have := t.length_lt; omega
  | succ fuel ih =>
    intro cur seen t hlen
    simp only [rootWalk]
    cases hp : (h.node cur).parent with
    | none => exact ⟨cur, rfl, Anc.refl _, hp⟩
    | some p =>
      simp only [truthy_parent w hp, if_true]
      obtain ⟨r, hr, ha, h0⟩ := ih p (cur :: seen) (t.step w hd hp)
        (by simp only [List.length_cons]; omega)
      exact ⟨r, hr, Anc.step hp ha, h0⟩

/-- The walk of `Sectionable.document` ends, at a parentless ancestor. -/
theorem rootWalk_root {h : H} (w : WF h) {c : Nat} (hc : c < h.size) :
    ∃ r, rootWalk h (h.size + 1) c = some r ∧ Anc h r c ∧ (h.node r).parent = none := by
  obtain ⟨d, hd⟩ := w.rank
  exact rootWalk_exact_aux w d hd (h.size + 1) c [] (.start hc) (by simp)

/-- Two parentless ancestors of the same object coincide. -/
theorem anc_root_unique {h : H} {a b c : Nat} (ha : Anc h a c) (hb : Anc h b c)
    (ha0 : (h.node a).parent = none) (hb0 : (h.node b).parent = none) : a = b := by
  induction ha with
  | refl =>
    cases hb with
    | refl => rfl
    | step hp _ => rw [ha0] at hp; cases hp
  | step hp _ ih =>
    cases hb with
    | refl => rw [hb0] at hp; cases hp
    | step hp' hb' => rw [hp] at hp'; cases hp'; exact ih hb'

/-- `Sectionable.document` answers `r` exactly when `r` is the root of the parent chain and a
    Document. -/
theorem secDocument_spec {h : H} (w : WF h) {c : Nat} (hc : c < h.size) (r : Nat) :
    secDocument h c = some r ↔
      (Anc h r c ∧ (h.node r).parent = none ∧ (h.node r).kind = .doc) := by
  obtain ⟨r0, hr0, ha0, hp0⟩ := rootWalk_root w hc
  unfold secDocument
  rw [hr0]
  constructor
  · intro hq
    by_cases hk : (h.node r0).kind = .doc
    · simp only [hk, if_true] at hq
      cases hq
      exact ⟨ha0, hp0, hk⟩
    · simp only [hk, if_false] at hq
      cases hq
  · intro ⟨ha, hp, hk⟩
    have e : r = r0 := anc_root_unique ha ha0 hp hp0
    subst e
    simp only [hk, if_true]

theorem document_spec {h : H} (w : WF h) {c : Nat} (hc : c < h.size) (r : Nat) :
    document h c = some r ↔
      (Anc h r c ∧ (h.node r).parent = none ∧ (h.node r).kind = .doc) := by
  unfold document
  cases hk : (h.node c).kind with
  | doc => exact secDocument_spec w hc r
  | sec => exact secDocument_spec w hc r
  | prop =>
    simp only
    cases hp : (h.node c).parent with
    | none =>
      simp only
      constructor
      · intro hq; cases hq
      · intro ⟨ha, _, hkr⟩
        cases ha with
        | refl => rw [hk] at hkr; cases hkr
        | step hp' _ => rw [hp] at hp'; cases hp'
    | some p =>
      simp only
      rw [secDocument_spec w (w.parent_lt hp) r]
      constructor
      · intro ⟨ha, h0, hkr⟩
        exact ⟨Anc.step hp ha, h0, hkr⟩
      · intro ⟨ha, h0, hkr⟩
        cases ha with
        | refl => rw [hk] at hkr; cases hkr
        | step hp' ha' => rw [hp] at hp'; cases hp'; exact ⟨ha', h0, hkr⟩

end Heap
