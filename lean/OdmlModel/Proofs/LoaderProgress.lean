/-
Deadlock freedom of M-Loader (C18 `progress`).

Invariant `ProgressInv`: every `loading` entry and every `join` frame names an existing (hence
started) loader thread whose root key is the joined key; the bottom frame of a loader thread
is a frame of the `_load` body for its root key.  Together with `Inv` (stack invariant: every
frame above another one loads an include of the lower frame's document) the waits-for edges
go strictly down `rank`, so a chain of blocked threads ends in an enabled one.
-/
import OdmlModel.Proofs.Loader

namespace Loader

variable {g : Url → Res} {rank : Url → Nat} {cache0 : Url → CacheSt}

/-- `t` is the id of an existing loader thread that was started for key `k`.  Stated over the list
    of roots, which `setThr` keeps and a spawn appends to (`threadsAfter_roots`). -/
def ThrRef (ts : List Thr) (k : Key) (t : Nat) : Prop :=
  ∃ i, t = i + 1 ∧ (ts.map (·.root))[i]? = some k

theorem setThr_roots (ts : List Thr) (i : Nat) (st : List Frame) :
    (setThr ts i st).map (·.root) = ts.map (·.root) := by
  induction ts generalizing i with
  | nil => rfl
  | cons th ts ih => cases i <;> simp [setThr, ih]

/-- Threads keep their ids and roots; a started thread gets the next id. -/
theorem threadsAfter_roots (ts : List Thr) (t : Nat) (st : List Frame) (sp : Option Key) :
    (threadsAfter ts t st sp).map (·.root) = ts.map (·.root) ++ sp.toList := by
  cases t <;> cases sp <;> simp [threadsAfter, spawned, setThr_roots]

theorem thrRef_after {ts : List Thr} (t : Nat) (st : List Frame) (sp : Option Key) {k : Key} {j : Nat}
    (h : ThrRef ts k j) : ThrRef (threadsAfter ts t st sp) k j := by
  obtain ⟨i, rfl, hi⟩ := h
  obtain ⟨hlt, _⟩ := List.getElem?_eq_some_iff.mp hi
  exact ⟨i, rfl, by rw [threadsAfter_roots, List.getElem?_append_left hlt]; exact hi⟩

theorem thrRef_after_new (ts : List Thr) (t : Nat) (st : List Frame) (k : Key) :
    ThrRef (threadsAfter ts t st (some k)) k (ts.length + 1) :=
  ⟨ts.length, rfl, by simp [threadsAfter_roots]⟩

theorem thrRef_get {ts : List Thr} {k : Key} {t : Nat} (h : ThrRef ts k t) :
    ∃ i th, t = i + 1 ∧ ts[i]? = some th ∧ th.root = k := by
  obtain ⟨j, rfl, hj⟩ := h
  rw [List.getElem?_map, Option.map_eq_some_iff] at hj
  obtain ⟨th, hth, hr⟩ := hj
  exact ⟨j, th, rfl, hth, hr⟩

section Transition
variable {sh sh' : Shared} {n : Nat} {f : Frame} {nx : Next} {sp : Option Key} {rest st : List Frame}
  {b : Option Val} {k : Key} {j : Nat}

theorem Top.loading (h : Top g sh n f sh' nx sp) (hl : sh'.loading k = some j) :
    sh.loading k = some j ∨ (sp = some k ∧ j = n) := by
  have hupd : ∀ k' v, upd sh.loading k' v k = some j → sh.loading k = some j ∨ (k = k' ∧ v = some j) := by
    intro k' v hu
    by_cases hk : k = k'
    · subst hk; exact .inr ⟨rfl, upd_same sh.loading k v ▸ hu⟩
    · exact .inl (upd_other sh.loading k' k v hk ▸ hu)
  cases h
  case pop => exact (hupd _ _ hl).imp_right fun h => nomatch h.2
  case spawn => exact (hupd _ _ hl).imp_right fun ⟨h1, h2⟩ => ⟨by rw [h1], by cases h2; rfl⟩
  case defer => exact (hupd _ _ hl).imp_right fun ⟨h1, h2⟩ => ⟨by rw [h1], by cases h2; rfl⟩
  all_goals exact .inl hl

theorem join_ne_advance (k' : Key) (todo : List Url) (acc : List Tree) (id : Nat) :
    Frame.join k j ≠ advance k' todo acc id := by
  cases todo <;> nofun

theorem joins_step (h : Top g sh n f sh' nx sp) (ha : Applied nx rest st b) (hj : .join k j ∈ st) :
    .join k j ∈ rest ∨ sh.loading k = some j := by
  cases ha with
  | exit => cases hj
  | deliver =>
    rcases List.mem_cons.mp hj with h1 | h1
    · exact absurd h1 (join_ne_advance _ _ _ _)
    · exact .inl (List.mem_cons_of_mem _ h1)
  | cont =>
    rcases List.mem_append.mp hj with h1 | h1
    · right
      cases h
      case wait hlg => cases List.mem_singleton.mp h1; exact hlg
      case doc => exact absurd (List.mem_singleton.mp h1) (join_ne_advance _ _ _ _)
      case last => exact absurd (List.mem_singleton.mp h1) (join_ne_advance _ _ _ _)
      case next => exact (List.mem_cons.mp h1).elim nofun fun h2 => nomatch List.mem_singleton.mp h2
      case spawn => exact (List.mem_cons.mp h1).elim nofun fun h2 => nomatch List.mem_singleton.mp h2
      all_goals cases List.mem_singleton.mp h1
    · exact .inl h1

theorem Applied.ne_nil (h : Top g sh n f sh' nx sp) (ha : Applied nx rest st none) : st ≠ [] := by
  cases ha with
  | deliver => nofun
  | cont => cases h <;> exact List.cons_ne_nil _ _

end Transition

def JoinsOK (ts : List Thr) (st : List Frame) : Prop :=
  ∀ k t, Frame.join k t ∈ st → ThrRef ts k t

def BodyBot (st : List Frame) (k : Key) : Prop :=
  ∀ f, st.getLast? = some f → f.key = k ∧ IsBody f

/-- The part of `ProgressInv` that also holds between the picked thread's transition and the caller's
    bookkeeping. -/
structure RefsInv (s : State) : Prop where
  loadingThr : ∀ k t, s.sh.loading k = some t → ThrRef s.threads k t
  stacks : AllStacks (fun r st => JoinsOK s.threads st ∧ ∀ k, r = some k → BodyBot st k) s

structure ProgressInv (s : State) : Prop extends RefsInv s where
  callerProg : s.caller = [] → s.prog = []

variable {s : State} {sh' : Shared} {t : Nat} {f : Frame} {rest st : List Frame} {nx : Next}
  {sp : Option Key} {b : Option Val}

theorem RefsInv.to_mid (hacy : Acyclic g rank) (hi : Inv g rank cache0 s) (hq : RefsInv s)
    (hstk : stackOf s t = f :: rest) (h : Top g s.sh (s.threads.length + 1) f sh' nx sp)
    (ha : Applied nx rest st b) : RefsInv (mid s sh' t st sp) := by
  have hext : ∀ {k j}, ThrRef s.threads k j → ThrRef (mid s sh' t st sp).threads k j :=
    thrRef_after t st sp
  refine ⟨fun k j hl => ?_, hq.stacks.to_mid hstk (fun r st' hp => ⟨fun k j hm => hext (hp.1 k j hm), hp.2⟩)
    (fun r hp => ⟨fun k j hj => ?_, fun k hr x' hx' => ?_⟩) fun k _ => ⟨by simp [JoinsOK], ?_⟩⟩
  · rcases h.loading hl with h1 | ⟨rfl, rfl⟩
    · exact hext (hq.loadingThr k j h1)
    · exact thrRef_after_new s.threads t st k
  · rcases joins_step h ha hj with h1 | h1
    · exact hext (hp.1 k j (List.mem_cons_of_mem _ h1))
    · exact hext (hq.loadingThr k j h1)
  · obtain ⟨x, hx, hfo⟩ := ((hi.picked hstk).step hacy hi.table h ha).2 x' hx'
    obtain ⟨hk, hb⟩ := hp.2 k hr x hx
    exact ⟨hfo.1.trans hk, hfo.2.2 hb⟩
  · intro k' hk' x hx
    cases hk'
    cases hx
    exact ⟨rfl, trivial⟩

theorem joinsOK_opStack (ts : List Thr) (ops : List Op) : JoinsOK ts (opStack ops) := by
  intro k t hj
  obtain ⟨o, _, ho⟩ := mem_opStack.mp hj
  cases o <;> cases ho

theorem opStack_eq_nil {ops : List Op} (h : opStack ops = []) : ops = [] := by
  rcases ops with _ | ⟨o, _⟩
  · rfl
  · cases h

theorem init_progressInv (cache0 : Url → CacheSt) (prog : List Op) : ProgressInv (init cache0 prog) := by
  obtain ⟨b, e⟩ := init_eq cache0 prog
  rw [e]
  exact ⟨⟨fun _ _ h => (nomatch h), ⟨joinsOK_opStack _ _, nofun⟩, List.forall_mem_nil _⟩, opStack_eq_nil⟩

theorem step_progressInv (hacy : Acyclic g rank) (hi : Inv g rank cache0 s) (hp : ProgressInv s) (t : Nat) :
    ProgressInv (step g s t) := by
  refine hi.step_cases t (fun _ => hp) ?_ ?_
  · intro f rest sh' nx sp st b hstk h ha hb
    refine ⟨hp.toRefsInv.to_mid hacy hi hstk h ha, ?_⟩
    cases t with
    | zero => cases hb rfl; exact fun hc => absurd hc (ha.ne_nil h)
    | succ i => exact hp.callerProg
  · intro f sh' v sp op ops _ hc hpr _ h
    have hq := hp.toRefsInv.to_mid hacy hi (t := 0) hc h .exit
    obtain ⟨b, e⟩ := finishOp_eq (s := mid s sh' 0 [] sp) hpr v
    rw [e]
    exact ⟨⟨hq.loadingThr, ⟨joinsOK_opStack _ _, nofun⟩, hq.stacks.2⟩, opStack_eq_nil⟩

theorem runSched_progressInv (hacy : Acyclic g rank) (sched : List Nat) :
    ∀ s, Inv g rank cache0 s → ProgressInv s → ProgressInv (runSched g s sched) := by
  induction sched with
  | nil => exact fun s _ hp => hp
  | cons t ts ih => exact fun s hi hp => ih _ (step_inv hacy hi t) (step_progressInv hacy hi hp t)

/-- In a well-formed stack the key of the top frame is an include (transitively) of the key of
    the bottom frame. -/
theorem rank_top_bot (hacy : Acyclic g rank) :
    ∀ (st : List Frame) (f b : Frame), (∀ x ∈ f :: st, FrameOK g rank x) → Links (f :: st) →
      (f :: st).getLast? = some b → f = b ∨ rank f.key.url < rank b.key.url := by
  intro st
  induction st with
  | nil => intro f b _ _ hb; cases hb; exact .inl rfl
  | cons f' r ih =>
    intro f b hfr ⟨⟨k, u, todo, acc, id, hf', hku, _⟩, hl⟩ hb
    subst hf'
    obtain ⟨done, hg, _⟩ := hfr _ (List.mem_cons_of_mem _ (List.mem_cons_self ..))
    have hlt : rank f.key.url < rank k.url := hku ▸ hacy k.url _ u hg (by simp)
    rw [List.getLast?_cons_cons] at hb
    rcases ih _ b (fun x hx => hfr x (List.mem_cons_of_mem _ hx)) hl hb with rfl | h2
    · exact .inr hlt
    · exact .inr (Nat.lt_trans hlt h2)

theorem waits_lower (hacy : Acyclic g rank) (hi : Inv g rank cache0 s) (hp : ProgressInv s) {i : Nat} {th : Thr}
    (hth : s.threads[i]? = some th) {k : Key} {j : Nat} {rest : List Frame}
    (hstk : th.stack = .join k j :: rest) :
    ∃ i' th', j = i' + 1 ∧ s.threads[i']? = some th' ∧ th'.root = k ∧
      rank th'.root.url < rank th.root.url := by
  have hmem := List.mem_of_getElem? hth
  obtain ⟨hj, hbot⟩ := hp.stacks.2 th hmem
  obtain ⟨i', th', rfl, hth', hroot⟩ := thrRef_get (hj k j (by simp [hstk]))
  refine ⟨i', th', rfl, hth', hroot, ?_⟩
  obtain ⟨hfr, hl, _⟩ := (hi.stacks.2 th hmem).1
  rw [hstk] at hfr hl hbot
  cases hb : (Frame.join k (i' + 1) :: rest).getLast? with
  | none => simp at hb
  | some b =>
    obtain ⟨hk, hbody⟩ := hbot _ rfl b hb
    rcases rank_top_bot hacy rest _ b hfr hl hb with rfl | hlt
    · exact hbody.elim
    · rw [hroot, ← hk]; exact hlt

theorem enabled_iff_top (hstk : stackOf s t = f :: rest) :
    enabled s t = true ↔ ∀ k j, f = .join k j → finished s j = true := by
  unfold enabled
  rw [hstk]
  cases f <;> simp

theorem finished_iff {i : Nat} {th : Thr} (hth : s.threads[i]? = some th) :
    finished s (i + 1) = true ↔ th.stack = [] := by
  simp [finished, hth]

/-- A chain of blocked loader threads ends in an enabled thread (`n` bounds `rank th.root.url` for
    the strong induction). -/
theorem unfinished_thread_enabled (hacy : Acyclic g rank) (hi : Inv g rank cache0 s) (hp : ProgressInv s) :
    ∀ (n i : Nat) (th : Thr), s.threads[i]? = some th → th.stack ≠ [] → rank th.root.url < n →
      ∃ t, enabled s t = true := by
  intro n
  induction n with
  | zero => intro i th _ _ hr; omega
  | succ n ih =>
    intro i th hth hne hr
    cases hstk : th.stack with
    | nil => exact absurd hstk hne
    | cons f rest =>
      have hen := enabled_iff_top (s := s) (t := i + 1) (f := f) (rest := rest) (by simp [stackOf, hth, hstk])
      by_cases hfin : ∀ k j, f = .join k j → finished s j = true
      · exact ⟨_, hen.2 hfin⟩
      · cases f with
        | join k j =>
          obtain ⟨i', th', rfl, hth', _, hlt⟩ := waits_lower hacy hi hp hth hstk
          exact ih i' th' hth' (fun he => hfin fun _ _ hh => by cases hh; exact (finished_iff hth').2 he)
            (by omega)
        | _ => exact absurd nofun hfin

theorem progress_of_inv (hacy : Acyclic g rank) (hi : Inv g rank cache0 s) (hp : ProgressInv s) :
    allDone s = true ∨ ∃ t, enabled s t = true := by
  by_cases hall : ∀ th ∈ s.threads, th.stack = []
  · -- all loader threads finished: the caller is done or enabled
    cases hc : s.caller with
    | nil => exact .inl (allDone_iff.2 ⟨hc, hp.callerProg hc, hall⟩)
    | cons f rest =>
      refine .inr ⟨0, (enabled_iff_top (t := 0) hc).2 fun k j hf => ?_⟩
      obtain ⟨i', th', rfl, hth', _⟩ := thrRef_get (hp.stacks.1.1 k j (by simp [hc, hf]))
      exact (finished_iff hth').2 (hall th' (List.mem_of_getElem? hth'))
  · have : ∃ th ∈ s.threads, th.stack ≠ [] := by simpa using hall
    obtain ⟨th, hmem, hne⟩ := this
    obtain ⟨i, hth⟩ := List.getElem?_of_mem hmem
    exact .inr (unfinished_thread_enabled hacy hi hp _ i th hth hne (Nat.lt_succ_self _))

end Loader
