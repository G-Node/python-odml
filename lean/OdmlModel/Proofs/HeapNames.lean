/-
Names and ids through the editing operations (the non-structural half of C04):
every operation leaves names and ids alone, except `rename` and `new_id` (the one object) and the
constructors (the new object): `step_names_ids`.
-/
import OdmlModel.Proofs.HeapWF

namespace Heap

/-- `h'` has the size, names and ids of `h`. -/
def FrameNI (h h' : H) : Prop :=
  h'.size = h.size ∧ ∀ i, (h'.node i).name = (h.node i).name ∧ (h'.node i).id = (h.node i).id

theorem FrameNI.refl (h : H) : FrameNI h h := ⟨rfl, fun _ => ⟨rfl, rfl⟩⟩

theorem FrameNI.trans {a b c : H} (h1 : FrameNI a b) (h2 : FrameNI b c) : FrameNI a c :=
  ⟨h2.1.trans h1.1, fun i => ⟨(h2.2 i).1.trans (h1.2 i).1, (h2.2 i).2.trans (h1.2 i).2⟩⟩

theorem FrameNI.upd {h : H} {i : Nat} {f : Node → Node}
    (hf : ∀ n, (f n).name = n.name ∧ (f n).id = n.id) : FrameNI h (upd h i f) := by
  refine ⟨rfl, fun j => ?_⟩
  unfold Heap.upd; dsimp only
  split
  · exact hf _
  · exact ⟨rfl, rfl⟩

theorem FrameNI.upd_of {h g : H} (hg : FrameNI h g) {i : Nat} {f : Node → Node}
    (hf : ∀ n, (f n).name = n.name ∧ (f n).id = n.id) : FrameNI h (Heap.upd g i f) :=
  hg.trans (FrameNI.upd hf)

theorem FrameNI.links {h g : H} (hg : FrameNI h g) {i : Nat} {par : Node → Option Nat}
    {secs props : Node → List Nat} :
    FrameNI h (Heap.upd g i fun n => { n with parent := par n, secs := secs n, props := props n }) :=
  hg.upd_of fun _ => ⟨rfl, rfl⟩

theorem FrameNI.ite {h : H} {c : Prop} [Decidable c] {a b : H × Outcome} (ha : c → FrameNI h a.1)
    (hb : ¬ c → FrameNI h b.1) : FrameNI h (if c then a else b).1 :=
  ite_ind (fun r : H × Outcome => FrameNI h r.1) ha hb

theorem removeChild_frame {h h1 : H} {q x : Nat} (hr : removeChild h q x = some h1) :
    FrameNI h h1 := by
  unfold removeChild at hr
  repeat' split at hr
  all_goals cases hr
  all_goals exact .links (.links (.refl _))

theorem removeFromParent_frame {h h1 : H} {x : Nat} {old : Option Nat}
    (hr : (match old with
      | some q => removeChild h q x
      | none => some h) = some h1) : FrameNI h h1 := by
  split at hr
  · exact removeChild_frame hr
  · cases hr; exact .refl _

theorem adopt_frame {h h1 : H} {p x : Nat} (hr : adopt h p x = some h1) : FrameNI h h1 := by
  unfold adopt at hr
  repeat' split at hr
  all_goals cases hr
  · exact .links (.refl _)
  · exact .links (removeChild_frame ‹_›)
  · exact .links (.refl _)

theorem adoptOrRaise_frame {h h1 : H} (p x : Nat) (f : FrameNI h h1) :
    FrameNI h (match adopt h1 p x with
      | some h2 => (h2, Outcome.ok)
      | none => (h1, .raised .valueError)).1 := by
  split
  · exact f.trans (adopt_frame ‹_›)
  · exact f

theorem append_frame (h : H) (p x : Nat) : FrameNI h (append h p x).1 := by
  unfold append
  repeat' split
  all_goals first
    | exact .refl _
    | exact adoptOrRaise_frame p x (.links (.refl _))

theorem insert_frame (h : H) (p : Nat) (pos : Int) (x : Nat) : FrameNI h (insert h p pos x).1 := by
  unfold insert
  repeat' split
  all_goals first
    | exact .refl _
    | exact adoptOrRaise_frame p x (.links (.refl _))

theorem appendAll_frame (p : Nat) : ∀ (xs : List Nat) (h : H), FrameNI h (appendAll h p xs).1
  | [], h => .refl h
  | x :: xs, h => by
    have hf := append_frame h p x
    unfold appendAll
    split
    · rename_i h1 ha; rw [ha] at hf; exact hf.trans (appendAll_frame p xs h1)
    · rename_i h1 e ha; rw [ha] at hf; exact hf

theorem extend_frame (h : H) (p : Nat) (xs : List Nat) : FrameNI h (extend h p xs).1 := by
  unfold extend
  repeat' split
  all_goals first
    | exact .refl _
    | exact appendAll_frame p xs h

theorem remove_frame (h : H) (p x : Nat) : FrameNI h (remove h p x).1 := by
  unfold remove
  repeat' split
  all_goals first
    | exact .refl _
    | exact removeChild_frame ‹_›

theorem setParent_frame (h : H) (x : Nat) (np : Option Nat) : FrameNI h (setParent h x np).1 := by
  unfold setParent
  refine .ite (fun _ => .refl _) fun _ => ?_
  split
  · exact .refl _
  · split
    · exact removeChild_frame ‹_›
    · exact .refl _
  · dsimp only
    refine .ite (fun _ => .refl _) fun _ => .ite (fun _ => .refl _) fun _ =>
      .ite (fun _ => .refl _) fun _ => ?_
    split
    · exact .refl _
    · exact (FrameNI.links (removeFromParent_frame ‹_›)).trans (append_frame _ _ x)

theorem setItem_frame (h : H) (p : Nat) (s : Bool) (key : Int) (v : Nat) :
    FrameNI h (setItem h p s key v).1 := by
  unfold setItem
  dsimp only
  refine .ite (fun _ => .refl _) fun _ => .ite (fun _ => .refl _) fun _ => ?_
  split
  · exact .refl _
  split
  · exact .refl _
  refine .ite (fun _ => .refl _) fun _ => .ite (fun _ => .refl _) fun _ =>
    .ite (fun _ => .refl _) fun _ => ?_
  split
  · exact .refl _
  · exact .upd_of (.links (.links (removeFromParent_frame ‹_›)))
      (by intro n; split <;> exact ⟨rfl, rfl⟩)

theorem reorder_frame (h : H) (x : Nat) (ni : Int) : FrameNI h (reorder h x ni).1 := by
  unfold reorder
  refine .ite (fun _ => .refl _) fun _ => ?_
  split
  · exact .refl _
  refine .ite (fun _ => .refl _) fun _ => .ite (fun _ => ?_) fun _ =>
    .ite (fun _ => .refl _) fun _ => ?_
  all_goals
    split
    · exact .refl _
    · exact .links (.refl _)

theorem rename_result (h : H) (x : Nat) (new : String) :
    (rename h x new).1 = h ∨
    (rename h x new).1 = upd h x (fun n => { n with name := if new = "" then (h.node x).id else new }) := by
  unfold rename
  dsimp only
  generalize (if new = "" then (h.node x).id else new) = new'
  have ite {c : Prop} [Decidable c] {a b : H × Outcome} :=
    @ite_ind _ (fun r : H × Outcome => r.1 = h ∨ r.1 = upd h x fun n => { n with name := new' }) c _ a b
  exact ite (fun _ => .inl rfl) fun _ => ite (fun _ => .inl rfl) fun _ =>
    ite (fun _ => .inl rfl) fun _ => ite (fun _ => .inl rfl) fun _ => .inr rfl

theorem step_names_ids (h : H) (op : Op) :
    FrameNI h (step h op).1 ∨
    (∃ x new, op = .rename x new ∧
      (step h op).1 = upd h x fun n => { n with name := if new = "" then (h.node x).id else new }) ∨
    (∃ x s, op = .newId x (some s) ∧ (step h op).1 = upd h x fun n => { n with id := s }) ∨
    (∃ k name id parent ok, op = .construct k name id parent ok ∧
      FrameNI (alloc h k name id).1 (step h op).1) := by
  unfold step
  split
  · exact .inl (.refl _)
  cases op with
  | construct k name id parent argsOk =>
    dsimp only; unfold construct
    cases argsOk
    · exact .inl (.refl _)
    simp only [Bool.not_true, Bool.false_eq_true, if_false]
    have f : ∀ p h2 o, setParent (alloc h k name id).1 (alloc h k name id).2 p = (h2, o) →
        FrameNI (alloc h k name id).1 h2 := fun p h2 o e => by
      have := setParent_frame (alloc h k name id).1 (alloc h k name id).2 p
      rwa [e] at this
    repeat' split
    · exact .inr (.inr (.inr ⟨_, _, _, _, _, rfl, .refl _⟩))
    · exact .inr (.inr (.inr ⟨_, _, _, _, _, rfl, .refl _⟩))
    · exact .inr (.inr (.inr ⟨_, _, _, _, _, rfl, f _ _ _ ‹_›⟩))
    · exact .inl (.refl _)
  | append p x => exact .inl (append_frame h p x)
  | insert p pos x => exact .inl (insert_frame h p pos x)
  | extend p xs => exact .inl (extend_frame h p xs)
  | remove p x => exact .inl (remove_frame h p x)
  | setParent x np => exact .inl (setParent_frame h x np)
  | setItem p s key v => exact .inl (setItem_frame h p s key v)
  | reorder x i => exact .inl (reorder_frame h x i)
  | rename x new =>
    dsimp only
    rcases rename_result h x new with e | e
    · rw [e]; exact .inl (.refl _)
    · exact .inr (.inl ⟨_, _, rfl, e⟩)
  | newId x idText =>
    cases idText with
    | none => exact .inl (.refl _)
    | some s => exact .inr (.inr (.inl ⟨_, _, rfl, rfl⟩))

/-- Every allocated object has a non-empty name and a non-empty id. -/
def NamesNE (h : H) : Prop := ∀ x, x < h.size → (h.node x).name ≠ "" ∧ (h.node x).id ≠ ""

/-- The id texts an operation brings in are non-empty (they are rendered UUIDs). -/
def Op.IdsOk : Op → Prop
  | .construct _ _ id _ _ => id ≠ ""
  | .newId _ (some s) => s ≠ ""
  | _ => True

theorem NamesNE.name_ne {h : H} (w : NamesNE h) {i : Nat} (hi : i < h.size) :
    (h.node i).name ≠ "" :=
  (w i hi).1

theorem NamesNE.of_frame {h h' : H} (w : NamesNE h) (f : FrameNI h h') : NamesNE h' := by
  intro x hx
  rw [f.1] at hx
  rw [(f.2 x).1, (f.2 x).2]
  exact w x hx

theorem namesNE_empty : NamesNE empty := by
  intro x hx; exact absurd hx (Nat.not_lt_zero _)

theorem namesNE_alloc {h : H} (w : NamesNE h) (k : Kind) (name id : String) (hid : id ≠ "") :
    NamesNE (alloc h k name id).1 := by
  intro x hx
  by_cases hxs : x = h.size
  · subst hxs
    simp only [alloc, if_true]
    refine ⟨?_, hid⟩
    split
    · exact hid
    · assumption
  · simp only [alloc, hxs, if_false]
    exact w x (Nat.lt_of_le_of_ne (Nat.le_of_lt_succ hx) hxs)

theorem namesNE_step {h : H} (w : NamesNE h) (op : Op) (hid : op.IdsOk) : NamesNE (step h op).1 := by
  rcases step_names_ids h op with f | ⟨x, new, rfl, e⟩ | ⟨x, s, rfl, e⟩ | ⟨k, name, id, _, _, rfl, f⟩
  · exact w.of_frame f
  · rw [e]
    intro y hy
    by_cases hyx : y = x
    · subst hyx
      rw [upd_same]
      refine ⟨?_, (w y hy).2⟩
      dsimp only
      split
      · exact (w y hy).2
      · assumption
    · rw [upd_other _ _ _ _ hyx]; exact w y hy
  · rw [e]
    intro y hy
    by_cases hyx : y = x
    · subst hyx; rw [upd_same]; exact ⟨(w y hy).1, hid⟩
    · rw [upd_other _ _ _ _ hyx]; exact w y hy
  · exact (namesNE_alloc w k name id hid).of_frame f

end Heap
