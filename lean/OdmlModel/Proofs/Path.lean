/-
Helper lemmas for C14: trees and positions, `split`/`join`, `_get_section_by_path`.
-/
import OdmlModel.Model.Path
import OdmlModel.Proofs.Str

namespace PathTree

theorem plainName_iff (n : Str) :
    plainName n = true ↔ n ≠ [] ∧ '/' ∉ n ∧ ':' ∉ n ∧ n ≠ ['.'] ∧ n ≠ ['.', '.'] := by
  simp [plainName, and_assoc]

theorem distinct_iff (l : List Str) : distinct l = true ↔ l.Nodup := by
  induction l with
  | nil => simp [distinct]
  | cons n r ih => simp [distinct, ih]

/-- in a list with pairwise distinct names the first element with a given name is *the* element -/
theorem findIdx_of_distinct {α : Type} (nm : α → Str) (l : List α) (i : Nat) (x : α)
    (hd : distinct (l.map nm) = true) (hx : l[i]? = some x) :
    l.findIdx? (fun y => nm y = nm x) = some i := by
  induction l generalizing i with
  | nil => simp at hx
  | cons y r ih =>
    rw [List.map_cons, distinct_iff, List.nodup_cons, ← distinct_iff] at hd
    cases i with
    | zero =>
      simp at hx; subst hx
      simp [List.findIdx?_cons]
    | succ j =>
      have hne : ¬ nm y = nm x := fun h =>
        hd.1 (h ▸ List.mem_map_of_mem (List.mem_of_getElem? hx))
      simp [List.findIdx?_cons, hne, ih j hd.2 hx]

/-- `Sec` is a nested inductive: induction needs the motive "all members of the child list" -/
theorem Sec.induct {P : Sec → Prop}
    (mk : ∀ n t ps ss, (∀ s ∈ ss, P s) → P (.mk n t ps ss)) : ∀ s, P s :=
  Sec.rec (motive_1 := P) (motive_2 := fun l => ∀ s ∈ l, P s) mk (fun _ h => nomatch h)
    (fun _ _ iht ihl s hs => (List.mem_cons.1 hs).elim (· ▸ iht) (ihl s))

theorem wfList_iff (l : List Sec) : wfList l = true ↔ ∀ s ∈ l, s.wf = true := by
  induction l with
  | nil => simp [wfList, Sec.wf.wfList]
  | cons s r ih => simp [wfList, Sec.wf.wfList, ih]

theorem Sec.wf_iff (s : Sec) : s.wf = true ↔ propsOk s.props = true ∧ wfForest s.subs = true := by
  cases s with
  | mk n t ps ss => simp [Sec.wf, wfForest, wfList, and_assoc]

theorem wfForest_get {l : List Sec} (h : wfForest l = true) {i : Nat} {s : Sec}
    (hs : l[i]? = some s) :
    plainName s.name = true ∧ wfForest s.subs = true ∧ propsOk s.props = true ∧
      l.findIdx? (fun y => y.name = s.name) = some i := by
  simp only [wfForest, Bool.and_eq_true] at h
  obtain ⟨⟨h1, h2⟩, h3⟩ := h
  have hm := List.mem_of_getElem? hs
  have hw := (Sec.wf_iff s).1 ((wfList_iff l).1 h1 s hm)
  refine ⟨?_, hw.2, hw.1, findIdx_of_distinct Sec.name l i s h3 hs⟩
  simp only [List.all_eq_true, List.mem_map, forall_exists_index, and_imp] at h2
  exact h2 _ s hm rfl

theorem kidsAt_cons_eq_some {l l' : List Sec} {i : Nat} {q : Pos} :
    kidsAt l (i :: q) = some l' ↔ ∃ s, l[i]? = some s ∧ kidsAt s.subs q = some l' := by
  simp only [kidsAt]
  cases l[i]? with
  | none => exact ⟨nofun, fun ⟨_, h, _⟩ => nomatch h⟩
  | some s => simp only [Option.some.injEq, exists_eq_left']

theorem namesAlong_cons_eq_some {l : List Sec} {i : Nat} {q : Pos} {ns : List Str} :
    namesAlong l (i :: q) = some ns ↔
      ∃ s, l[i]? = some s ∧ ∃ ms, namesAlong s.subs q = some ms ∧ s.name :: ms = ns := by
  simp only [namesAlong]
  cases l[i]? with
  | none => exact ⟨nofun, fun ⟨_, h, _⟩ => nomatch h⟩
  | some s => simp only [Option.map_eq_some_iff, Option.some.injEq, exists_eq_left']

theorem kidsAt_append (l : List Sec) (q r : Pos) :
    kidsAt l (q ++ r) = (kidsAt l q).bind (fun l' => kidsAt l' r) := by
  induction q generalizing l with
  | nil => rfl
  | cons i q ih =>
    simp only [List.cons_append, kidsAt]
    cases l[i]? with
    | none => rfl
    | some s => exact ih _

theorem kidsAt_snoc (l l' : List Sec) (q : Pos) (i : Nat) (s : Sec)
    (hq : kidsAt l q = some l') (hs : l'[i]? = some s) : kidsAt l (q ++ [i]) = some s.subs := by
  simp only [kidsAt_append, hq, Option.bind_some, kidsAt, hs]

theorem secAt_cons_cons (l : List Sec) (i j : Nat) (r : Pos) :
    secAt l (i :: j :: r) = (l[i]?).bind (fun s => secAt s.subs (j :: r)) := by
  simp only [secAt]
  cases l[i]? <;> rfl

theorem secAt_cons (l : List Sec) (i : Nat) (r : Pos) (hr : r ≠ []) :
    secAt l (i :: r) = (l[i]?).bind (fun s => secAt s.subs r) := by
  cases r with
  | nil => exact absurd rfl hr
  | cons j t => exact secAt_cons_cons l i j t

theorem secAt_append (l l' : List Sec) (q r : Pos) (hr : r ≠ [])
    (hq : kidsAt l q = some l') : secAt l (q ++ r) = secAt l' r := by
  induction q generalizing l with
  | nil => cases hq; rfl
  | cons i q ih =>
    obtain ⟨s, hi, hq⟩ := kidsAt_cons_eq_some.1 hq
    obtain ⟨j, t, hjt⟩ := List.exists_cons_of_ne_nil (List.append_ne_nil_of_right_ne_nil q hr)
    rw [List.cons_append, hjt, secAt_cons_cons, hi, ← hjt]
    exact ih _ hq

theorem kidsAt_of_secAt (l : List Sec) (p : Pos) (s : Sec) (h : secAt l p = some s) :
    kidsAt l p = some s.subs := by
  induction p generalizing l with
  | nil => cases h
  | cons i r ih =>
    cases r with
    | nil => simp only [secAt] at h; simp only [kidsAt, h]
    | cons j t =>
      rw [secAt_cons_cons] at h
      obtain ⟨s', hi, h⟩ := Option.bind_eq_some_iff.1 h
      exact kidsAt_cons_eq_some.2 ⟨s', hi, ih _ h⟩

theorem namesAlong_append (l l' : List Sec) (q r : Pos) (hq : kidsAt l q = some l') :
    namesAlong l (q ++ r) =
      (namesAlong l q).bind (fun a => (namesAlong l' r).map (fun b => a ++ b)) := by
  induction q generalizing l with
  | nil => cases hq; simp [namesAlong]
  | cons i q ih =>
    obtain ⟨s, hi, hq⟩ := kidsAt_cons_eq_some.1 hq
    simp only [List.cons_append, namesAlong, hi, ih _ hq]
    cases namesAlong s.subs q <;> cases namesAlong l' r <;> rfl

theorem namesAlong_isSome (l : List Sec) (q : Pos) :
    (namesAlong l q).isSome = (kidsAt l q).isSome := by
  induction q generalizing l with
  | nil => rfl
  | cons i q ih =>
    simp only [namesAlong, kidsAt]
    cases l[i]? with
    | none => rfl
    | some s => simp only [Option.isSome_map, ih]

theorem namesAlong_of_secAt (l : List Sec) (p : Pos) (s : Sec) (h : secAt l p = some s) :
    ∃ ns, namesAlong l p = some ns :=
  Option.isSome_iff_exists.1 (by rw [namesAlong_isSome, kidsAt_of_secAt l p s h]; rfl)

theorem namesAlong_length (l : List Sec) (q : Pos) (ns : List Str) (h : namesAlong l q = some ns) :
    ns.length = q.length := by
  induction q generalizing l ns with
  | nil => cases h; rfl
  | cons i q ih =>
    obtain ⟨s, _, ms, hm, rfl⟩ := namesAlong_cons_eq_some.1 h
    rw [List.length_cons, List.length_cons, ih _ _ hm]

theorem namesAlong_ne_nil {l : List Sec} {q : Pos} {ns : List Str} (h : namesAlong l q = some ns)
    (hq : q ≠ []) : ns ≠ [] := fun hn =>
  hq (List.length_eq_zero_iff.1 ((namesAlong_length _ _ _ h).symm.trans (hn ▸ rfl)))

theorem namesAlong_plain (l : List Sec) (q : Pos) (ns : List Str) (hw : wfForest l = true)
    (h : namesAlong l q = some ns) : ∀ n ∈ ns, plainName n = true := by
  induction q generalizing l ns with
  | nil => cases h; nofun
  | cons i q ih =>
    obtain ⟨s, hi, ms, hm, rfl⟩ := namesAlong_cons_eq_some.1 h
    obtain ⟨hp, hs, _, _⟩ := wfForest_get hw hi
    exact List.forall_mem_cons.2 ⟨hp, ih _ _ hs hm⟩

theorem wfForest_kidsAt (l l' : List Sec) (q : Pos) (hw : wfForest l = true)
    (h : kidsAt l q = some l') : wfForest l' = true := by
  induction q generalizing l with
  | nil => cases h; exact hw
  | cons i q ih =>
    obtain ⟨s, hi, h⟩ := kidsAt_cons_eq_some.1 h
    exact ih _ (wfForest_get hw hi).2.1 h

theorem propsOk_of_secAt (l : List Sec) (p : Pos) (s : Sec) (hw : wfForest l = true)
    (h : secAt l p = some s) : propsOk s.props = true := by
  induction p generalizing l with
  | nil => cases h
  | cons i r ih =>
    cases r with
    | nil => exact (wfForest_get hw (i := i) h).2.2.1
    | cons j t =>
      rw [secAt_cons_cons] at h
      obtain ⟨s', hi, h⟩ := Option.bind_eq_some_iff.1 h
      exact ih _ (wfForest_get hw hi).2.1 h

theorem secAt_ne_nil (l : List Sec) (p : Pos) (s : Sec) (h : secAt l p = some s) : p ≠ [] := by
  rintro rfl; cases h

end PathTree

namespace Py

open Py.Posix

theorem splitOn_cons_sep (sep : Char) (s : List Char) : splitOn sep (sep :: s) = [] :: splitOn sep s := by
  simp [splitOn]

theorem splitOn_ne_nil (sep : Char) (s : List Char) : splitOn sep s ≠ [] := by
  induction s with
  | nil => simp [splitOn]
  | cons c cs ih =>
    simp only [splitOn]
    split
    · simp
    · split <;> simp

theorem no_sep_of_not_mem {sep : Char} {s : List Char} (h : sep ∉ s) : ∀ c ∈ s, (c == sep) = false := by
  intro c hc
  simp only [beq_eq_false_iff_ne, ne_eq]
  rintro rfl
  exact h hc

theorem joinSlash_eq_joinSep (ns : List (List Char)) : joinSlash ns = joinSep '/' ns := by
  induction ns with
  | nil => rfl
  | cons n r ih =>
    cases r with
    | nil => rfl
    | cons m t => exact congrArg (n ++ '/' :: ·) ih

/-- `"/".join(segs).split("/") == segs` for slash-free segments -/
theorem splitOn_joinSlash (ns : List (List Char)) (hne : ns ≠ []) (h : ∀ n ∈ ns, '/' ∉ n) :
    splitOn '/' (joinSlash ns) = ns :=
  joinSlash_eq_joinSep ns ▸ splitOn_joinSep '/' ns hne fun n hn => no_sep_of_not_mem (h n hn)

theorem not_mem_joinSlash (c : Char) (hc : c ≠ '/') (ns : List (List Char)) (h : ∀ n ∈ ns, c ∉ n) :
    c ∉ joinSlash ns := fun hm =>
  (mem_joinSep (joinSlash_eq_joinSep ns ▸ hm)).elim hc fun ⟨a, ha, hca⟩ => h a ha hca

end Py

namespace Path
open PathTree Py Py.Posix

/-- `_get_section_by_path` on the rest of a path: a rest that is used up returns the node reached -/
def resolveFrom (d : Doc) (cur : Pos) (segs : List Str) : Res Pos :=
  if segs = [] then .ok cur else resolveSegs d cur segs

theorem resolveFrom_nil (d : Doc) (cur : Pos) : resolveFrom d cur [] = .ok cur := rfl

theorem resolveFrom_of_ne {segs : List Str} (h : segs ≠ []) (d : Doc) (cur : Pos) :
    resolveFrom d cur segs = resolveSegs d cur segs := if_neg h

theorem resolveSegs_child (d : Doc) (cur : Pos) (l : List Sec) (seg : Str) (i : Nat)
    (rest : List Str) (hk : kidsAt d.secs cur = some l) (hi : matchIdx l seg = some i)
    (hp : plainName seg = true) :
    resolveSegs d cur (seg :: rest) = resolveFrom d (cur ++ [i]) rest := by
  obtain ⟨h0, _, _, h1, h2⟩ := (plainName_iff seg).1 hp
  rw [resolveSegs, resolveFrom]
  simp only [h0, false_and, ↓reduceIte, h2, h1, hk, hi, Option.map_some]

theorem resolveSegs_dotdot (d : Doc) (q : Pos) (x : Nat) (rest : List Str) :
    resolveSegs d (q ++ [x]) (['.', '.'] :: rest) = resolveFrom d q rest := by
  rw [resolveSegs, resolveFrom]
  simp [parentOf]

theorem resolve_descend (d : Doc) (q r : Pos) (l : List Sec) (ns : List Str)
    (hq : kidsAt d.secs q = some l) (hw : wfForest l = true)
    (hn : namesAlong l r = some ns) :
    resolveFrom d q ns = .ok (q ++ r) := by
  induction r generalizing q l ns with
  | nil => cases hn; rw [List.append_nil]; exact resolveFrom_nil d q
  | cons i r ih =>
    obtain ⟨s, hi, ms, hm, rfl⟩ := namesAlong_cons_eq_some.1 hn
    obtain ⟨hp, hs, _, hidx⟩ := wfForest_get hw hi
    rw [resolveFrom_of_ne (List.cons_ne_nil _ _), resolveSegs_child d q l _ i ms hq hidx hp,
      ih _ _ _ (kidsAt_snoc _ _ _ _ _ hq hi) hs hm, List.append_assoc]
    rfl

theorem resolve_up (d : Doc) (c : Pos) (rest : List Str) (a' : Pos) :
    resolveFrom d (c ++ a') (List.replicate a'.length ['.', '.'] ++ rest) = resolveFrom d c rest := by
  generalize hn : a'.length = n
  induction n generalizing a' with
  | zero => cases List.length_eq_zero_iff.1 hn; simp
  | succ n ih =>
    rcases List.eq_nil_or_concat a' with rfl | ⟨a, x, rfl⟩
    · cases hn
    rw [List.concat_eq_append] at hn ⊢
    rw [List.replicate_succ, List.cons_append, resolveFrom_of_ne (List.cons_ne_nil _ _),
      ← List.append_assoc, resolveSegs_dotdot, ih a (by simpa using hn)]

theorem resolve_absolute (d : Doc) (cur p : Pos) (ns : List Str) (hw : d.wf = true) (hp : p ≠ [])
    (hn : namesAlong d.secs p = some ns) :
    getSectionByPath d cur ('/' :: joinSlash ns) = .ok p := by
  have hplain := namesAlong_plain _ _ _ hw hn
  have hne := namesAlong_ne_nil hn hp
  have hsl : ∀ n ∈ ns, '/' ∉ n := fun n hn' => ((plainName_iff n).1 (hplain n hn')).2.1
  rw [getSectionByPath, splitOn_cons_sep, splitOn_joinSlash ns hne hsl, resolveSegs]
  have h1 : ns ≠ [[]] := by
    rintro rfl
    exact absurd (hplain [] (List.mem_singleton.2 rfl)) (by decide)
  simp only [hne, ne_eq, not_false_eq_true, and_self, ↓reduceIte, h1]
  rw [← resolveFrom_of_ne hne, resolve_descend d [] p d.secs ns rfl hw hn]
  rfl

theorem property_lookup (d : Doc) (cur p : Pos) (s : Sec) (k : Nat) (pr : PropT) (path : List Char)
    (hw : d.wf = true) (hpath : ':' ∉ path) (hres : getSectionByPath d cur path = .ok p)
    (hp : secAt d.secs p = some s) (hk : s.props[k]? = some pr) :
    getPropertyByPath d cur (path ++ ':' :: pr.name) = .ok (p, k) := by
  have hprops := propsOk_of_secAt _ _ _ hw hp
  simp only [propsOk, Bool.and_eq_true] at hprops
  have hplain : plainName pr.name = true := by
    have := hprops.1
    simp only [List.all_eq_true, List.mem_map, forall_exists_index, and_imp] at this
    exact this _ pr (List.mem_of_getElem? hk) rfl
  have hcolon : ':' ∉ pr.name := ((plainName_iff _).1 hplain).2.2.1
  have hidx := findIdx_of_distinct PropT.name s.props k pr hprops.2 hk
  unfold getPropertyByPath
  rw [splitOn_append_sep _ _ _ (no_sep_of_not_mem hpath),
    splitOn_no_sep _ _ (no_sep_of_not_mem hcolon)]
  simp only [hres]
  have hj : joinColon [pr.name] = pr.name := rfl
  rw [hj]
  unfold lookupProp
  simp only [secAt_ne_nil _ _ _ hp, ↓reduceIte, hp, hidx]

end Path
