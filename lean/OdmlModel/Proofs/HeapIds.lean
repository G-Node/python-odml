/-
Ids along a history: every id text an allocated object carries is one of the id texts some
operation brought in (constructor or `new_id`).  Stated for an arbitrary predicate `P` on id
texts ("canonical UUID string" in C04).  `idsSat_step` and `namesNE_step` both go through
`step_names_ids`.
-/
import OdmlModel.Proofs.HeapNames

namespace Heap

/-- Every allocated object's id satisfies `P`. -/
def IdsSat (P : String → Prop) (h : H) : Prop := ∀ x, x < h.size → P (h.node x).id

/-- The id texts an operation brings in satisfy `P`. -/
def Op.IdsSat (P : String → Prop) : Op → Prop
  | .construct _ _ id _ _ => P id
  | .newId _ (some s) => P s
  | _ => True

theorem IdsSat.of_frame {P : String → Prop} {h h' : H} (w : IdsSat P h) (f : FrameNI h h') :
    IdsSat P h' := by
  intro x hx
  rw [f.1] at hx
  rw [(f.2 x).2]
  exact w x hx

theorem idsSat_empty (P : String → Prop) : IdsSat P empty := by
  intro x hx; exact absurd hx (Nat.not_lt_zero _)

theorem idsSat_alloc {P : String → Prop} {h : H} (w : IdsSat P h) (k : Kind) (name id : String)
    (hid : P id) : IdsSat P (alloc h k name id).1 := by
  intro x hx
  by_cases hxs : x = h.size
  · subst hxs
    simp only [alloc, if_true]
    exact hid
  · simp only [alloc, hxs, if_false]
    exact w x (Nat.lt_of_le_of_ne (Nat.le_of_lt_succ hx) hxs)

theorem idsSat_step {P : String → Prop} {h : H} (w : IdsSat P h) (op : Op) (hid : op.IdsSat P) :
    IdsSat P (step h op).1 := by
  rcases step_names_ids h op with f | ⟨x, new, rfl, e⟩ | ⟨x, s, rfl, e⟩ | ⟨k, name, id, _, _, rfl, f⟩
  · exact w.of_frame f
  · rw [e]
    intro y hy
    by_cases hyx : y = x
    · subst hyx; rw [upd_same]; exact w y hy
    · rw [upd_other _ _ _ _ hyx]; exact w y hy
  · rw [e]
    intro y hy
    by_cases hyx : y = x
    · subst hyx; rw [upd_same]; exact hid
    · rw [upd_other _ _ _ _ hyx]; exact w y hy
  · exact (idsSat_alloc w k name id hid).of_frame f

theorem idsSat_run {P : String → Prop} (ops : List Op) (hid : ∀ op ∈ ops, op.IdsSat P) :
    IdsSat P (run empty ops) := by
  suffices ∀ h, IdsSat P h → IdsSat P (run h ops) from this empty (idsSat_empty P)
  induction ops with
  | nil => intro h w; exact w
  | cons op ops ih =>
    intro h w
    exact ih (fun o ho => hid o (List.mem_cons_of_mem _ ho)) _
      (idsSat_step w op (hid op (List.mem_cons_self)))

end Heap
