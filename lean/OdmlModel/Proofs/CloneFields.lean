/-
C11: the cloning loop and the fields of the copy. `clone` changes, of the
shallow copy it starts from, only the parent reference, the two child lists, the value list and
(unless `keep_id`) the id.
-/
import OdmlModel.Proofs.CloneCases
namespace Clone

/-- The successful runs of the loop on the copy `c`, with the list of children forgotten: every
    round is a successful call of `rec` followed by a successful `attach`. -/
inductive Loop (rec : H → Nat → H × Res) (c : Nat) : H → H → Prop
  | done (h : H) : Loop rec c h h
  | round {h h1 h2 h' : H} {s sc : Nat} : rec h s = (h1, .ok sc) → attach h1 c sc = (h2, none) →
      Loop rec c h2 h' → Loop rec c h h'

theorem cloneLoop_loop {rec c} : ∀ (l : List Nat) {h h' : H}, cloneLoop rec h c l = (h', none) → Loop rec c h h'
  | [], h, _, hl => by rw [cloneLoop_nil hl]; exact .done h
  | _ :: rest, _, _, hl =>
    have ⟨_, _, _, hr, hat, hl⟩ := cloneLoop_cons hl
    .round hr hat (cloneLoop_loop rest hl)

/-- Same object up to the child lists. -/
def SameBut (n m : Node) : Prop :=
  m.kind = n.kind ∧ m.name = n.name ∧ m.id = n.id ∧ m.attrs = n.attrs ∧ m.parent = n.parent ∧
  m.vals = n.vals ∧ m.merged = n.merged ∧ m.mattrs = n.mattrs

theorem SameBut.refl (n : Node) : SameBut n n := ⟨rfl, rfl, rfl, rfl, rfl, rfl, rfl, rfl⟩
theorem SameBut.trans {a b c : Node} (h1 : SameBut a b) (h2 : SameBut b c) : SameBut a c := by
  obtain ⟨a1, a2, a3, a4, a5, a6, a7, a8⟩ := h1
  obtain ⟨b1, b2, b3, b4, b5, b6, b7, b8⟩ := h2
  exact ⟨b1.trans a1, b2.trans a2, b3.trans a3, b4.trans a4, b5.trans a5, b6.trans a6, b7.trans a7, b8.trans a8⟩

theorem SameBut.withId {a b : Node} (s : SameBut a b) (i : Nat) : SameBut { a with id := i } { b with id := i } :=
  ⟨s.1, s.2.1, rfl, s.2.2.2⟩

theorem attach_c_fields {h h' : H} {c child : Nat} (ha : attach h c child = (h', none)) (hne : c ≠ child) :
    SameBut (h.node c) (h'.node c) := by
  rw [attach_self ha hne]
  split <;> exact SameBut.refl _

theorem Loop.fields {rec c h h'} (hrec : RecOk rec) (l : Loop rec c h h') (hc : c < h.nN) :
    SameBut (h.node c) (h'.node c) ∧ h.nextId ≤ h'.nextId ∧ h.nN ≤ h'.nN := by
  induction l with
  | done h => exact ⟨SameBut.refl _, Nat.le_refl _, Nat.le_refl _⟩
  | round hr hat _ ih =>
    obtain ⟨e1, -, rfl, -, -, -⟩ := hrec _ _ _ _ hr
    have n2 := attach_c_fields hat (Nat.ne_of_lt hc)
    rw [e1.node c hc] at n2
    cases attach_ok hat
    obtain ⟨sb, nx, nn⟩ := ih (Nat.lt_of_lt_of_le hc e1.mono.nN)
    exact ⟨n2.trans sb, Nat.le_trans e1.mono.nextId nx, Nat.le_trans e1.mono.nN nn⟩

/-- `cloneBody_run` with the child lists forgotten (use `cloneBody_run` when membership in them matters). -/
theorem cloneBody_ok {rec h x ch keep h' c} (hb : cloneBody rec h x ch keep = (h', .ok c)) :
    c = h.nN ∧ ∃ h4, Loop rec h.nN (bodyStart h x) h4 ∧
      if (h.node x).kind = .doc then h' = (if keep = true then h4 else newId h4 h.nN)
      else Loop rec h.nN (updN (if keep = true then h4 else newId h4 h.nN) h.nN fun n => { n with props := [] }) h' := by
  obtain ⟨hc, h4, l4, _, rfl, rest⟩ := cloneBody_run hb
  refine ⟨hc, h4, cloneLoop_loop _ l4, ?_⟩
  split
  · next hd => rw [if_pos hd] at rest; exact rest
  · next hd =>
    rw [if_neg hd] at rest
    obtain ⟨_, rfl, l7⟩ := rest
    exact cloneLoop_loop _ l7

/-- The fields of the copy `c` of `x`. -/
structure RootEq (h h' : H) (x c : Nat) (keep : Bool) : Prop where
  kind : (h'.node c).kind = (h.node x).kind
  name : (h'.node c).name = (h.node x).name
  attrs : (h'.node c).attrs = (h.node x).attrs
  merged : (h'.node c).merged = (h.node x).merged
  mattrs : (h'.node c).mattrs = (h.node x).mattrs   -- `_merged_attrs`: the SAME dict (copy.copy)
  parent : (h'.node c).parent = none
  idKept : keep = true → (h'.node c).id = (h.node x).id
  idFresh : keep = false → h.nextId ≤ (h'.node c).id ∧ (h'.node c).id < h'.nextId

theorem cloneBody_fields {rec} (hrec : RecOk rec) {h : H} {x : Nat} {ch keep : Bool} {h' : H} {c : Nat}
    (hb : cloneBody rec h x ch keep = (h', .ok c)) : RootEq h h' x c keep := by
  obtain ⟨rfl, h4, l4, rest⟩ := cloneBody_ok hb
  obtain ⟨sb4, nx4, nn4⟩ := l4.fields hrec (Nat.lt_succ_self _)
  rw [bodyStart_node] at sb4
  -- `new_id` changes the id only; whatever follows keeps the copy the same but for its child lists
  have fin : ∀ h7 : H, SameBut ((if keep = true then h4 else newId h4 h.nN).node h.nN) (h7.node h.nN) →
      (if keep = true then h4 else newId h4 h.nN).nextId ≤ h7.nextId → RootEq h h7 x h.nN keep := by
    intro h7 sb7 nx
    cases keep with
    | true =>
      obtain ⟨kind, name, id, attrs, parent, -, merged, mattrs⟩ := sb4.trans sb7
      exact ⟨kind, name, attrs, merged, mattrs, parent, fun _ => id, nofun⟩
    | false =>
      rw [if_neg nofun, newId_same] at sb7
      obtain ⟨kind, name, id, attrs, parent, -, merged, mattrs⟩ := (sb4.withId _).trans sb7
      exact ⟨kind, name, attrs, merged, mattrs, parent, nofun,
        fun _ => id ▸ ⟨nx4, Nat.lt_of_lt_of_le (Nat.lt_succ_self _) nx⟩⟩
  split at rest
  · exact rest ▸ fin _ (SameBut.refl _) (Nat.le_refl _)
  · have lt : h.nN < (if keep = true then h4 else newId h4 h.nN).nN := by
      split <;> exact Nat.lt_of_lt_of_le (Nat.lt_succ_self _) nn4
    obtain ⟨sb7, nx7, -⟩ := rest.fields hrec lt
    rw [updN_same] at sb7
    exact fin _ sb7 nx7

theorem cloneProp_fields (h : H) (x : Nat) (keep : Bool) :
    RootEq h (cloneProp h x keep).1 x (cloneProp h x keep).2 keep := by
  have s := cloneProp_spec h x keep
  have f {α} (π : Node → α) := congrArg π s.node
  refine ⟨f Node.kind, f Node.name, f Node.attrs, f Node.merged, f Node.mattrs, f Node.parent,
    fun hk => (f Node.id).trans (if_pos hk), fun hk => ?_⟩
  rw [f Node.id, s.nextId, if_neg (hk ▸ Bool.false_ne_true), if_neg (hk ▸ Bool.false_ne_true)]
  exact ⟨Nat.le_refl _, Nat.lt_succ_self _⟩

end Clone
