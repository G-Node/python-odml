/-
C11: the shape of the result of `export_leaf`.

`chainUp h fuel x`: the parent chain of `x`, bottom-up, computed from the store by walking `parent`
(no reference to the export code). `chainTree h l []`: the tree the property prescribes for that
chain: every chain object with the ids and compared fields of the original, copies of ALL its
Properties (for a Section) and exactly one child Section - the next lower chain element; the lowest
has none.
-/
import OdmlModel.Proofs.CloneTree
namespace Clone

/-- The parent chain of `x`, bottom-up; `none` when no root is reached within `fuel` steps. -/
def chainUp (h : H) : Nat → Nat → Option (List Nat)
  | 0, _ => none
  | f + 1, x =>
    match parentOf h x with
    | none => some [x]
    | some q => (chainUp h f q).map (x :: ·)

/-- A chain object as the export has it: fields and id of `x`, the given child Sections, copies of
    all Properties of `x` (with their ids) when `x` is a Section. -/
def chainNode (h : H) (x : Nat) (secs : List Tree) : Tree :=
  rootT h true x secs (if (h.node x).kind = .sec then (h.node x).props.map (absG h true 0) else [])

/-- The tree over a bottom-up chain; `secs` are the child Sections of the lowest element. -/
def chainTree (h : H) : List Nat → List Tree → Option Tree
  | [], _ => none
  | [x], secs => some (chainNode h x secs)
  | x :: y :: rest, secs => chainTree h (y :: rest) [chainNode h x secs]

/-- The object the export starts from: the object itself, for a Property its parent Section. -/
def exportStart (h : H) (x : Nat) : Option Nat :=
  if (h.node x).kind = .prop then (h.node x).parent else some x

/-- The specification of `export_leaf`: the tree over the parent chain of the start object. -/
def chainSpec (h : H) (x : Nat) : Option Tree :=
  match exportStart h x with
  | none => none
  | some s =>
    match chainUp h (fuelOf h) s with
    | none => none
    | some l => chainTree h l []

theorem chainUp_succ (h : H) (f x : Nat) :
    chainUp h (f + 1) x =
      match parentOf h x with
      | none => some [x]
      | some q => (chainUp h f q).map (x :: ·) := rfl

theorem chainUp_root {h : H} {x : Nat} (f : Nat) (hp : parentOf h x = none) : chainUp h (f + 1) x = some [x] := by
  rw [chainUp_succ, hp]

theorem chainUp_step {h : H} {f x q : Nat} {r : List Nat} (hp : parentOf h x = some q) (hq : chainUp h f q = some r) :
    chainUp h (f + 1) x = some (x :: r) := by
  rw [chainUp_succ, hp]; simp only [hq, Option.map_some]

theorem chainUp_succ_some {h : H} {f x : Nat} {l : List Nat} (hl : chainUp h (f + 1) x = some l) :
    (parentOf h x = none ∧ l = [x]) ∨ ∃ q r, parentOf h x = some q ∧ chainUp h f q = some r ∧ l = x :: r := by
  rw [chainUp_succ] at hl
  cases hp : parentOf h x with
  | none => rw [hp] at hl; exact .inl ⟨rfl, (Option.some.inj hl).symm⟩
  | some q =>
    rw [hp] at hl
    simp only at hl
    cases hq : chainUp h f q with
    | none => rw [hq] at hl; cases hl
    | some r => rw [hq] at hl; exact .inr ⟨q, r, rfl, hq, (Option.some.inj hl).symm⟩

theorem chainUp_ne_nil {h : H} : ∀ (f x : Nat) (l : List Nat), chainUp h f x = some l → ∃ rest, l = x :: rest
  | 0, _, _, hl => by cases hl
  | _ + 1, _, _, hl => by
    rcases chainUp_succ_some hl with ⟨_, rfl⟩ | ⟨_, r, _, _, rfl⟩
    · exact ⟨[], rfl⟩
    · exact ⟨r, rfl⟩

theorem chainUp_det {h : H} : ∀ (f1 f2 x : Nat) (l1 l2 : List Nat),
    chainUp h f1 x = some l1 → chainUp h f2 x = some l2 → l1 = l2 := by
  intro f1
  induction f1 with
  | zero => intro f2 x l1 l2 h1; cases h1
  | succ f1 ih =>
    intro f2 x l1 l2 h1 h2
    cases f2 with
    | zero => cases h2
    | succ f2 =>
      rcases chainUp_succ_some h1 with ⟨p1, rfl⟩ | ⟨q1, r1, p1, c1, rfl⟩ <;>
        rcases chainUp_succ_some h2 with ⟨p2, rfl⟩ | ⟨q2, r2, p2, c2, rfl⟩ <;> rw [p1] at p2
      · cases p2
      · cases p2
      · cases p2; rw [ih f2 q1 r1 r2 c1 c2]

theorem chainUp_suffix {h : H} : ∀ (f x : Nat) (l : List Nat), chainUp h f x = some l →
    ∀ y, y ∈ l → ∃ f' l', chainUp h f' y = some l' ∧ l'.length ≤ l.length := by
  intro f
  induction f with
  | zero => intro x l hl; cases hl
  | succ f ih =>
    intro x l hl y hy
    rcases chainUp_succ_some hl with ⟨_, rfl⟩ | ⟨q, r, _, hq, rfl⟩
    · cases List.mem_singleton.1 hy
      exact ⟨f + 1, _, hl, Nat.le_refl _⟩
    · rcases List.mem_cons.1 hy with rfl | hy
      · exact ⟨f + 1, _, hl, Nat.le_refl _⟩
      · obtain ⟨f', l', a, b⟩ := ih q r hq y hy
        exact ⟨f', l', a, Nat.le_succ_of_le b⟩

theorem chainUp_length {h : H} : ∀ (f x : Nat) (l : List Nat), chainUp h f x = some l → l.length ≤ f := by
  intro f
  induction f with
  | zero => intro x l hl; cases hl
  | succ f ih =>
    intro x l hl
    rcases chainUp_succ_some hl with ⟨_, rfl⟩ | ⟨q, r, _, hq, rfl⟩
    · exact Nat.succ_le_succ (Nat.zero_le _)
    · exact Nat.succ_le_succ (ih q r hq)

/-- The start of a chain does not occur again above it (the parent chain has no cycle). -/
theorem chainUp_not_mem {h : H} {f x : Nat} {rest : List Nat} (hl : chainUp h f x = some (x :: rest)) :
    x ∉ rest := by
  intro hm
  cases f with
  | zero => cases hl
  | succ f =>
    rcases chainUp_succ_some hl with ⟨_, e⟩ | ⟨q, r, _, hq, e⟩
    · cases e; cases hm
    · cases e
      -- `x` further up would have a chain no longer than `rest`, but its chain is `x :: rest`
      obtain ⟨f2, l2, a2, b2⟩ := chainUp_suffix f q rest hq x hm
      cases chainUp_det f2 (f + 1) x l2 (x :: rest) a2 hl
      exact Nat.not_succ_le_self _ b2

theorem cloneF_no_children {f : Nat} {h h' : H} {x c : Nat} {keep : Bool} (hk : (h.node x).kind ≠ .prop)
    (h0 : cloneF (f + 1) h x false keep = (h', .ok c)) :
    (h'.node c).secs = [] ∧ ((h.node x).kind = .sec → (h'.node c).props = []) ∧ h'.nN = h.nN + 1 := by
  have hb := cloneF_ok h0
  rw [if_neg hk] at hb
  obtain ⟨rfl, h4, hl4, h5, hh5, hrest⟩ := cloneBody_run hb
  have s5 : (h5.node h.nN).secs = [] ∧ h5.nN = h.nN + 1 := by
    rw [hh5, cloneLoop_nil hl4]
    split
    · exact ⟨by rw [bodyStart_node], rfl⟩
    · exact ⟨by rw [newId_same, bodyStart_node], rfl⟩
  split at hrest
  · rename_i hd
    rw [hrest]
    exact ⟨s5.1, fun hs => (by rw [hd] at hs; cases hs), s5.2⟩
  · obtain ⟨h6, hh6, hl7⟩ := hrest
    rw [cloneLoop_nil hl7, hh6, updN_same]
    exact ⟨s5.1, fun _ => rfl, s5.2⟩

theorem chainNode_of {b h'' : H} {curr par : Nat} {cts : List Tree} (n : Nat)
    (hk : (b.node curr).kind ≠ .prop)
    (k : (h''.node par).kind = (b.node curr).kind) (nm : (h''.node par).name = (b.node curr).name)
    (at_ : (h''.node par).attrs = (b.node curr).attrs) (mg : (h''.node par).merged = (b.node curr).merged)
    (i : (h''.node par).id = (b.node curr).id)
    (hs : (h''.node par).secs.map (absG h'' true n) = cts)
    (hp : (b.node curr).kind = .sec →
      (h''.node par).props.map (absG h'' true n) = (b.node curr).props.map (absG b true 0)) :
    absG h'' true (n + 1) par = chainNode b curr cts := by
  simp only [absG_succ, chainNode, k, if_neg hk]
  rw [rootT_eq _ _ k nm at_ mg (fun _ => i) (fun hp' => absurd hp' hk), hs]
  by_cases hsec : (b.node curr).kind = .sec
  · simp only [if_pos hsec]; rw [hp hsec]
  · simp only [if_neg hsec]

/-- Invariant of the export loop: `cts` holds the tree of `child`, the copy of the chain element below
    `curr` (none at the start); it is that tree from depth `d` on in EVERY later store, since later
    rounds still set parents. -/
theorem exportLoop_chain {b : H} (wb : WF b) {self : Nat} :
    ∀ (fuel : Nat) {h : H} {curr child : Nat} {h' : H} {r : Nat} {l : List Nat} {cts : List Tree} (d : Nat),
      Ext b h → curr < b.nN → (b.node curr).kind ≠ .prop →
      chainUp b fuel curr = some l → (∀ y, y ∈ l.tail → y ≠ self) →
      (curr ≠ self → b.nN ≤ child ∧ child < h.nN ∧ (h.node child).kind = .sec ∧
        ∃ tc, cts = [tc] ∧ ∀ h'', AfterAll h h'' → ∀ n, d ≤ n → absG h'' true n child = tc) →
      (curr = self → cts = []) →
      exportLoop fuel h self curr child = (h', .ok r) →
      ∃ t, chainTree b l cts = some t ∧ ∀ n, d + l.length ≤ n → absG h' true n r = t := by
  intro fuel
  induction fuel with
  | zero => intro h curr child h' r l cts d _ _ _ hl; cases hl
  | succ fuel ih =>
    intro h curr child h' r l cts d e hcur hk hl htail hne heq he
    obtain ⟨h1, par, h2, h3, hcl, hr2, hr3, e2, m12, f3, e3, hrest⟩ :=
      exportLoop_step e hcur (fun hn => (hne hn).1) he
    have hc0 : h.node curr = b.node curr := e.node curr hcur
    have ok := cloneF_spec hcl
    have root := cloneF_fields hcl
    have nc := cloneF_no_children (by rw [hc0]; exact hk) hcl
    rw [hc0] at nc
    have hpar := ok.c_eq
    have hparb : b.nN ≤ par := hpar ▸ e.mono.nN
    have hpar2 : par < h2.nN := Nat.lt_of_lt_of_le (hpar ▸ ok.lt) m12.nN
    have old : ∀ a, a < h.nN → a ≠ par := fun a ha => hpar ▸ Nat.ne_of_lt ha
    -- after `par.append(child)`
    have s2 : SameBut (h1.node par) (h2.node par) ∧ AfterAll h h2 ∧
        ((b.node curr).kind = .sec → (h2.node par).props = []) ∧
        ∃ cs, (h2.node par).secs = cs ∧
          ∀ h'', AfterAll h h'' → ∀ n, d ≤ n → cs.map (absG h'' true n) = cts := by
      split at hr2
      · rename_i hcs
        obtain ⟨c1, c2, c3, tc, c4, c5⟩ := hne hcs
        have kch : ((h1.node child).kind != .prop) = true := by rw [ok.ext.node child c2, c3]; rfl
        obtain ⟨a1, a2⟩ := attach_childList hr2 (old child c2).symm
        rw [kch] at a1 a2
        simp only [childList, if_true, Bool.not_true, Bool.false_eq_true, if_false, nc.1, List.nil_append] at a1 a2
        refine ⟨attach_c_fields hr2 (old child c2).symm, ?_, fun hs => by rw [a2]; exact nc.2.1 hs, [child], a1,
          fun h'' af n hn => ?_⟩
        · refine ⟨ok.ext.1.trans m12, fun a ha => ?_, fun v hv => ?_, fun t ht => ?_⟩
          · rw [← ok.ext.node a ha]; exact attach_tsame hr2 a (old a ha)
          · rw [attach_vcell hr2]; exact ok.ext.vcell v hv
          · rw [attach_tcell hr2]; exact ok.ext.tcell t ht
        · simp only [List.map_cons, List.map_nil]; rw [c5 h'' af n hn, c4]
      · rename_i hcs
        rw [← (Prod.mk.inj hr2).1]
        exact ⟨SameBut.refl _, AfterAll.of_ext ok.ext, nc.2.1, [], nc.1,
          fun _ _ _ _ => by rw [heq (Decidable.not_not.1 hcs)]; rfl⟩
    obtain ⟨sb2, aa2, props2, cs, secs2, trees2⟩ := s2
    -- after the Properties have been cloned
    have wx := (wb.node curr hcur).2.2.1
    obtain ⟨news, l1, l2, l3⟩ := cloneLoop_tree (h0 := b) (w := true) (cloneF_recOk 1 true)
      (fun hh s hh1 sc e' hs hr n => by
        simpa using cloneF_tree true wb 1 e' hs (fun _ => rfl) hr n)
      false hr3 e2 hpar2 hparb
      (fun s hs => by
        obtain ⟨hsec, hs⟩ := List.mem_ite_nil_right.1 hs
        exact ⟨(wx hsec s hs).1, by rw [(wx hsec s hs).2 rfl]; rfl⟩)
    simp only [childList, Bool.false_eq_true, if_false, Bool.not_false, if_true] at l1 l2
    have sb3 := ((cloneLoop_loop _ hr3).fields (cloneF_recOk 1 true) hpar2).1
    have aa3 : AfterAll h h3 := aa2.frame f3 (Nat.le_of_eq hpar.symm)
    -- the tree of `par`, in every later store
    have T : ∀ h'', AfterAll h3 h'' → ∀ n, d + 1 ≤ n → absG h'' true n par = chainNode b curr cts := by
      intro h'' af n hn
      obtain ⟨m, rfl⟩ : ∃ m, n = m + 1 := ⟨n - 1, (Nat.sub_add_cancel (Nat.le_trans (Nat.le_add_left 1 d) hn)).symm⟩
      obtain ⟨t1, t2, t3, t4, t5, t6, _, t8⟩ := af.node par (Nat.lt_of_lt_of_le hpar2 f3.mono.nN)
      obtain ⟨u1, u2, u3, u4, _, _, u7, _⟩ := sb3
      obtain ⟨v1, v2, v3, v4, _, _, v7, _⟩ := sb2
      refine chainNode_of m hk (by rw [t1, u1, v1, root.kind, hc0]) (by rw [t2, u2, v2, root.name, hc0])
        (by rw [t4, u4, v4, root.attrs, hc0]) (by rw [t8, u7, v7, root.merged, hc0])
        (by rw [t3, u3, v3, root.idKept rfl, hc0]) ?_ (fun hs => ?_)
      · rw [t5, l2, secs2]
        exact trees2 h'' (aa3.trans af) m (Nat.le_of_succ_le_succ hn)
      · rw [t6, l1, props2 hs, List.nil_append, l3 h'' (af.after par) m, if_pos hs]
        exact List.map_congr_left (fun s hs' => absG_prop_const ((wx hs s hs').2 rfl) m)
    rcases chainUp_succ_some hl with ⟨hq, rfl⟩ | ⟨q, l', hq, hlq, rfl⟩
    · rw [hq] at hrest
      obtain ⟨rfl, rfl⟩ := hrest
      exact ⟨_, rfl, fun n hn => T _ (AfterAll.refl _) n (by simpa using hn)⟩
    · rw [hq] at hrest
      obtain ⟨rest', rfl⟩ := chainUp_ne_nil fuel q l' hlq
      obtain ⟨hnd, hq'⟩ := parentOf_some hq
      obtain ⟨q1, q2⟩ := (wb.node curr hcur).1 hnd q hq'
      have hqs : q ≠ self := htail q (.head _)
      have kpar : (h3.node par).kind = .sec := by
        rw [sb3.1, sb2.1, root.kind, hc0]; exact kind_sec_of hk hnd
      obtain ⟨t, ht1, ht2⟩ := ih (d + 1) e3 q1 (q2 rfl).1 hlq
        (fun y hy => htail y (List.mem_cons_of_mem _ hy))
        (fun _ => ⟨hparb, Nat.lt_of_lt_of_le hpar2 f3.mono.nN, kpar, _, rfl, T⟩) (fun hqe => absurd hqe hqs) hrest
      refine ⟨t, ht1, fun n hn => ht2 n ?_⟩
      rw [List.length_cons, Nat.add_right_comm]
      exact hn

theorem exportLoop_reaches {K} {b : H} (wb : WFG K b) {self : Nat} :
    ∀ (fuel : Nat) {h : H} {curr child : Nat} {h' : H} {r : Nat},
      Ext b h → curr < b.nN → (curr ≠ self → b.nN ≤ child) →
      exportLoop fuel h self curr child = (h', .ok r) → ∃ l, chainUp b fuel curr = some l := by
  intro fuel
  induction fuel with
  | zero => intro h curr child h' r _ _ _ he; cases he
  | succ fuel ih =>
    intro h curr child h' r e hcur hch he
    obtain ⟨h1, par, h2, h3, hcl, _, _, _, _, _, e3, hrest⟩ := exportLoop_step e hcur hch he
    cases hq : parentOf b curr with
    | none => exact ⟨_, chainUp_root fuel hq⟩
    | some q =>
      rw [hq] at hrest
      obtain ⟨hnd, hq'⟩ := parentOf_some hq
      have hpar := (cloneF_spec hcl).c_eq
      have mb := e.mono.nN
      obtain ⟨l', hl'⟩ := ih e3 ((wb.node curr hcur).1 hnd q hq').1 (fun _ => hpar ▸ mb) hrest
      exact ⟨curr :: l', chainUp_step hq hl'⟩

/-- `export_leaf` of an object with a start object (anything but a parentless Property): the result
    denotes, including the ids, exactly the tree over the parent chain of the start object. -/
theorem exportLeafF_chain {h h' : H} {x r s : Nat} (wf : WF h) (hx : x < h.nN) (hs : exportStart h x = some s)
    (he : exportLeafF h x = (h', .ok r)) :
    ∃ t, chainSpec h x = some t ∧ ∀ n, fuelOf h ≤ n → absG h' true n r = t := by
  have hloop : s < h.nN ∧ (h.node s).kind ≠ .prop ∧ exportLoop (fuelOf h) h s s s = (h', .ok r) := by
    unfold exportStart at hs
    unfold exportLeafF at he
    split at hs
    · rename_i hk
      obtain ⟨p1, p2⟩ := (wf.node x hx).1 (by rw [hk]; simp) s hs
      rw [hk] at he
      simp only [hs] at he
      exact ⟨p1, (p2 rfl).1, he⟩
    · rename_i hk
      simp only [Option.some.injEq] at hs
      subst hs
      refine ⟨hx, hk, ?_⟩
      split at he
      · rename_i hk'; exact absurd hk' hk
      · exact he
  obtain ⟨s1, s2, s3⟩ := hloop
  obtain ⟨l, hl⟩ := exportLoop_reaches wf _ (Ext.refl h) s1 (fun hne => absurd rfl hne) s3
  obtain ⟨rest, rfl⟩ := chainUp_ne_nil _ s l hl
  obtain ⟨t, t1, t2⟩ := exportLoop_chain wf _ 0 (Ext.refl h) s1 s2 hl
    (fun y hy => by
      simp only [List.tail_cons] at hy
      intro e; subst e; exact chainUp_not_mem hl hy)
    (fun hne => absurd rfl hne) (fun _ => rfl) s3
  refine ⟨t, by simp only [chainSpec, hs, hl]; exact t1, fun n hn => t2 n ?_⟩
  rw [Nat.zero_add]
  exact Nat.le_trans (chainUp_length _ s _ hl) hn

end Clone
