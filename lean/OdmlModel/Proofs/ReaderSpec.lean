/-
C16 — how the readers end. A computation that met `p` problems ends as `outcome m p a` says (hence
`Conv`, `Conv.outcome`); a whole reader call is a verdict on the root and then an `outcome`
(`Reading`). The loops of `parse_tag` that do not recurse, and what an insertion loop keeps
(`keepValid`, `insertLoop_eq`). The recursive part of `parse_tag` is in `Proofs/ReaderDenote.lean`.
-/
import OdmlModel.Proofs.Reader

namespace Reader

/-- `p` calls of `self.error`: ParserException in strict mode if there was one, the value otherwise. -/
def outcome (m : Mode) (p : Nat) (a : α) : Except Err α :=
  if m = .strict ∧ p ≠ 0 then .error .parserException else .ok a

theorem outcome_lenient (p : Nat) (a : α) : outcome .lenient p a = .ok a := by
  simp [outcome]

theorem outcome_strict (p : Nat) (a : α) :
    outcome .strict p a = if p = 0 then .ok a else .error .parserException := by
  simp [outcome]

theorem pure_eq_outcome (m : Mode) (a : α) : (pure a : Except Err α) = outcome m 0 a := by
  simp [outcome]; rfl

theorem raiseOrWarn_eq_outcome (m : Mode) (w : Nat) : raiseOrWarn m w = outcome m 1 (w + 1) := by
  cases m <;> simp [raiseOrWarn, outcome]

/-- Sequencing: the problems add up (count and value of the result are left open, to fit any goal). -/
theorem outcome_bind {m : Mode} {p q r : Nat} {a : α} {b c : β} {f : α → Except Err β}
    (h : f a = outcome m q b) (hr : p + q = r) (hc : b = c) : (outcome m p a >>= f) = outcome m r c := by
  subst hr hc
  cases m with
  | lenient =>
    simp only [outcome_lenient] at *
    exact h
  | strict =>
    simp only [outcome_strict] at h ⊢
    by_cases hp : p = 0
    · subst hp
      simp only [if_true, Nat.zero_add]
      exact h
    · have : p + q ≠ 0 := by omega
      simp only [hp, this, if_false]
      rfl

theorem raiseOrWarn_bind {m : Mode} {w q r : Nat} {b c : β} {f : Nat → Except Err β}
    (h : f (w + 1) = outcome m q b) (hr : 1 + q = r) (hc : b = c) :
    (raiseOrWarn m w >>= f) = outcome m r c := by
  rw [raiseOrWarn_eq_outcome]
  exact outcome_bind h hr hc

theorem raiseOrWarn_pure (m : Mode) (w : Nat) (f : Nat → α) :
    (raiseOrWarn m w >>= fun w' => pure (f w')) = outcome m 1 (f (w + 1)) :=
  raiseOrWarn_bind (pure_eq_outcome m _) rfl rfl

theorem Conv.outcome (m : Mode) (p : Nat) (a : α) : Conv m (outcome m p a) := by
  intro e h
  unfold Reader.outcome at h
  split at h
  · cases h
    rename_i hs
    exact ⟨rfl, hs.1⟩
  · cases h

theorem outcome_eq_ok {m : Mode} {p : Nat} {a b : α} (h : outcome m p a = .ok b) : a = b := by
  unfold outcome at h
  split at h
  · cases h
  · cases h; rfl

/-- A reader call, whatever the mode: the root check refuses the input, finds another format
    version, or lets the input be read — `p` problems are met on the way to the value `a`. -/
inductive Reading (α : Type) where
  | refused
  | otherVersion
  | read (p : Nat) (a : α)

def Reading.ends (m : Mode) : Reading α → Except Err α
  | .refused => .error .parserException
  | .otherVersion => .error .invalidVersion
  | .read p a => outcome m p a

theorem Reading.no_leak (r : Reading α) (m : Mode) (c : Leak) : r.ends m ≠ .error (.leak c) := by
  cases r with
  | read p a => exact Conv.no_leak (Conv.outcome m p a) c
  | _ => intro h; cases h

theorem Reading.of_ok {r : Reading α} {m : Mode} {a : α} (h : r.ends m = .ok a) : ∃ p, r = .read p a := by
  cases r with
  | read p b => exact ⟨p, by rw [outcome_eq_ok h]⟩
  | _ => cases h

theorem Reading.lenient_of_ok {r : Reading α} {m : Mode} {a : α} (h : r.ends m = .ok a) :
    r.ends .lenient = .ok a := by
  obtain ⟨p, rfl⟩ := Reading.of_ok h
  exact outcome_lenient p a

/-- attributes the reader objects to: everything but `version` on the `odML` root -/
def attrProblems (tag : Str) : List (Str × Str) → Nat
  | [] => 0
  | (k, _) :: rest =>
    (if Py.lower k == "version".toList && tag == "odML".toList then 0 else 1) + attrProblems tag rest

theorem attrLoop_spec (m : Mode) (tag : Str) (attrs : List (Str × Str)) (w : Nat) :
    attrLoop m tag attrs w = outcome m (attrProblems tag attrs) (w + attrProblems tag attrs) := by
  induction attrs generalizing w with
  | nil => exact pure_eq_outcome m w
  | cons p rest ih =>
    obtain ⟨k, v⟩ := p
    unfold attrLoop attrProblems
    split
    · rw [ih w, Nat.zero_add]
    · exact raiseOrWarn_bind (ih _) rfl (by omega)

/-- mandatory arguments that are not among the collected ones -/
def mandatoryMissing (kind : Kind) (present : List Str) : List (String × Nat) → Nat
  | [] => 0
  | (k, req) :: rest =>
    (if req != 0 && !(present.contains (mapName kind k.toList)) then 1 else 0)
      + mandatoryMissing kind present rest

theorem checkMandatory_spec (m : Mode) (kind : Kind) (present : List Str) (tbl : List (String × Nat))
    (w : Nat) :
    checkMandatory m kind present tbl w
      = outcome m (mandatoryMissing kind present tbl) (w + mandatoryMissing kind present tbl) := by
  induction tbl generalizing w with
  | nil => exact pure_eq_outcome m w
  | cons p rest ih =>
    obtain ⟨k, req⟩ := p
    unfold checkMandatory mandatoryMissing
    split
    · exact raiseOrWarn_bind (ih _) rfl (by omega)
    · rw [Nat.zero_add]
      exact ih w

/-- The children of one sort a parent keeps: in input order, every one whose name no earlier kept
    sibling (or child the parent already had) carries. -/
def kept (eq : ν → ν → Bool) (acc : List (Obj ν)) : List (Obj ν) → List (Obj ν)
  | [] => acc
  | c :: cs => if clash eq c.name acc then kept eq acc cs else kept eq (acc ++ [c]) cs

/-- the number of those that are left out -/
def dropped (eq : ν → ν → Bool) (acc : List (Obj ν)) : List (Obj ν) → Nat
  | [] => 0
  | c :: cs => if clash eq c.name acc then dropped eq acc cs + 1 else dropped eq (acc ++ [c]) cs

/-- `c` goes to the Section list (`true`) / Property list (`false`) of a parent of kind `pk` -/
def goesTo (pk : Kind) (slot : Bool) (c : Obj ν) : Bool := slotOf pk c.kind == some slot

/-- a parent of kind `pk` cannot hold `c` at all -/
def noSlot (pk : Kind) (c : Obj ν) : Bool := slotOf pk c.kind == none

/-- The object with the valid ones of the parsed children attached. -/
def keepValid (eq : ν → ν → Bool) (base : Obj ν) (cs : List (Obj ν)) : Obj ν :=
  .mk base.kind base.name base.made
    (kept eq base.props (cs.filter (goesTo base.kind false)))
    (kept eq base.secs (cs.filter (goesTo base.kind true)))

/-- The number of parsed children that are not attached. -/
def refusedCount (eq : ν → ν → Bool) (base : Obj ν) (cs : List (Obj ν)) : Nat :=
  (cs.filter (noSlot base.kind)).length
    + dropped eq base.props (cs.filter (goesTo base.kind false))
    + dropped eq base.secs (cs.filter (goesTo base.kind true))

theorem Obj.eta (o : Obj ν) : Obj.mk o.kind o.name o.made o.props o.secs = o := by
  cases o; rfl

@[simp] theorem Obj.kind_mk (k : Kind) (n : Name ν) (b : Bool) (p s : List (Obj ν)) :
    (Obj.mk k n b p s).kind = k := rfl
@[simp] theorem Obj.name_mk (k : Kind) (n : Name ν) (b : Bool) (p s : List (Obj ν)) :
    (Obj.mk k n b p s).name = n := rfl
@[simp] theorem Obj.made_mk (k : Kind) (n : Name ν) (b : Bool) (p s : List (Obj ν)) :
    (Obj.mk k n b p s).made = b := rfl
@[simp] theorem Obj.props_mk (k : Kind) (n : Name ν) (b : Bool) (p s : List (Obj ν)) :
    (Obj.mk k n b p s).props = p := rfl
@[simp] theorem Obj.secs_mk (k : Kind) (n : Name ν) (b : Bool) (p s : List (Obj ν)) :
    (Obj.mk k n b p s).secs = s := rfl

theorem keepValid_nil (eq : ν → ν → Bool) (base : Obj ν) : keepValid eq base [] = base := by
  simp [keepValid, kept, Obj.eta]

theorem keepValid_cons (eq : ν → ν → Bool) (base c : Obj ν) (cs : List (Obj ν)) :
    match appendObj eq base c with
    | .ok o =>
      keepValid eq base (c :: cs) = keepValid eq o cs ∧
      refusedCount eq base (c :: cs) = refusedCount eq o cs
    | .error _ =>
      keepValid eq base (c :: cs) = keepValid eq base cs ∧
      refusedCount eq base (c :: cs) = refusedCount eq base cs + 1 := by
  unfold appendObj
  cases hs : slotOf base.kind c.kind with
  | none =>
    simp [keepValid, refusedCount, goesTo, noSlot, hs]
    omega
  | some b =>
    cases b with
    | true =>
      by_cases hc : clash eq c.name base.secs = true
      · simp [keepValid, refusedCount, goesTo, noSlot, hs, kept, dropped, hc]
        omega
      · simp [keepValid, refusedCount, goesTo, noSlot, hs, kept, dropped, hc]
    | false =>
      by_cases hc : clash eq c.name base.props = true
      · simp [keepValid, refusedCount, goesTo, noSlot, hs, kept, dropped, hc]
        omega
      · simp [keepValid, refusedCount, goesTo, noSlot, hs, kept, dropped, hc]

/-- All insertion loops of the readers are this loop: `ins` appends what `appendObj` accepts and
    reports every refusal with `self.error`. -/
theorem insertLoop_eq {eq : ν → ν → Bool} {m : Mode}
    {ins : Obj ν → List (Obj ν) → Nat → Except Err (Obj ν × Nat)}
    (hnil : ∀ o w, ins o [] w = pure (o, w))
    (hok : ∀ o o' c cs w, appendObj eq o c = .ok o' → ins o (c :: cs) w = ins o' cs w)
    (herr : ∀ o l c cs w, appendObj eq o c = .error l →
      ins o (c :: cs) w = (raiseOrWarn m w >>= fun w' => ins o cs w'))
    (obj : Obj ν) (cs : List (Obj ν)) (w : Nat) :
    ins obj cs w = outcome m (refusedCount eq obj cs) (keepValid eq obj cs, w + refusedCount eq obj cs) := by
  induction cs generalizing obj w with
  | nil =>
    have : refusedCount eq obj [] = 0 := by simp [refusedCount, dropped]
    rw [hnil, keepValid_nil, this]
    exact pure_eq_outcome m _
  | cons c cs ih =>
    have step := keepValid_cons eq obj c cs
    cases ha : appendObj eq obj c with
    | ok obj' =>
      rw [ha] at step
      rw [hok _ _ _ _ _ ha, step.1, step.2]
      exact ih obj' w
    | error l =>
      rw [ha] at step
      rw [herr _ _ _ _ _ ha, step.1, step.2]
      exact raiseOrWarn_bind (ih obj _) (by omega) (by congr 1; omega)

theorem insertChildren_eq (g : Guards) (hg : g.guardAppend = true) (m : Mode) (obj : Obj Str)
    (cs : List (Obj Str)) (w : Nat) :
    insertChildren g m obj cs w
      = outcome m (refusedCount (· == ·) obj cs)
          (keepValid (· == ·) obj cs, w + refusedCount (· == ·) obj cs) :=
  insertLoop_eq (fun _ _ => rfl) (fun _ _ _ _ _ h => by rw [insertChildren, h])
    (fun _ _ _ _ _ h => by rw [insertChildren, h]; simp only [hg, if_true]) obj cs w

end Reader
