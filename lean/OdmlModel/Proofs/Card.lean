/-
Helper lemmas for C09 (text form of cardinalities).
-/
import OdmlModel.Model.CardObj
import OdmlModel.Proofs.Str

namespace Card
open Py

/-- The text of one bound: either `None` or a run of digits. -/
inductive BoundText : List Char → Prop
  | none : BoundText "None".toList
  | digits (n : Nat) : BoundText (natToDigits n)

theorem renderBound_boundText (a : Option Int) (h : ∀ x, a = some x → 0 ≤ x) :
    BoundText (renderBound a) := by
  cases a with
  | none => exact .none
  | some i =>
    have := h i rfl
    cases i with
    | ofNat n => exact .digits n
    | negSucc n => omega

theorem BoundText.no_comma {s : List Char} (h : BoundText s) : ∀ c ∈ s, (c == ',') = false := by
  cases h with
  | none => decide
  | digits n =>
    intro c hc
    exact isDigit_ne_comma (List.all_eq_true.mp (natToDigits_all_digit n) c hc)

theorem BoundText.strip {s : List Char} (h : BoundText s) : strip s = s := by
  cases h with
  | none => decide
  | digits n => exact strip_digits (natToDigits_all_digit n)

theorem BoundText.lstrip {s : List Char} (h : BoundText s) : lstrip s = s := by
  cases h with
  | none => decide
  | digits n => exact lstrip_digits (natToDigits_all_digit n)

theorem BoundText.ne_nil {s : List Char} (h : BoundText s) : s ≠ [] := by
  cases h with
  | none => decide
  | digits n => exact natToDigits_ne_nil n

theorem BoundText.last_not_space {s : List Char} (h : BoundText s) :
    ∀ c, s.getLast? = some c → isSpace c = false := by
  cases h with
  | none => intro c hc; simp at hc; subst hc; decide
  | digits n =>
    intro c hc
    exact isDigit_not_space (List.all_eq_true.mp (natToDigits_all_digit n) c (List.mem_of_getLast? hc))

/-- `(" " ++ s).strip() = s` for a bound text. -/
theorem BoundText.strip_space_cons {s : List Char} (h : BoundText s) : Py.strip (' ' :: s) = s :=
  (Py.strip_space_cons s).trans h.strip

theorem none_not_digitStr : isDigitStr "None".toList = false := by decide

theorem none_not_digitStr' : isDigitStr ['N', 'o', 'n', 'e'] = false := by decide

theorem digits_ne_none (n : Nat) : (natToDigits n == "None".toList) = false :=
  beq_eq_false_iff_ne.mpr fun e => absurd (e ▸ natToDigits_all_digit n) (by decide)

theorem split_inner {ra rb : List Char} (ha : BoundText ra) (hb : BoundText rb) :
    splitOn ',' (ra ++ [',', ' '] ++ rb) = [ra, ' ' :: rb] := by
  have : ra ++ [',', ' '] ++ rb = ra ++ ',' :: (' ' :: rb) := by simp
  rw [this, splitOn_append_sep _ _ _ ha.no_comma]
  rw [splitOn_no_sep _ _ (List.forall_mem_cons.mpr ⟨by decide, hb.no_comma⟩)]

/-- `strip()[1:-1]` of the rendered text is the inner text. -/
theorem strip_slice_render (ra rb : List Char) :
    slice1m1 (Py.strip (['('] ++ ra ++ [',', ' '] ++ rb ++ [')'])) = ra ++ [',', ' '] ++ rb := by
  have : ['('] ++ ra ++ [',', ' '] ++ rb ++ [')'] = '(' :: ((ra ++ [',', ' '] ++ rb) ++ [')']) := by
    simp
  rw [this, strip_ends _ (by decide) (by decide)]
  simp only [slice1m1, List.drop_succ_cons, List.drop_zero, List.dropLast_concat]

theorem nonneg_truthy {a : In} {x : Int} (h : nonnegInt a = some x) :
    0 ≤ x ∧ a.truthy = (x != 0) := by
  unfold nonnegInt at h
  cases a <;> simp [In.asInt] at h
  · rename_i b; cases b <;> simp_all [In.truthy] <;> subst h <;> simp
  · rename_i i; obtain ⟨h1, rfl⟩ := h; simp [In.truthy, h1]

theorem nonneg_falsy {a : In} {x : Int} (h : nonnegInt a = some x) :
    0 ≤ x ∧ ((!a.truthy) = true ↔ x = 0) := by
  have := nonneg_truthy h
  simp [this]

theorem In.pair_cases {P : In → Prop} (pair : ∀ t a b, P (.seq t [a, b]))
    (other : ∀ v, (∀ t a b, v ≠ .seq t [a, b]) → P v) (v : In) : P v := by
  by_cases h : ∃ t a b, v = .seq t [a, b]
  · obtain ⟨t, a, b, rfl⟩ := h
    exact pair t a b
  · exact other v fun t a b e => h ⟨t, a, b, e⟩

/-! ### The stored objects (`Model/CardObj.lean`) -/

theorem nonneg_asInt {a : In} {x : Int} (h : nonnegInt a = some x) : a.asInt = some x := by
  unfold nonnegInt at h
  cases ha : a.asInt with
  | none => simp [ha] at h
  | some i =>
    simp only [ha] at h
    split at h
    · simpa using h
    · cases h

theorem pyInt_keepsValue : KeepsValue pyInt := by
  intro v i h; simp [pyInt, h, PyBound.val]

theorem asGiven_keepsValue : KeepsValue asGiven := by
  intro v i h
  cases v <;> simp [In.asInt] at h <;> simp [asGiven, PyBound.val, h]

theorem pyInt_exact (v : In) : (pyInt v).exact = true := by
  unfold pyInt; split <;> rfl

theorem unboolAtom_truthy (a : In) : a.unboolAtom.truthy = a.truthy := by
  cases a <;> simp [In.unboolAtom, In.truthy]
  rename_i b; cases b <;> simp

theorem unboolAtom_asInt (a : In) : a.unboolAtom.asInt = a.asInt := by
  cases a <;> simp [In.unboolAtom, In.asInt]

theorem unboolAtom_nonneg (a : In) : nonnegInt a.unboolAtom = nonnegInt a := by
  simp [nonnegInt, unboolAtom_asInt]

theorem unboolAtom_pyInt (a : In) : pyInt a.unboolAtom = pyInt a := by
  simp [pyInt, unboolAtom_asInt]

theorem formatCardObj_pair (conv : In → PyBound) (t : Bool) (a b : In) :
    formatCardObj conv (.seq t [a, b]) =
      if !a.truthy && !b.truthy then .ok none
      else
        match nonnegInt a, nonnegInt b with
        | some x, some y =>
          if y ≥ x then .ok (some (conv a, conv b))
          else if !a.truthy then .ok (some (.nul, conv b))
          else if !b.truthy then .ok (some (conv a, .nul))
          else .valueError
        | none, some _ => if !a.truthy then .ok (some (.nul, conv b)) else .valueError
        | some _, none => if !b.truthy then .ok (some (conv a, .nul)) else .valueError
        | none, none => .valueError := by
  have ht : (In.seq t [a, b]).truthy = true := rfl
  unfold formatCardObj
  simp only [ht, Bool.not_true, Bool.false_eq_true, ↓reduceIte]
  rfl

theorem formatCardObj_other (conv : In → PyBound) (v : In) (h : ∀ t a b, v ≠ .seq t [a, b]) :
    formatCardObj conv v =
      if !v.truthy then .ok none
      else match v.asInt with
        | some i => if i > 0 then .ok (some (.nul, conv v)) else .valueError
        | none => .valueError := by
  cases v with
  | seq t xs =>
    match xs with
    | [a, b] => exact absurd rfl (h _ _ _)
    | [] | [_] | _ :: _ :: _ :: _ => rfl
  | _ => rfl

theorem formatCard_pair (t : Bool) (a b : In) :
    formatCard (.seq t [a, b]) =
      if !a.truthy && !b.truthy then .ok none
      else
        match nonnegInt a, nonnegInt b with
        | some x, some y =>
          if y ≥ x then .ok (some (some x, some y))
          else if !a.truthy then .ok (some (none, some y))
          else if !b.truthy then .ok (some (some x, none))
          else .valueError
        | none, some y => if !a.truthy then .ok (some (none, some y)) else .valueError
        | some x, none => if !b.truthy then .ok (some (some x, none)) else .valueError
        | none, none => .valueError := by
  have ht : (In.seq t [a, b]).truthy = true := rfl
  unfold formatCard
  simp only [ht, Bool.not_true, Bool.false_eq_true, ↓reduceIte]
  rfl

theorem formatCard_other (v : In) (h : ∀ t a b, v ≠ .seq t [a, b]) :
    formatCard v =
      if !v.truthy then .ok none
      else match v.asInt with
        | some i => if i > 0 then .ok (some (none, some i)) else .valueError
        | none => .valueError := by
  cases v with
  | seq t xs =>
    match xs with
    | [a, b] => exact absurd rfl (h _ _ _)
    | [] | [_] | _ :: _ :: _ :: _ => rfl
  | _ => rfl

theorem exact_render {a : PyBound} (h : a.exact = true) : renderPyBound a = renderBound a.val := by
  cases a <;> simp [PyBound.exact] at h <;> rfl

theorem exact_din {a : PyBound} (h : a.exact = true) : dinOfPyBound a = dinOfBound a.val := by
  cases a <;> simp [PyBound.exact] at h <;> rfl

/-- Every stored bound is `None` or an exact `int`. -/
def ObjRes.Exact : ObjRes → Prop
  | .ok (some (a, b)) => a.exact = true ∧ b.exact = true
  | _ => True

theorem formatCardObj_exact (conv : In → PyBound) (hc : ∀ v, (conv v).exact = true) (v : In) :
    (formatCardObj conv v).Exact := by
  have hn : PyBound.nul.exact = true := rfl
  induction v using In.pair_cases with
  | pair t x y =>
    rw [formatCardObj_pair]
    cases nonnegInt x <;> cases nonnegInt y <;>
      simp only [apply_ite ObjRes.Exact] <;> simp only [ObjRes.Exact, hc, hn, and_self, ite_self]
  | other v hv =>
    rw [formatCardObj_other conv v hv]
    cases v.asInt <;>
      simp only [apply_ite ObjRes.Exact] <;> simp only [ObjRes.Exact, hc, hn, and_self, ite_self]

theorem formatCardObj_pyInt_exact (v : In) (a b : PyBound) (h : formatCardObj pyInt v = .ok (some (a, b))) :
    a.exact = true ∧ b.exact = true := by
  have := formatCardObj_exact pyInt pyInt_exact v
  rwa [h] at this

theorem formatCardObj_unbool (v : In) : formatCardObj pyInt v.unbool = formatCardObj pyInt v := by
  cases v with
  | seq t xs =>
    match xs with
    | [] => rfl
    | [a] => simp [In.unbool, formatCardObj, In.truthy, In.asInt]
    | [a, b] =>
      simp only [In.unbool, List.map_cons, List.map_nil]
      rw [formatCardObj_pair, formatCardObj_pair]
      simp only [unboolAtom_truthy, unboolAtom_nonneg, unboolAtom_pyInt]
    | a :: b :: c :: r => simp [In.unbool, formatCardObj, In.truthy, In.asInt]
  | bool b => cases b <;> decide
  | nul => rfl
  | int i => rfl
  | float z => rfl
  | str s => rfl
  | other t => rfl

end Card
