/-
Helper lemmas: the csv reader automaton reads back what the csv writer wrote
(one record, arbitrary fields), and the `to_csv` / `from_csv` wrappers.
-/
import OdmlModel.Model.XmlCsv

deriving instance DecidableEq for Except

namespace Py.Csv

theorem needsQuote_false {c : Char} (h : needsQuote c = false) :
    (c == ',') = false ∧ (c == '"') = false ∧ (c == '\r') = false ∧ (c == '\n') = false := by
  simp only [needsQuote, Bool.or_eq_false_iff] at h
  exact ⟨h.1.1.1, h.1.1.2, h.1.2, h.2⟩

/-- a field that is written without csv quoting and still read back as one field: not empty,
    does not start with the quote character, free of delimiter and line breaks -/
def RawField (f : List Char) : Prop :=
  (∃ c cs, f = c :: cs ∧ (c == '"') = false) ∧ ∀ c ∈ f, (c == ',') = false ∧ isNl c = false

theorem isNl_false {c : Char} (h : isNl c = false) : (c == '\n') = false ∧ (c == '\r') = false := by
  simpa [isNl] using h

theorem run_inField_raw (dn : Option (List (List Char))) (acc : List (List Char)) (f : List Char) :
    ∀ (pre k : List Char), (∀ c ∈ f, (c == ',') = false ∧ isNl c = false) →
      run ⟨.inField, pre, acc⟩ true dn (f ++ k) = run ⟨.inField, pre ++ f, acc⟩ true dn k := by
  induction f with
  | nil => intro pre k _; simp
  | cons c cs ih =>
    intro pre k h
    obtain ⟨h1, h2⟩ := h c (by simp)
    have h3 := (isNl_false h2).1
    have := ih (pre ++ [c]) k (fun c' hc' => h c' (by simp [hc']))
    simp [run, step, h1, h2, h3, RS.add, this]

theorem run_rawField (dn : Option (List (List Char))) (acc : List (List Char))
    (f k : List Char) (mid : Bool) (hf : RawField f) :
    run ⟨.startField, [], acc⟩ mid dn (f ++ k) = run ⟨.inField, f, acc⟩ true dn k := by
  obtain ⟨⟨c, cs, rfl, hq⟩, hp⟩ := hf
  obtain ⟨h1, h2⟩ := hp c (by simp)
  have h3 := (isNl_false h2).1
  have := run_inField_raw dn acc cs [c] k (fun c' hc' => hp c' (by simp [hc']))
  simp [run, step, stepStartField, h1, h2, h3, hq, RS.add, this]

theorem run_inQuoted_body (dn : Option (List (List Char))) (acc : List (List Char)) (f : List Char) :
    ∀ (pre k : List Char) (mid : Bool),
      run ⟨.inQuoted, pre, acc⟩ mid dn (escapeBody f ++ '"' :: k) =
        run ⟨.quoteInQuoted, pre ++ f, acc⟩ true dn k := by
  induction f with
  | nil => intro pre k mid; simp [escapeBody, run, step, RS.goto]
  | cons c cs ih =>
    intro pre k mid
    by_cases hq : c = '"'
    · subst hq
      have := ih (pre ++ ['"']) k true
      simp [escapeBody, run, step, RS.goto, RS.add, this]
    · have hq' : (c == '"') = false := by simpa using hq
      by_cases hn : c = '\n'
      · subst hn
        have := ih (pre ++ ['\n']) k false
        simp [escapeBody, run, step, RS.add, eol, this]
      · have hn' : (c == '\n') = false := by simpa using hn
        have := ih (pre ++ [c]) k true
        simp [escapeBody, hq', run, step, RS.add, hn', this]

/-- A field ends in one of two states, unquoted or behind its closing quote; in both a delimiter
    saves it and so does the end of the input. -/
def FieldEnd (st : PState) : Prop := st = .inField ∨ st = .quoteInQuoted

theorem run_fieldEnd_comma {st : PState} (h : FieldEnd st) (dn : Option (List (List Char)))
    (f : List Char) (acc : List (List Char)) (rest : List Char) :
    run ⟨st, f, acc⟩ true dn (',' :: rest) = run ⟨.startField, [], acc ++ [f]⟩ true dn rest := by
  rcases h with rfl | rfl <;> simp [run, step, isNl, RS.save]

theorem run_fieldEnd_eof {st : PState} (h : FieldEnd st) (dn : Option (List (List Char)))
    (f : List Char) (acc : List (List Char)) :
    run ⟨st, f, acc⟩ true dn [] = .ok (dn.getD (acc ++ [f])) := by
  rcases h with rfl | rfl <;> simp [run, eol, RS.save]

theorem run_renderField (dn : Option (List (List Char))) (acc : List (List Char))
    (f : List Char) (mid : Bool) (hne : f ≠ []) :
    ∃ st, FieldEnd st ∧ ∀ k, run ⟨.startField, [], acc⟩ mid dn (renderField f ++ k) =
      run ⟨st, f, acc⟩ true dn k := by
  unfold renderField
  split
  · refine ⟨_, .inr rfl, fun k => ?_⟩
    have := run_inQuoted_body dn acc f [] k true
    simp only [List.nil_append] at this
    simp [run, step, stepStartField, isNl, RS.goto, this]
  · rename_i hnq
    simp only [Bool.not_eq_true, List.any_eq_false] at hnq
    refine ⟨_, .inl rfl, fun k => run_rawField dn acc f k mid ⟨?_, fun c hc => ?_⟩⟩
    · cases f with
      | nil => exact absurd rfl hne
      | cons c cs => exact ⟨c, cs, rfl, (needsQuote_false (by simpa using hnq c (by simp))).2.1⟩
    · have h4 := needsQuote_false (c := c) (by simpa using hnq c hc)
      simp [isNl, h4.1, h4.2.2.1, h4.2.2.2]

theorem run_field_comma (dn : Option (List (List Char))) (acc : List (List Char))
    (f rest : List Char) (mid : Bool) :
    run ⟨.startField, [], acc⟩ mid dn (renderField f ++ ',' :: rest) =
      run ⟨.startField, [], acc ++ [f]⟩ true dn rest := by
  by_cases hne : f = []
  · subst hne; simp [renderField, run, step, stepStartField, isNl, RS.save]
  · obtain ⟨st, hst, h⟩ := run_renderField dn acc f mid hne
    rw [h, run_fieldEnd_comma hst]

theorem run_field_end (dn : Option (List (List Char))) (acc : List (List Char)) (f : List Char)
    (mid : Bool) (h : mid = true ∨ f ≠ []) :
    run ⟨.startField, [], acc⟩ mid dn (renderField f) = .ok (dn.getD (acc ++ [f])) := by
  by_cases hne : f = []
  · subst hne
    have hm : mid = true := by simpa using h
    simp [renderField, run, hm, eol, RS.save]
  · obtain ⟨st, hst, h⟩ := run_renderField dn acc f mid hne
    rw [← List.append_nil (renderField f), h, run_fieldEnd_eof hst]

/-- `fs ≠ [[]]`: a lone empty field writes nothing, and at the start of the input that is `noRecord`. -/
theorem run_joinFields (dn : Option (List (List Char))) (fs : List (List Char)) :
    ∀ acc mid, fs ≠ [] → mid = true ∨ fs ≠ [[]] →
      run ⟨.startField, [], acc⟩ mid dn (joinFields fs) = .ok (dn.getD (acc ++ fs)) := by
  induction fs with
  | nil => intro acc mid h; exact absurd rfl h
  | cons f fs ih =>
    intro acc mid _ hm
    cases fs with
    | nil =>
      simpa [joinFields] using
        run_field_end dn acc f mid (hm.imp_right fun h hf => h (by rw [hf]))
    | cons g gs =>
      have := ih (acc ++ [f]) true (by simp) (.inl rfl)
      simp only [joinFields] at this ⊢
      rw [run_field_comma, this]
      simp

theorem run_startRecord (dn : Option (List (List Char))) (f : List Char) (acc : List (List Char))
    (text : List Char) (h : ∀ c, text.head? = some c → isNl c = false) :
    run ⟨.startRecord, f, acc⟩ false dn text = run ⟨.startField, f, acc⟩ false dn text := by
  cases text with
  | nil => simp [run]
  | cons c cs =>
    have := h c rfl
    have e : stepStartField ⟨.startRecord, f, acc⟩ c = stepStartField ⟨.startField, f, acc⟩ c := by
      simp [stepStartField, RS.save, RS.goto, RS.add]
    simp [run, step, this, e]

theorem renderField_head_not_nl (f : List Char) :
    ∀ c, (renderField f).head? = some c → isNl c = false := by
  intro c hc
  unfold renderField at hc
  split at hc
  · simp at hc; subst hc; decide
  · rename_i hnq
    simp only [Bool.not_eq_true, List.any_eq_false] at hnq
    cases f with
    | nil => simp at hc
    | cons d ds =>
      have hd : d = c := by simpa using hc
      have h4 := needsQuote_false (c := d) (by simpa using hnq d (by simp))
      rw [← hd]
      simp [isNl, h4.2.2.1, h4.2.2.2]

theorem joinFields_head_not_nl : ∀ (fs : List (List Char)) (c : Char),
    (joinFields fs).head? = some c → isNl c = false
  | [], c, h => by simp [joinFields] at h
  | [f], c, h => renderField_head_not_nl f c h
  | f :: g :: gs, c, h => by
    simp only [joinFields] at h
    cases hrf : renderField f with
    | nil =>
      have : c = ',' := by rw [hrf] at h; simpa using h.symm
      subst this; decide
    | cons d ds => exact renderField_head_not_nl f c (by rw [hrf] at h ⊢; simpa using h)

/-- **The csv library round trip**: the first record read from the written record (without
    its line terminator) is the list of fields, for every list of fields other than `[]`
    (which writes nothing) — whatever characters the fields contain. -/
theorem readFirst_rowBody (fs : List (List Char)) (h : fs ≠ []) :
    readFirst (rowBody fs) = .ok fs := by
  unfold rowBody readFirst
  split
  · rename_i he
    have : fs = [[]] := by simpa using he
    subst this
    rfl
  · rename_i he
    rw [RS.init, run_startRecord _ _ _ _ (joinFields_head_not_nl fs),
      run_joinFields _ _ _ _ h (.inr (by simpa using he))]
    simp

theorem dropLast2_writeRow (fs : List (List Char)) : Xml.dropLast2 (writeRow fs) = rowBody fs := by
  simp [Xml.dropLast2, writeRow, List.dropLast_append_of_ne_nil]

theorem rowBody_ne_nil : ∀ {fs : List (List Char)}, fs ≠ [] → rowBody fs ≠ []
  | [], h => absurd rfl h
  | [f], _ => by
    by_cases hf : f = []
    · simp [rowBody, hf]
    · simp only [rowBody, joinFields, renderField]
      repeat' split
      all_goals simp [hf]
  | f :: g :: gs, _ => by simp [rowBody, joinFields]

end Py.Csv

namespace Xml
open Py Py.Csv

theorem bracketed_wrap (b : List Char) : bracketed ('[' :: (b ++ [']'])) = true := by
  have : ('[' :: (b ++ [']'])).getLast? = some ']' := by
    rw [← List.cons_append, List.getLast?_concat]
  simp [bracketed, this]

theorem slice1m1_wrap (b : List Char) : slice1m1 ('[' :: (b ++ [']'])) = b := by
  simp [slice1m1]

theorem fromCsv_wrap (fs : List (List Char)) (h : fs ≠ []) :
    fromCsv ('[' :: (rowBody fs ++ [']'])) = .ok fs := by
  unfold fromCsv
  rw [bracketed_wrap, slice1m1_wrap]
  simp [rowBody_ne_nil h, readFirst_rowBody fs h]

theorem fromCsv_toCsv (vs : List (List Char)) : fromCsv (toCsv vs) = .ok (vs.map strip) := by
  simp only [toCsv, dropLast2_writeRow]
  generalize vs.map strip = uv
  match uv with
  | [] => simp [rowBody, joinFields, fromCsv]
  | [s] =>
    simp only
    split
    · rename_i hc
      simp only [Bool.and_eq_true, Bool.not_eq_true', List.isEmpty_eq_false_iff] at hc
      have hne : s ≠ [] := hc.1
      simp [fromCsv, hne, hc.2]
    · exact fromCsv_wrap [s] (by simp)
  | f :: g :: gs => exact fromCsv_wrap _ (by simp)

end Xml
