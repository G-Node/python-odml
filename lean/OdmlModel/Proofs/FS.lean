/-
Lemmas about M-FS (`Model/FS.lean`): every writer read as "compute the text, then `commit` it"
(the order of effects is gone), the all-or-nothing shape `Atomic` the frame theorems of C07 are
read off, `wouldWrite` against the writer, writes that can fail, the duplicate-id rule.
-/
import OdmlModel.Model.FS

namespace FS

@[simp] theorem write_same (fs : Fs) (p : Path) (b : Bytes) : (fs.write p b) p = some b := by
  simp [Fs.write]

@[simp] theorem write_other (fs : Fs) (p q : Path) (b : Bytes) (h : q ≠ p) :
    (fs.write p b) q = fs q := by
  simp [Fs.write, h]

@[simp] theorem write_write (fs : Fs) (p : Path) (a b : Bytes) :
    (fs.write p a).write p b = fs.write p b := by
  funext q
  by_cases h : q = p <;> simp [Fs.write, h]

theorem write_self (fs : Fs) (p : Path) (b : Bytes) (h : fs p = some b) : fs.write p b = fs := by
  funext q
  by_cases hq : q = p <;> simp [Fs.write, hq, h]

theorem openW_ok {Doc} (env : Env Doc) (p : Path) (fs : Fs) (h : env.canOpen p = true) :
    openW env p fs = .ok (fs.write p []) := by
  simp [openW, h]

theorem openW_refused {Doc} (env : Env Doc) (p : Path) (fs : Fs) (h : env.canOpen p = false) :
    openW env p fs = .error .osError := by
  simp [openW, h]

theorem hasError_anywhere (pre post : List Rank) : hasError (pre ++ Rank.error :: post) = true := by
  simp [hasError, List.any_append]

theorem gate_refuses {Doc} {env : Env Doc} {d : Doc} {issues : List Rank}
    (hv : env.validate d = .ok issues) (he : hasError issues = true) :
    gate env d = .error .parserException := by
  simp [gate, hv, he]

theorem gate_passes {Doc} {env : Env Doc} {d : Doc} {issues : List Rank}
    (hv : env.validate d = .ok issues) (he : hasError issues = false)
    (hw : (!issues.isEmpty && env.warnRaises) = false) : gate env d = .ok (!issues.isEmpty) := by
  simp [gate, hv, he, hw]

/-- What a writer does once it holds the text, or the exception that kept it from getting one. -/
def commit {Doc} (env : Env Doc) (p : Path) (fs : Fs) (w : Bool) : Except Exc Bytes → Fs × Outcome
  | .error e => (fs, .raised e)
  | .ok t => if env.canOpen p then (fs.write p t, .ok w) else (fs, .raised .osError)

/-- The common tail `open; write` of every writer is `commit`; the `match` is the text of that tail
    in `xmlWriterWriteFile`, `odmlWriterWriteFile` and `rdfWriterWriteFile`. -/
theorem commit_eq {Doc} (env : Env Doc) (p : Path) (fs : Fs) (w : Bool) (x : Except Exc Bytes) :
    (match x with
      | .error e => (fs, Outcome.raised e)
      | .ok t =>
        match openW env p fs with
        | .error e => (fs, .raised e)
        | .ok fs1 => (fs1.write p t, .ok w)) = commit env p fs w x := by
  cases x with
  | error e => rfl
  | ok t => cases h : env.canOpen p <;> simp [commit, openW, h]

/-- All or nothing: raised and `fs` as it was, or returned and exactly `p` replaced. -/
def Atomic (fs : Fs) (p : Path) (r : Fs × Outcome) : Prop :=
  (∃ e, r = (fs, .raised e)) ∨ ∃ t w, r = (fs.write p t, .ok w)

theorem Atomic.frame {fs : Fs} {p : Path} {r : Fs × Outcome} {e : Exc} (h : Atomic fs p r)
    (hr : r.2 = .raised e) : r.1 = fs := by
  rcases h with ⟨_, rfl⟩ | ⟨_, _, rfl⟩
  · rfl
  · cases hr

theorem Atomic.other {fs : Fs} {p q : Path} {r : Fs × Outcome} (h : Atomic fs p r) (hq : q ≠ p) :
    r.1 q = fs q := by
  rcases h with ⟨_, rfl⟩ | ⟨t, _, rfl⟩
  · rfl
  · exact write_other fs p q t hq

theorem commit_atomic {Doc} (env : Env Doc) (p : Path) (fs : Fs) (w : Bool) (x : Except Exc Bytes) :
    Atomic fs p (commit env p fs w x) := by
  unfold commit
  split
  · exact .inl ⟨_, rfl⟩
  · split
    · exact .inr ⟨_, _, rfl⟩
    · exact .inl ⟨_, rfl⟩

/-- The text an XML save would put into the file. -/
def xmlText {Doc} (env : Env Doc) (d : Doc) : Except Exc Bytes :=
  (env.render .xml d).bind env.decorate

theorem xml_spec {Doc} (env : Env Doc) (d : Doc) (p : Path) (fs : Fs) (w : Bool) :
    xmlWriterWriteFile env d p fs w = commit env p fs w (xmlText env d) := by
  unfold xmlWriterWriteFile xmlText
  cases env.render .xml d with
  | error e => rfl
  | ok data => exact commit_eq env p fs w (env.decorate data)

/-- The text a save through `ODMLWriter` would put into the file (any backend). -/
def textOf {Doc} (env : Env Doc) (b : Backend) (f : Option (List Char)) (d : Doc) : Except Exc Bytes :=
  match b with
  | .xml => xmlText env d
  | _ => toStr env b f d

theorem odml_spec {Doc} (env : Env Doc) (b : Backend) (f : Option (List Char)) (d : Doc)
    (p : Path) (fs : Fs) :
    odmlWriterWriteFile env b f d p fs =
      match gate env d with
      | .error e => (fs, .raised e)
      | .ok warned => commit env p fs warned (textOf env b f d) := by
  unfold odmlWriterWriteFile
  cases gate env d with
  | error e => rfl
  | ok w =>
    cases b
    · exact xml_spec env d p fs w
    all_goals exact commit_eq env p fs w _

theorem odml_atomic {Doc} (env : Env Doc) (b : Backend) (f : Option (List Char)) (d : Doc)
    (p : Path) (fs : Fs) : Atomic fs p (odmlWriterWriteFile env b f d p fs) := by
  rw [odml_spec]
  cases gate env d with
  | error e => exact .inl ⟨e, rfl⟩
  | ok w => exact commit_atomic ..

theorem rdfw_atomic {Doc} (env : Env Doc) (fmt : List Char) (d : Doc) (p : Path) (fs : Fs) :
    Atomic fs (rdfTarget fmt p) (rdfWriterWriteFile env fmt d p fs) := by
  unfold rdfWriterWriteFile rdfTarget
  cases getRdfStr env fmt d with
  | error e => exact .inl ⟨e, rfl⟩
  | ok data =>
    cases rdfExt fmt with
    | none => exact .inl ⟨_, rfl⟩
    | some ext =>
      have := commit_atomic env (if hasSub p ext then p else p ++ ext) fs false (.ok data)
      rwa [← commit_eq] at this

theorem wouldWrite_eq {Doc} (env : Env Doc) (b : Backend) (f : Option (List Char)) (d : Doc)
    (p : Path) :
    wouldWrite env b f d p =
      match gate env d with
      | .error _ => none
      | .ok warned =>
        match textOf env b f d with
        | .error _ => none
        | .ok text => if env.canOpen p then some (text, warned) else none := by
  unfold wouldWrite textOf xmlText
  cases gate env d with
  | error e => rfl
  | ok w => cases b <;> rfl

theorem odml_wouldWrite {Doc} (env : Env Doc) (b : Backend) (f : Option (List Char)) (d : Doc)
    (p : Path) (fs : Fs) :
    match wouldWrite env b f d p with
    | some (t, w) => odmlWriterWriteFile env b f d p fs = (fs.write p t, .ok w)
    | none => ∃ e, odmlWriterWriteFile env b f d p fs = (fs, .raised e) := by
  rw [odml_spec, wouldWrite_eq]
  cases gate env d with
  | error e => exact ⟨e, rfl⟩
  | ok w =>
    cases textOf env b f d with
    | error e => exact ⟨e, rfl⟩
    | ok t => cases h : env.canOpen p <;> simp [commit, h]

theorem writeChunks_all_ok {Doc} (env : WEnv Doc) (p : Path) (cs : List Bytes) (acc : Bytes)
    (fs : Fs) (h : ∀ c ∈ cs, env.writeOk c = true) (hacc : fs p = some acc) :
    writeChunks env p cs acc fs = (fs.write p (acc ++ cs.flatten), none) := by
  induction cs generalizing acc fs with
  | nil => simp [writeChunks, write_self fs p acc hacc]
  | cons c cs ih =>
    simp only [writeChunks, h c List.mem_cons_self, if_true]
    rw [ih (acc ++ c) _ (fun c' hc' => h c' (List.mem_cons_of_mem _ hc')) (write_same _ _ _)]
    simp [List.append_assoc]

theorem writeChunks_other {Doc} (env : WEnv Doc) (p : Path) (cs : List Bytes) (acc : Bytes)
    (fs : Fs) (q : Path) (hq : q ≠ p) : (writeChunks env p cs acc fs).1 q = fs q := by
  induction cs generalizing acc fs with
  | nil => rfl
  | cons c cs ih =>
    simp only [writeChunks]
    split
    · rw [ih]; exact write_other fs p q _ hq
    · rfl

theorem chunksOf_eq {Doc} (env : WEnv Doc) (b : Backend) (f : Option (List Char)) (d : Doc) :
    ∃ cut : Bytes → List Bytes, (∀ t, (cut t).flatten = t) ∧
      chunksOf env b f d = (textOf env.toEnv b f d).map cut := by
  cases b
  · exact ⟨fun t => [(env.split t).1, (env.split t).2], by simp [env.split_ok], rfl⟩
  all_goals exact ⟨fun t => [t], by simp, rfl⟩

theorem dupIds_eq_nil {seen l : List (List Char)} :
    dupIds seen l = [] ↔ l.Nodup ∧ ∀ x ∈ l, x ∉ seen := by
  induction l generalizing seen with
  | nil => simp [dupIds]
  | cons x xs ih =>
    by_cases hc : x ∈ seen
    · simp [dupIds, hc]
    · simp only [dupIds, List.contains_iff_mem, hc, if_false, ih, List.nodup_cons, List.mem_cons,
        not_or, forall_eq_or_imp]
      exact ⟨fun ⟨hn, h⟩ => ⟨⟨fun hx => (h x hx).1 rfl, hn⟩, not_false, fun y hy => (h y hy).2⟩,
        fun ⟨⟨hx, hn⟩, _, h⟩ => ⟨hn, fun y hy => ⟨fun e => hx (e ▸ hy), h y hy⟩⟩⟩

end FS
