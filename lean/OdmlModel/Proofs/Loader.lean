/-
Helper lemmas for M-Loader (C18): the model's step functions read as relations (`Top`, `Applied`,
`step_cases`) and the base invariant `Inv`.
-/
import OdmlModel.Model.Loader

namespace Loader

@[simp] theorem upd_same {α β : Type} [DecidableEq α] (f : α → β) (a : α) (b : β) :
    upd f a b a = b := by simp [upd]

theorem upd_other {α β : Type} [DecidableEq α] (f : α → β) (a x : α) (b : β) (h : x ≠ a) :
    upd f a b x = f x := by simp [upd, h]

variable {g : Url → Res} {rank : Url → Nat}

theorem resolveF_mono (h : Acyclic g rank) :
    ∀ n m u, rank u < n → rank u < m → resolveF g n u = resolveF g m u := by
  intro n
  induction n with
  | zero => intro m u hn; omega
  | succ n ih =>
    intro m u hn hm
    cases m with
    | zero => omega
    | succ m =>
      simp only [resolveF]
      cases hg : g u with
      | doc incs =>
        simp only [Tree.node.injEq, true_and]
        apply List.map_congr_left
        intro v hv
        have := h u incs v hg hv
        exact ih m v (by omega) (by omega)
      | _ => rfl

theorem resolve_doc (h : Acyclic g rank) {u : Url} {incs : List Url} (hu : g u = .doc incs) :
    resolve g rank u = .node u (incs.map (resolve g rank)) := by
  simp only [resolve, resolveF, hu, Tree.node.injEq, true_and]
  apply List.map_congr_left
  intro v hv
  have := h u incs v hu hv
  exact resolveF_mono h (rank u) (rank v + 1) v (by omega) (by omega)

theorem resolve_fail {u : Url} (hu : ∀ incs, g u ≠ .doc incs) : resolve g rank u = .fail := by
  unfold resolve resolveF
  split
  · exact absurd ‹_› (hu _)
  · rfl

def NotDefer (f : Frame) : Prop := ∀ k, f ≠ .defer k

def NotClear (f : Frame) : Prop := ∀ k, f ≠ .clear k

/-- Thread-local data agree with the deterministic `_load` program. -/
def FrameOK (g : Url → Res) (rank : Url → Nat) : Frame → Prop
  | .fin k todo acc _ _ =>
    ∃ done, g k.url = .doc (done ++ todo) ∧ acc = (done.map (resolve g rank)).reverse ∧ todo ≠ []
  | .pub k v => v.content = resolve g rank k.url
  | _ => True

def IsAwait : Frame → Prop
  | .fin _ _ _ _ true => True
  | _ => False

/-- Frames of the `_load` body: what a loader thread's bottom frame can be. -/
def IsBody : Frame → Prop
  | .start _ => True
  | .fin _ _ _ _ _ => True
  | .pub _ _ => True
  | _ => False

theorem IsBody.notDefer {f : Frame} (h : IsBody f) : NotDefer f := by
  intro k hk; subst hk; exact h

theorem IsBody.notClear {f : Frame} (h : IsBody f) : NotClear f := by
  intro k hk; subst hk; exact h

@[simp] theorem advance_key (k : Key) (todo : List Url) (acc : List Tree) (id : Nat) :
    (advance k todo acc id).key = k := by
  cases todo <;> rfl

theorem advance_body (k : Key) (todo : List Url) (acc : List Tree) (id : Nat) :
    IsBody (advance k todo acc id) := by
  cases todo <;> trivial

theorem advance_act (k : Key) (todo : List Url) (acc : List Tree) (id : Nat) :
    ¬ IsAwait (advance k todo acc id) := by
  cases todo <;> exact fun h => h

theorem advance_ok (h : Acyclic g rank) {k : Key} {done todo : List Url} {acc : List Tree} (id : Nat)
    (hg : g k.url = .doc (done ++ todo)) (hacc : acc = (done.map (resolve g rank)).reverse) :
    FrameOK g rank (advance k todo acc id) := by
  cases todo with
  | nil => simp [advance, FrameOK, Val.content, resolve_doc h hg, hacc]
  | cons u t => exact ⟨done, hg, hacc, by simp⟩

theorem fetch_res (g : Url → Res) (sh : Shared) (k : Key) : (fetch g sh k).2 = g k.url := by
  unfold fetch
  split
  · rfl
  · split <;> simp_all

def fetched (g : Url → Res) (sh : Shared) (k : Key) : Shared :=
  { sh with cache := (fetch g sh k).1.cache, wcount := (fetch g sh k).1.wcount }

theorem fetch_fst (g : Url → Res) (sh : Shared) (k : Key) : (fetch g sh k).1 = fetched g sh k := by
  unfold fetched fetch
  split
  · rfl
  · split <;> rfl

theorem fetch_frame (g : Url → Res) (sh : Shared) (k : Key) {u : Url} (h : u ≠ k.url ∨ g k.url = .missing) :
    (fetch g sh k).1.cache u = sh.cache u ∧ (fetch g sh k).1.wcount u = sh.wcount u := by
  unfold fetch
  split
  · exact ⟨rfl, rfl⟩
  · split
    · exact ⟨rfl, rfl⟩
    · have hne : u ≠ k.url := h.elim id fun hm => absurd hm ‹_›
      exact ⟨upd_other _ _ _ _ hne, upd_other _ _ _ _ hne⟩

/-- `_load(k)` publishes nothing: the fetch fails, or a template cannot be parsed. -/
def Unpub (g : Url → Res) (k : Key) : Prop :=
  g k.url = .missing ∨ (g k.url = .garbage ∧ k.tpl = true)

theorem Unpub.resolve {k : Key} (h : Unpub g k) : resolve g rank k.url = .fail := by
  apply resolve_fail
  intro incs hd
  rcases h with h | ⟨h, _⟩ <;> rw [h] at hd <;> cases hd

/-- The frame runs `_load(k)` from its start: a thread body, or a `load` missing both tables. -/
def Begins (sh : Shared) (f : Frame) (k : Key) : Prop :=
  f = .start k ∨ (f = .load k ∧ sh.loaded k = none ∧ sh.loading k = none)

theorem Begins.key {sh : Shared} {f : Frame} {k : Key} (h : Begins sh f k) : f.key = k := by
  rcases h with rfl | ⟨rfl, _⟩ <;> rfl

/-- `topStep g sh n f = (sh', nx, sp)`, one constructor per path through `topStep`. -/
inductive Top (g : Url → Res) (sh : Shared) (n : Nat) : Frame → Shared → Next → Option Key → Prop
  | fails {f k} : Begins sh f k → Unpub g k → Top g sh n f (fetched g sh k) (.ret none) none
  | garbage {f k} : Begins sh f k → g k.url = .garbage → k.tpl = false →
      Top g sh n f (fetched g sh k) (.cont [.pub k none]) none
  | doc {f k incs} : Begins sh f k → g k.url = .doc incs →
      Top g sh n f { fetched g sh k with nextId := sh.nextId + 1 } (.cont [advance k incs [] sh.nextId]) none
  | hit {k v} : sh.loaded k = some v → Top g sh n (.load k) sh (.ret v) none
  | wait {k t} : sh.loaded k = none → sh.loading k = some t →
      Top g sh n (.load k) sh (.cont [.join k t]) none
  | join {k t} : Top g sh n (.join k t) sh (.cont [.pop k]) none
  | pop {k} : Top g sh n (.pop k) { sh with loading := upd sh.loading k none } (.cont [.load k]) none
  | next {k u todo acc id} : (sh.loaded (tkey u)).isSome ∨ (sh.loading (tkey u)).isSome →
      Top g sh n (.fin k (u :: todo) acc id false) sh
        (.cont [.load (tkey u), .fin k (u :: todo) acc id true]) none
  | spawn {k u todo acc id} : ¬ ((sh.loaded (tkey u)).isSome ∨ (sh.loading (tkey u)).isSome) →
      Top g sh n (.fin k (u :: todo) acc id false)
        { sh with loading := upd sh.loading (tkey u) (some n) }
        (.cont [.load (tkey u), .fin k (u :: todo) acc id true]) (some (tkey u))
  | last {k acc id} : Top g sh n (.fin k [] acc id false) sh (.cont [advance k [] acc id]) none
  | await {k todo acc id} :
      Top g sh n (.fin k todo acc id true) { sh with err := true } (.cont [.fin k todo acc id true]) none
  | dup {k v v'} : sh.loaded k = some v' → Top g sh n (.pub k v) sh (.ret v') none
  | pub {k v} : sh.loaded k = none →
      Top g sh n (.pub k v) { sh with loaded := upd sh.loaded k (some v) } (.ret v) none
  | known {k} : (sh.loaded k).isSome ∨ (sh.loading k).isSome →
      Top g sh n (.defer k) sh (.ret none) none
  | defer {k} : ¬ ((sh.loaded k).isSome ∨ (sh.loading k).isSome) →
      Top g sh n (.defer k) { sh with loading := upd sh.loading k (some n) } (.ret none) (some k)
  | clear {k} :
      Top g sh n (.clear k)
        { sh with loaded := fun k' => if k'.tpl then sh.loaded k' else none, epoch := sh.epoch + 1 }
        (.cont [.load k]) none

theorem beginLoad_top (sh : Shared) (n : Nat) {f : Frame} {k : Key} (hf : Begins sh f k) :
    Top g sh n f (beginLoad g sh k).1 (beginLoad g sh k).2 none := by
  unfold beginLoad
  have hr := fetch_res g sh k
  cases hg : g k.url with
  | missing => simp only [hr, hg, fetch_fst]; exact .fails hf (.inl hg)
  | garbage =>
    simp only [hr, hg, fetch_fst]
    cases ht : k.tpl with
    | true => exact .fails hf (.inr ⟨hg, ht⟩)
    | false => exact .garbage hf hg ht
  | doc incs => simp only [hr, hg, fetch_fst]; exact .doc hf hg

theorem topStep_top (g : Url → Res) (sh : Shared) (n : Nat) (f : Frame) :
    Top g sh n f (topStep g sh n f).1 (topStep g sh n f).2.1 (topStep g sh n f).2.2 := by
  cases f with
  | start k => exact beginLoad_top sh n (.inl rfl)
  | load k =>
    simp only [topStep]
    cases hl : sh.loaded k with
    | some v => exact .hit hl
    | none =>
      cases hlg : sh.loading k with
      | some t => exact .wait hl hlg
      | none => exact beginLoad_top sh n (.inr ⟨rfl, hl, hlg⟩)
  | join k t => exact .join
  | pop k => exact .pop
  | fin k todo acc id aw =>
    cases aw with
    | true => simp only [topStep]; exact .await
    | false =>
      cases todo with
      | nil => exact .last
      | cons u todo =>
        simp only [topStep, deferSection]
        split
        · exact .next ‹_›
        · exact .spawn ‹_›
  | pub k v =>
    simp only [topStep]
    cases hl : sh.loaded k with
    | some v' => exact .dup hl
    | none => exact .pub hl
  | defer k =>
    simp only [topStep, deferSection]
    split
    · exact .known ‹_›
    · exact .defer ‹_›
  | clear k => exact .clear

def TableOK (g : Url → Res) (rank : Url → Nat) (sh : Shared) : Prop :=
  ∀ k v, sh.loaded k = some v → v.content = resolve g rank k.url

section TopLemmas
variable {sh sh' : Shared} {n : Nat} {f : Frame} {nx : Next} {sp : Option Key}

theorem Top.shared (h : Top g sh n f sh' nx sp) :
    (¬ IsAwait f → sh'.err = sh.err) ∧
    (∀ u, g u = .missing → sh'.cache u = sh.cache u ∧ sh'.wcount u = sh.wcount u) ∧
    ((sh'.loaded = sh.loaded ∧ sh'.epoch = sh.epoch) ∨
     (∃ k v, f = .pub k v ∧ sh.loaded k = none ∧ sh'.loaded = upd sh.loaded k (some v) ∧
       sh'.epoch = sh.epoch) ∨
     (∃ k, f = .clear k ∧ sh'.epoch = sh.epoch + 1 ∧
       sh'.loaded = fun k' => if k'.tpl then sh.loaded k' else none)) := by
  have hc := fun (k : Key) u (hu : g u = .missing) =>
    fetch_frame g sh k (if h : u = k.url then .inr (h ▸ hu) else .inl h)
  cases h
  case fails => exact ⟨fun _ => rfl, hc _, .inl ⟨rfl, rfl⟩⟩
  case garbage => exact ⟨fun _ => rfl, hc _, .inl ⟨rfl, rfl⟩⟩
  case doc => exact ⟨fun _ => rfl, hc _, .inl ⟨rfl, rfl⟩⟩
  case await => exact ⟨fun ha => absurd trivial ha, fun _ _ => ⟨rfl, rfl⟩, .inl ⟨rfl, rfl⟩⟩
  case pub hl => exact ⟨fun _ => rfl, fun _ _ => ⟨rfl, rfl⟩, .inr (.inl ⟨_, _, rfl, hl, rfl, rfl⟩)⟩
  case clear => exact ⟨fun _ => rfl, fun _ _ => ⟨rfl, rfl⟩, .inr (.inr ⟨_, rfl, rfl, rfl⟩)⟩
  all_goals exact ⟨fun _ => rfl, fun _ _ => ⟨rfl, rfl⟩, .inl ⟨rfl, rfl⟩⟩

theorem Top.loaded (h : Top g sh n f sh' nx sp) {k : Key} {v : Val} (hv : sh'.loaded k = some v) :
    sh.loaded k = some v ∨ f = .pub k v := by
  obtain ⟨_, _, hcases⟩ := h.shared
  rcases hcases with ⟨e, _⟩ | ⟨k0, v0, rfl, _, e, _⟩ | ⟨_, _, _, e⟩ <;> rw [e] at hv
  · exact .inl hv
  · by_cases hk : k = k0
    · subst hk; rw [upd_same] at hv; cases hv; exact .inr rfl
    · rw [upd_other _ _ _ _ hk] at hv; exact .inl hv
  · simp only at hv
    split at hv
    · exact .inl hv
    · cases hv

theorem Top.grows (h : Top g sh n f sh' nx sp) :
    (sh'.epoch = sh.epoch + 1 ∧ ∃ k, f = .clear k) ∨
    (sh'.epoch = sh.epoch ∧ ∀ k v, sh.loaded k = some v → sh'.loaded k = some v) := by
  obtain ⟨_, _, hcases⟩ := h.shared
  rcases hcases with ⟨e, he⟩ | ⟨k0, v0, _, hl, e, he⟩ | ⟨k, hf, he, _⟩
  · exact .inr ⟨he, fun k v hv => e ▸ hv⟩
  · refine .inr ⟨he, fun k v hv => ?_⟩
    have hk : k ≠ k0 := fun hk => by rw [hk, hl] at hv; cases hv
    rw [e, upd_other _ _ _ _ hk, hv]
  · exact .inl ⟨he, k, hf⟩

theorem Top.mono (h : Top g sh n f sh' nx sp) (hc : NotClear f) {k : Key} {v : Val}
    (hv : sh.loaded k = some v) : sh'.loaded k = some v := by
  rcases h.grows with ⟨_, k', rfl⟩ | ⟨_, hm⟩
  · exact absurd rfl (hc k')
  · exact hm k v hv

theorem Top.cont (h : Top g sh n f sh' nx sp) (hacy : Acyclic g rank) (hf : FrameOK g rank f)
    (ha : ¬ IsAwait f) {fs : List Frame} (hfs : nx = .cont fs) :
    (∃ f1, fs = [f1] ∧ FrameOK g rank f1 ∧ f1.key = f.key ∧ NotDefer f1 ∧ ¬ IsAwait f1 ∧
      (IsBody f → IsBody f1)) ∨
    (∃ k u todo acc id, f = .fin k (u :: todo) acc id false ∧
      fs = [.load (tkey u), .fin k (u :: todo) acc id true]) := by
  cases h <;> cases hfs
  case garbage hg ht hb =>
    exact .inl ⟨_, rfl, (resolve_fail fun _ hd => by rw [hg] at hd; cases hd).symm, hb.key.symm, nofun,
      fun h => h, fun _ => trivial⟩
  case doc hg hb =>
    exact .inl ⟨_, rfl, advance_ok hacy (done := []) _ hg rfl, (advance_key ..).trans hb.key.symm, (advance_body ..).notDefer,
      advance_act _ _ _ _, fun _ => advance_body ..⟩
  case last => obtain ⟨_, _, _, hne⟩ := hf; exact absurd rfl hne
  case await => exact absurd trivial ha
  case next => exact .inr ⟨_, _, _, _, _, rfl, rfl⟩
  case spawn => exact .inr ⟨_, _, _, _, _, rfl, rfl⟩
  all_goals exact .inl ⟨_, rfl, trivial, rfl, nofun, fun h => h, fun h => h.elim⟩

theorem Top.returns {v : Val} (h : Top g sh n f sh' (.ret v) sp) :
    (v = none ∧ (Unpub g f.key ∨ ¬ NotDefer f)) ∨ sh'.loaded f.key = some v := by
  cases h
  case fails hu hb => exact .inl ⟨rfl, .inl (hb.key ▸ hu)⟩
  case hit hl => exact .inr hl
  case dup hl => exact .inr hl
  case pub => exact .inr (upd_same ..)
  case known => exact .inl ⟨rfl, .inr fun hnd => hnd _ rfl⟩
  case defer => exact .inl ⟨rfl, .inr fun hnd => hnd _ rfl⟩

theorem Top.table (h : Top g sh n f sh' nx sp) (ht : TableOK g rank sh) (hf : FrameOK g rank f) :
    TableOK g rank sh' := by
  intro k v hv
  rcases h.loaded hv with h1 | rfl
  · exact ht k v h1
  · exact hf

theorem Top.ret_resolve {v : Val} (h : Top g sh n f sh' (.ret v) sp) (ht : TableOK g rank sh)
    (hf : FrameOK g rank f) (hnd : NotDefer f) :
    v.content = resolve g rank f.key.url ∧ ∀ o, v = some o → sh'.loaded f.key = some (some o) := by
  rcases h.returns with ⟨rfl, hu | hd⟩ | hl
  · exact ⟨hu.resolve.symm, nofun⟩
  · exact absurd hnd hd
  · exact ⟨h.table ht hf _ _ hl, fun o ho => ho ▸ hl⟩

end TopLemmas

inductive Applied : Next → List Frame → List Frame → Option Val → Prop
  | cont {fs rest} : Applied (.cont fs) rest (fs ++ rest) none
  | exit {v} : Applied (.ret v) [] [] (some v)
  | deliver {v k u todo acc id r} :
      Applied (.ret v) (.fin k (u :: todo) acc id true :: r) (advance k todo (v.content :: acc) id :: r) none

theorem applyNext_applied {nx : Next} {rest st : List Frame} {b : Option Val}
    (h : applyNext nx rest = some (st, b)) : Applied nx rest st b := by
  cases nx with
  | cont fs => cases h; exact .cont
  | ret v =>
    cases rest with
    | nil => cases h; exact .exit
    | cons f' r =>
      simp only [applyNext, deliver] at h
      split at h
      · rename_i heq
        cases heq
        cases h
        exact .deliver
      · cases h

theorem Applied.forall_mem {nx : Next} {rest st : List Frame} {b : Option Val} {R : Frame → Prop}
    (ha : Applied nx rest st b) (hfs : ∀ fs, nx = .cont fs → ∀ x ∈ fs, R x)
    (hadv : ∀ k todo acc id, R (advance k todo acc id)) (hrest : ∀ x ∈ rest, R x) : ∀ x ∈ st, R x := by
  cases ha with
  | cont => exact fun x hx => (List.mem_append.mp hx).elim (hfs _ rfl x) (hrest x)
  | exit => exact List.forall_mem_nil _
  | deliver => exact List.forall_mem_cons.2 ⟨hadv .., fun x hx => hrest x (List.mem_cons_of_mem _ hx)⟩

/-- Every frame above another one is the `load` of the include the lower frame waits for. -/
def Links : List Frame → Prop
  | [] => True
  | [_] => True
  | f :: f' :: rest =>
    (∃ k u todo acc id, f' = .fin k (u :: todo) acc id true ∧ f.key = tkey u ∧ NotDefer f)
      ∧ Links (f' :: rest)

theorem links_replace {f f1 : Frame} {rest : List Frame} (hl : Links (f :: rest))
    (hk : f1.key = f.key) (hn : NotDefer f1) : Links (f1 :: rest) := by
  cases rest with
  | nil => trivial
  | cons f' r =>
    obtain ⟨⟨k, u, todo, acc, id, hf', hku, _⟩, hr⟩ := hl
    exact ⟨⟨k, u, todo, acc, id, hf', hk ▸ hku, hn⟩, hr⟩

theorem links_tail (f : Frame) (rest : List Frame) (hl : Links (f :: rest)) : Links rest := by
  cases rest with
  | nil => trivial
  | cons f' r => exact hl.2

theorem applyNext_links (nx : Next) {f : Frame} {rest : List Frame} (hl : Links (f :: rest)) :
    ∃ st b, applyNext nx rest = some (st, b) := by
  cases nx with
  | cont fs => exact ⟨_, _, rfl⟩
  | ret v =>
    cases rest with
    | nil => exact ⟨_, _, rfl⟩
    | cons f' r =>
      obtain ⟨⟨k, u, todo, acc, id, rfl, _⟩, _⟩ := hl
      exact ⟨_, _, rfl⟩

def StackOK (g : Url → Res) (rank : Url → Nat) (st : List Frame) : Prop :=
  (∀ f ∈ st, FrameOK g rank f) ∧ Links st ∧ ∀ f, st.head? = some f → ¬ IsAwait f

theorem stackOK_nil : StackOK g rank [] :=
  ⟨List.forall_mem_nil _, trivial, fun _ h => nomatch h⟩

theorem stackOK_singleton {f : Frame} (hf : FrameOK g rank f) (ha : ¬ IsAwait f) : StackOK g rank [f] :=
  ⟨List.forall_mem_singleton.2 hf, trivial, fun x hx => by cases hx; exact ha⟩

def Follows (x x' : Frame) : Prop :=
  x'.key = x.key ∧ (NotDefer x → NotDefer x') ∧ (IsBody x → IsBody x')

theorem bottom_cons {a a' : Frame} (l : List Frame) (hs : Follows a a') {x' : Frame}
    (hx : (a' :: l).getLast? = some x') : ∃ x, (a :: l).getLast? = some x ∧ Follows x x' := by
  cases l with
  | nil => cases hx; exact ⟨a, rfl, hs⟩
  | cons c l =>
    rw [List.getLast?_cons_cons] at hx ⊢
    exact ⟨x', hx, rfl, id, id⟩

theorem StackOK.step {sh sh' : Shared} {n : Nat} {f : Frame} {rest st : List Frame} {nx : Next}
    {sp : Option Key} {b : Option Val} (hacy : Acyclic g rank) (hst : StackOK g rank (f :: rest))
    (ht : TableOK g rank sh) (h : Top g sh n f sh' nx sp) (ha : Applied nx rest st b) :
    StackOK g rank st ∧
    ∀ x', st.getLast? = some x' → ∃ x, (f :: rest).getLast? = some x ∧ Follows x x' := by
  obtain ⟨hfr, hlk, htop⟩ := hst
  have hf : FrameOK g rank f := hfr f (List.mem_cons_self ..)
  have hact : ¬ IsAwait f := htop f rfl
  have hrest : ∀ x ∈ rest, FrameOK g rank x := fun x hx => hfr x (List.mem_cons_of_mem _ hx)
  cases ha with
  | exit => exact ⟨stackOK_nil, fun _ h => nomatch h⟩
  | cont =>
    rcases h.cont hacy hf hact rfl with ⟨f1, rfl, hf1, hk1, hn1, ha1, hb1⟩ | ⟨k, u, todo, acc, id, rfl, rfl⟩
    · show StackOK g rank (f1 :: rest) ∧ ∀ x', (f1 :: rest).getLast? = some x' → _
      exact ⟨⟨List.forall_mem_cons.2 ⟨hf1, hrest⟩, links_replace hlk hk1 hn1, fun x hx => by cases hx; exact ha1⟩,
        fun x' => bottom_cons rest ⟨hk1, fun _ => hn1, hb1⟩⟩
    · show StackOK g rank (.load (tkey u) :: .fin k (u :: todo) acc id true :: rest) ∧
        ∀ x', (Frame.load (tkey u) :: .fin k (u :: todo) acc id true :: rest).getLast? = some x' → _
      refine ⟨⟨List.forall_mem_cons.2 ⟨trivial, List.forall_mem_cons.2 ⟨hf, hrest⟩⟩,
        ⟨⟨k, u, todo, acc, id, rfl, rfl, nofun⟩, links_replace hlk rfl nofun⟩,
        fun x hx => by cases hx; exact fun h => h⟩, fun x' hx' => ?_⟩
      rw [List.getLast?_cons_cons] at hx'
      exact bottom_cons (a := .fin k (u :: todo) acc id false) (a' := .fin k (u :: todo) acc id true) rest
        ⟨rfl, fun _ => nofun, fun _ => trivial⟩ hx'
  | deliver =>
    rename_i v k u todo acc id r
    obtain ⟨⟨_, _, _, _, _, hfin, hku, hnd⟩, hr⟩ := hlk
    cases hfin
    obtain ⟨done, hg, hacc, _⟩ := hrest _ (List.mem_cons_self ..)
    have hv := (h.ret_resolve ht hf hnd).1
    rw [hku] at hv
    have hadv : FrameOK g rank (advance k todo (v.content :: acc) id) :=
      advance_ok hacy (done := done ++ [u]) id (by rw [List.append_assoc]; exact hg)
        (by rw [List.map_append, List.reverse_append, hacc, hv]; rfl)
    exact ⟨⟨List.forall_mem_cons.2 ⟨hadv, fun x hx => hrest x (List.mem_cons_of_mem _ hx)⟩,
        links_replace hr (advance_key ..) (advance_body ..).notDefer,
        fun x hx => by cases hx; exact advance_act _ _ _ _⟩,
      fun x' hx' => by
        rw [List.getLast?_cons_cons]
        exact bottom_cons (a := .fin k (u :: todo) acc id true) r
          ⟨advance_key .., fun _ => (advance_body ..).notDefer, fun _ => advance_body ..⟩ hx'⟩

def spawned : Option Key → List Thr
  | none => []
  | some k => [⟨k, [.start k]⟩]

def threadsAfter (ts : List Thr) (t : Nat) (st : List Frame) (sp : Option Key) : List Thr :=
  (match t with | 0 => ts | i + 1 => setThr ts i st) ++ spawned sp

/-- The state after the picked thread's transition, before the caller's bookkeeping. -/
def mid (s : State) (sh' : Shared) (t : Nat) (st : List Frame) (sp : Option Key) : State :=
  { sh := sh', caller := match t with | 0 => st | _ + 1 => s.caller, prog := s.prog,
    results := s.results, threads := threadsAfter s.threads t st sp }

@[simp] theorem mid_sh (s : State) (sh' : Shared) (t : Nat) (st : List Frame) (sp : Option Key) :
    (mid s sh' t st sp).sh = sh' := rfl

@[simp] theorem mid_prog (s : State) (sh' : Shared) (t : Nat) (st : List Frame) (sp : Option Key) :
    (mid s sh' t st sp).prog = s.prog := rfl

theorem mid_eq (s : State) (sh' : Shared) (t : Nat) (st : List Frame) (sp : Option Key) :
    spawnThread (setStack { s with sh := sh' } t st) sp = mid s sh' t st sp := by
  cases sp <;> cases t <;> simp [mid, spawnThread, setStack, threadsAfter, spawned]

theorem allDone_iff {s : State} :
    allDone s = true ↔ s.caller = [] ∧ s.prog = [] ∧ ∀ th ∈ s.threads, th.stack = [] := by
  simp [allDone, and_assoc]

/-- The cases of `step`: idle; a return nobody awaits (`err`); a move, to `mid`; the caller's bottom
    frame returned, to `finishOp (mid ..)`. -/
theorem step_cases (g : Url → Res) (s : State) (t : Nat) {P : State → Prop}
    (idle : enabled s t = false → P s)
    (err : ∀ f rest sh' nx sp, stackOf s t = f :: rest →
      Top g s.sh (s.threads.length + 1) f sh' nx sp → applyNext nx rest = none →
      P { s with sh := { s.sh with err := true } })
    (run : ∀ f rest sh' nx sp st b, stackOf s t = f :: rest →
      Top g s.sh (s.threads.length + 1) f sh' nx sp → Applied nx rest st b → (t = 0 → b = none) →
      P (mid s sh' t st sp))
    (done : ∀ f sh' v sp, t = 0 → s.caller = [f] →
      Top g s.sh (s.threads.length + 1) f sh' (.ret v) sp → P (finishOp (mid s sh' 0 [] sp) v)) :
    P (step g s t) := by
  unfold step
  split
  next hen =>
    split
    next hstk => exact idle (by simp [enabled, hstk])
    next f rest hstk =>
      have htop := topStep_top g s.sh (s.threads.length + 1) f
      generalize topStep g s.sh (s.threads.length + 1) f = p at htop
      obtain ⟨sh', nx, sp⟩ := p
      simp only [mid_eq]
      cases ha : applyNext nx rest with
      | none => exact err f rest sh' nx sp hstk htop ha
      | some q =>
        obtain ⟨st, b⟩ := q
        have happ := applyNext_applied ha
        cases b with
        | none => exact run f rest sh' nx sp st none hstk htop happ fun _ => rfl
        | some v =>
          cases t with
          | succ i => exact run f rest sh' nx sp st _ hstk htop happ nofun
          | zero => cases happ; exact done f sh' v sp rfl hstk htop
  next hen => exact idle (by simpa using hen)

/-- `P root stack` for the caller (`root = none`) and for every loader thread. -/
def AllStacks (P : Option Key → List Frame → Prop) (s : State) : Prop :=
  P none s.caller ∧ ∀ th ∈ s.threads, P (some th.root) th.stack

theorem stackOf_succ {s : State} {i : Nat} {f : Frame} {rest : List Frame}
    (h : stackOf s (i + 1) = f :: rest) : ∃ th, s.threads[i]? = some th ∧ th.stack = f :: rest := by
  simp only [stackOf] at h
  split at h
  · exact ⟨_, ‹_›, h⟩
  · cases h

theorem mem_setThr {ts : List Thr} {i : Nat} {st : List Frame} {x : Thr} (hx : x ∈ setThr ts i st) :
    x ∈ ts ∨ ∃ th, ts[i]? = some th ∧ x = { th with stack := st } := by
  induction ts generalizing i with
  | nil => cases hx
  | cons th ts ih =>
    cases i with
    | zero =>
      rcases List.mem_cons.mp hx with rfl | hx
      · exact .inr ⟨th, rfl, rfl⟩
      · exact .inl (List.mem_cons_of_mem _ hx)
    | succ i =>
      rcases List.mem_cons.mp hx with rfl | hx
      · exact .inl (List.mem_cons_self ..)
      · rcases ih hx with h | h
        · exact .inl (List.mem_cons_of_mem _ h)
        · exact .inr (by simpa using h)

section Stacks
variable {P Q : Option Key → List Frame → Prop} {s : State} {sh' : Shared} {t : Nat} {f : Frame}
  {rest st : List Frame} {sp : Option Key}

theorem AllStacks.pick (h : AllStacks P s) (hstk : stackOf s t = f :: rest) : ∃ r, P r (f :: rest) := by
  cases t with
  | zero => exact ⟨none, hstk ▸ h.1⟩
  | succ i =>
    obtain ⟨th, hth, e⟩ := stackOf_succ hstk
    exact ⟨_, e ▸ h.2 th (List.mem_of_getElem? hth)⟩

theorem AllStacks.to_mid (h : AllStacks P s) (hstk : stackOf s t = f :: rest)
    (keep : ∀ r st', P r st' → Q r st') (new : ∀ r, P r (f :: rest) → Q r st)
    (spawn : ∀ k, sp = some k → Q (some k) [.start k]) : AllStacks Q (mid s sh' t st sp) := by
  have hsp : ∀ th ∈ spawned sp, Q (some th.root) th.stack := by
    cases sp with
    | none => nofun
    | some k => exact List.forall_mem_cons.2 ⟨spawn k rfl, nofun⟩
  cases t with
  | zero =>
    refine ⟨new none (hstk ▸ h.1), fun th hth => ?_⟩
    exact (List.mem_append.mp hth).elim (fun h1 => keep _ _ (h.2 th h1)) (hsp th)
  | succ i =>
    obtain ⟨th0, hth0, e0⟩ := stackOf_succ hstk
    refine ⟨keep _ _ h.1, fun th hth => ?_⟩
    rcases List.mem_append.mp hth with h1 | h1
    · rcases mem_setThr h1 with h2 | ⟨th1, hth1, rfl⟩
      · exact keep _ _ (h.2 th h2)
      · rw [hth0] at hth1
        cases hth1
        exact new _ (e0 ▸ h.2 th0 (List.mem_of_getElem? hth0))
    · exact hsp th h1

end Stacks

def opFrame : Op → Frame
  | .load k => .load k
  | .deferred k => .defer k
  | .refresh k => .clear k

def opStack (ops : List Op) : List Frame := (ops.head?.map opFrame).toList

theorem startOp_eq (s : State) (hc : s.caller = []) :
    ∃ b, startOp s = { s with caller := opStack s.prog, sh := { s.sh with reload := b } } := by
  obtain ⟨sh, caller, prog, results, threads⟩ := s
  cases hc
  rcases prog with _ | ⟨o, _⟩
  · exact ⟨_, rfl⟩
  · cases o <;> exact ⟨_, rfl⟩

theorem finishOp_eq {s : State} {op : Op} {ops : List Op} (hp : s.prog = op :: ops) (v : Val) :
    ∃ b, finishOp s v =
      { sh := { s.sh with reload := b }, caller := opStack ops, prog := ops,
        results := ⟨op, v, s.sh.epoch⟩ :: s.results, threads := s.threads } := by
  obtain ⟨sh, caller, prog, results, threads⟩ := s
  cases hp
  rcases ops with _ | ⟨o, _⟩
  · cases op <;> exact ⟨_, rfl⟩
  · cases op <;> cases o <;> exact ⟨_, rfl⟩

theorem init_eq (cache0 : Url → CacheSt) (prog : List Op) :
    ∃ b, init cache0 prog =
      { sh := { initShared cache0 with reload := b }, caller := opStack prog, prog := prog,
        results := [], threads := [] } :=
  startOp_eq _ rfl

theorem mem_opStack {ops : List Op} {f : Frame} :
    f ∈ opStack ops ↔ ∃ o, ops.head? = some o ∧ opFrame o = f := by
  simp [opStack]

theorem opStack_ok (ops : List Op) : StackOK g rank (opStack ops) := by
  rcases ops with _ | ⟨o, _⟩
  · exact stackOK_nil
  · exact stackOK_singleton (by cases o <;> exact True.intro) (by cases o <;> exact fun h => h)

/-- The caller's bottom frame belongs to the head of `prog`; for `load k` it has key `k` and is no
    `defer`, so what it returns is the operation's result. -/
def CallerBot (prog : List Op) (st : List Frame) : Prop :=
  ∀ f, st.getLast? = some f →
    ∃ op ops, prog = op :: ops ∧ ∀ k, op = .load k → f.key = k ∧ NotDefer f

theorem callerBot_opStack (ops : List Op) : CallerBot ops (opStack ops) := by
  rcases ops with _ | ⟨o, ops⟩
  · exact fun _ h => nomatch h
  · intro f hf
    cases hf
    exact ⟨o, ops, rfl, fun k hk => by subst hk; exact ⟨rfl, nofun⟩⟩

def ResOK (g : Url → Res) (rank : Url → Nat) (sh : Shared) (r : Result) : Prop :=
  r.epoch ≤ sh.epoch ∧ ∀ k, r.op = .load k → r.val.content = resolve g rank k.url ∧
    ∀ o, r.val = some o → r.epoch = sh.epoch → sh.loaded k = some (some o)

theorem Top.resOK {sh sh' : Shared} {n : Nat} {f : Frame} {nx : Next} {sp : Option Key} {r : Result}
    (h : Top g sh n f sh' nx sp) (hr : ResOK g rank sh r) : ResOK g rank sh' r := by
  obtain ⟨hle, hk⟩ := hr
  rcases h.grows with ⟨he, _⟩ | ⟨he, hm⟩
  · exact ⟨by omega, fun k hop => ⟨(hk k hop).1, fun o _ hep => by omega⟩⟩
  · exact ⟨by omega, fun k hop => ⟨(hk k hop).1, fun o hv hep => hm _ _ ((hk k hop).2 o hv (by omega))⟩⟩

structure Inv (g : Url → Res) (rank : Url → Nat) (cache0 : Url → CacheSt) (s : State) : Prop where
  table : TableOK g rank s.sh
  stacks : AllStacks (fun r st => StackOK g rank st ∧ (r = none → CallerBot s.prog st)) s
  noErr : s.sh.err = false
  results : ∀ r ∈ s.results, ResOK g rank s.sh r
  /-- loads of one key completed in one epoch returned the same object -/
  resSame : ∀ r ∈ s.results, ∀ r' ∈ s.results, ∀ k o o', r.op = .load k → r'.op = .load k →
    r.val = some o → r'.val = some o' → r.epoch = r'.epoch → o = o'
  cache : ∀ u, g u = .missing → s.sh.cache u = cache0 u ∧ s.sh.wcount u = 0

section Preservation
variable {cache0 : Url → CacheSt} {s : State} {sh' : Shared} {t : Nat} {f : Frame} {rest st : List Frame}
  {nx : Next} {sp : Option Key} {b : Option Val}

theorem Inv.picked (hi : Inv g rank cache0 s) (hstk : stackOf s t = f :: rest) :
    StackOK g rank (f :: rest) :=
  let ⟨_, h⟩ := hi.stacks.pick hstk
  h.1

theorem init_inv (g : Url → Res) (rank : Url → Nat) (cache0 : Url → CacheSt) (prog : List Op) :
    Inv g rank cache0 (init cache0 prog) := by
  obtain ⟨b, e⟩ := init_eq cache0 prog
  rw [e]
  exact ⟨fun _ _ h => (nomatch h), ⟨⟨opStack_ok prog, fun _ => callerBot_opStack prog⟩, List.forall_mem_nil _⟩, rfl,
    List.forall_mem_nil _, List.forall_mem_nil _, fun u _ => ⟨rfl, rfl⟩⟩

theorem Inv.to_mid {n : Nat} (hacy : Acyclic g rank) (hi : Inv g rank cache0 s) (hstk : stackOf s t = f :: rest)
    (h : Top g s.sh n f sh' nx sp) (ha : Applied nx rest st b) :
    Inv g rank cache0 (mid s sh' t st sp) := by
  have hst := hi.picked hstk
  obtain ⟨herr, hcache, _⟩ := h.shared
  refine ⟨h.table hi.table (hst.1 f (List.mem_cons_self ..)), ?_, (herr (hst.2.2 f rfl)).trans hi.noErr,
    fun r hr => h.resOK (hi.results r hr), hi.resSame, ?_⟩
  · refine hi.stacks.to_mid hstk (fun r st' hp => hp) (fun r hp => ?_)
      fun k _ => ⟨stackOK_singleton trivial fun h => h, nofun⟩
    obtain ⟨hs', hbot⟩ := hp.1.step hacy hi.table h ha
    refine ⟨hs', fun hr x' hx' => ?_⟩
    obtain ⟨x, hx, hfo⟩ := hbot x' hx'
    obtain ⟨op, ops, e, hk⟩ := hp.2 hr x hx
    exact ⟨op, ops, e, fun k hop => ⟨hfo.1.trans (hk k hop).1, hfo.2.1 (hk k hop).2⟩⟩
  · intro u hu
    show sh'.cache u = cache0 u ∧ sh'.wcount u = 0
    rw [(hcache u hu).1, (hcache u hu).2]
    exact hi.cache u hu

theorem Inv.finish {m : State} {op : Op} {ops : List Op} (hm : Inv g rank cache0 m)
    (hp : m.prog = op :: ops) (v : Val)
    (hv : ∀ k, op = .load k →
      v.content = resolve g rank k.url ∧ ∀ o, v = some o → m.sh.loaded k = some (some o)) :
    Inv g rank cache0 (finishOp m v) := by
  obtain ⟨b, e⟩ := finishOp_eq hp v
  rw [e]
  refine ⟨hm.table, ⟨⟨opStack_ok ops, fun _ => callerBot_opStack ops⟩, fun th hth => ⟨(hm.stacks.2 th hth).1, nofun⟩⟩,
    hm.noErr, List.forall_mem_cons.2 ⟨⟨Nat.le_refl _, fun k hop => ⟨(hv k hop).1, fun o ho _ => (hv k hop).2 o ho⟩⟩,
      hm.results⟩, ?_, hm.cache⟩
  · intro r hr r' hr' k o o' hop hop' hval hval' hep
    have new : op = .load k → ∀ r' ∈ m.results, ∀ o o', r'.op = .load k → v = some o →
        r'.val = some o' → r'.epoch = m.sh.epoch → o = o' := by
      intro hop r' hr' o o' hop' hval hval' hep
      have h1 := (hv k hop).2 o hval
      rw [((hm.results r' hr').2 k hop').2 o' hval' hep] at h1
      cases h1; rfl
    rcases List.mem_cons.mp hr with rfl | hr <;> rcases List.mem_cons.mp hr' with rfl | hr'
    · rw [hval] at hval'; cases hval'; rfl
    · exact new hop r' hr' o o' hop' hval hval' hep.symm
    · exact (new hop' r hr o' o hop hval' hval hep).symm
    · exact hm.resSame r hr r' hr' k o o' hop hop' hval hval' hep

theorem Inv.step_cases (hi : Inv g rank cache0 s) (t : Nat) {P : State → Prop}
    (idle : enabled s t = false → P s)
    (run : ∀ f rest sh' nx sp st b, stackOf s t = f :: rest →
      Top g s.sh (s.threads.length + 1) f sh' nx sp → Applied nx rest st b → (t = 0 → b = none) →
      P (mid s sh' t st sp))
    (done : ∀ f sh' v sp op ops, t = 0 → s.caller = [f] → s.prog = op :: ops →
      (∀ k, op = .load k → f.key = k ∧ NotDefer f) →
      Top g s.sh (s.threads.length + 1) f sh' (.ret v) sp → P (finishOp (mid s sh' 0 [] sp) v)) :
    P (step g s t) := by
  refine Loader.step_cases g s t idle ?_ run ?_
  · intro f rest sh' nx sp hstk _ ha
    obtain ⟨_, _, e⟩ := applyNext_links nx (hi.picked hstk).2.1
    rw [e] at ha
    cases ha
  · intro f sh' v sp ht hc h
    obtain ⟨op, ops, hp, hk⟩ := hi.stacks.1.2 rfl f (by rw [hc]; rfl)
    exact done f sh' v sp op ops ht hc hp hk h

theorem step_inv (hacy : Acyclic g rank) (hi : Inv g rank cache0 s) (t : Nat) :
    Inv g rank cache0 (step g s t) := by
  refine hi.step_cases t (fun _ => hi) (fun f rest sh' nx sp st b hstk h ha _ => hi.to_mid hacy hstk h ha) ?_
  intro f sh' v sp op ops _ hc hp hk h
  have hstk : stackOf s 0 = [f] := hc
  refine (hi.to_mid hacy hstk h .exit).finish hp v fun k hop => ?_
  have := h.ret_resolve hi.table ((hi.picked hstk).1 f (List.mem_cons_self ..)) (hk k hop).2
  rw [(hk k hop).1] at this
  exact this

theorem runSched_inv (hacy : Acyclic g rank) (sched : List Nat) :
    ∀ s, Inv g rank cache0 s → Inv g rank cache0 (runSched g s sched) := by
  induction sched with
  | nil => exact fun s hi => hi
  | cons t ts ih => exact fun s hi => ih _ (step_inv hacy hi t)

end Preservation

end Loader
