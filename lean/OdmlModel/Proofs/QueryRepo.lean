/-
C20, the triples of the export: the case analysis of the flat graph, where Documents and Sections
may have a repository (terminology nodes `tnode url`, typed by the IRI `url`, linked from the Hub
and from the object), and from it `GFacts` (`Proofs/QueryFull.lean`) for every well-formed,
representable document set whose repositories are set to non-empty values that are not one of the
three odML class IRIs (`RepoOK`; document sets without repositories are a special case,
`repoOK_of_noRepo`).  Property theorem: `C20.query_sound_complete_full`.
-/
import OdmlModel.Proofs.QueryFull

namespace Query
open Rdf List

/-- **RepoOK**: a repository that is set is set to a value that is exported (Python-true: a
    non-empty text), and its URL is not the IRI of one of the three odML classes (the terminology
    node is typed by the URL; `saveRepositoryNode` documents the same assumption). -/
def RepoOK (ds : List DocT) : Prop :=
  ∀ v ∈ repoVals ds, v.truthy = true ∧ Term.iri v.lex ≠ docT ∧ Term.iri v.lex ≠ secT ∧
    Term.iri v.lex ≠ propT

theorem repoOK_of_B {ds : List DocT} (h : repoOKB ds = true) : RepoOK ds := by
  simp only [repoOKB, all_eq_true, Bool.and_eq_true, Bool.not_eq_true', contains_eq_mem,
    decide_eq_false_iff_not] at h
  intro v hv
  obtain ⟨h1, h2⟩ := h v hv
  refine ⟨h1, ?_, ?_, ?_⟩ <;>
    (intro e; apply h2; simp only [Term.iri.injEq] at e; rw [e]; simp [classIris])

theorem repoOK_of_noRepo {ds : List DocT} (nr : NoRepo ds) : RepoOK ds := by
  intro v hv
  simp only [repoVals, mem_append, mem_filterMap] at hv
  rcases hv with ⟨d, hd, e⟩ | ⟨s, hs, e⟩
  · rw [nr.1 d hd] at e; cases e
  · rw [nr.2 s hs] at e; cases e

theorem mem_repoVals_doc {ds : List DocT} {d : DocT} (hd : d ∈ ds) {v : PyVal}
    (h : d.attrs.lookup "repository" = some v) : v ∈ repoVals ds :=
  mem_append_left _ (mem_filterMap.mpr ⟨d, hd, h⟩)

theorem mem_repoVals_sec {ds : List DocT} {s : SecT} (hs : s ∈ docSecs ds) {v : PyVal}
    (h : s.attrs.lookup "repository" = some v) : v ∈ repoVals ds :=
  mem_append_right _ (mem_filterMap.mpr ⟨s, hs, h⟩)

/-- The two triples of a repository step that do not start at the object: the type of the
    terminology node and its link from the Hub. -/
def RepoAux (a : Attrs) (t : Triple) : Prop :=
  ∃ v, a.lookup "repository" = some v ∧ v.truthy = true ∧
    (t = ⟨.tnode v.lex, rdfType, .iri v.lex⟩ ∨ t = ⟨hub, hasTerminology, .tnode v.lex⟩)

theorem attrStep_cases {L : String → PyVal → Term} {n : Term} {a : Attrs} {kp : String × String}
    {t : Triple} (h : t ∈ attrStep L n a kp) : (t.s = n ∧ t.p = .iri kp.2.toList) ∨ RepoAux a t := by
  unfold attrStep at h
  cases hl : a.lookup kp.1 with
  | none => simp [hl] at h
  | some v =>
    cases ht : v.truthy with
    | false => simp [hl, ht] at h
    | true =>
      simp only [hl, ht, Bool.not_true, Bool.false_eq_true, if_false] at h
      split at h
      · rename_i e
        rw [beq_iff_eq.mp e] at hl
        simp only [saveRepositoryNode, mem_cons, mem_nil_iff, or_false] at h
        rcases h with rfl | rfl | rfl
        · exact .inr ⟨v, hl, ht, .inl rfl⟩
        · exact .inr ⟨v, hl, ht, .inr rfl⟩
        · exact .inl ⟨rfl, rfl⟩
      · rw [mem_singleton.mp h]; exact .inl ⟨rfl, rfl⟩

theorem ownDocStep_cases {d : DocT} {kp : String × String} {t : Triple} (h : t ∈ ownDocStep d kp) :
    (t.s = node d.id ∧ t.p = .iri kp.2.toList) ∨ RepoAux d.attrs t := by
  unfold ownDocStep at h
  split at h
  · simp at h
  · split at h
    · obtain ⟨c, _, rfl⟩ := mem_map.mp h; exact .inl ⟨rfl, rfl⟩
    · exact attrStep_cases (saveDocAttr_eq .. ▸ h)

theorem ownSecStep_cases {n : Term} {a : Attrs} {ps : List PropT} {ss : List SecT}
    {kp : String × String} {t : Triple} (h : t ∈ ownSecStep n a ps ss kp) :
    (t.s = n ∧ t.p = .iri kp.2.toList) ∨ RepoAux a t := by
  unfold ownSecStep at h
  split at h
  · simp at h
  · split at h
    · obtain ⟨c, _, rfl⟩ := mem_map.mp h; exact .inl ⟨rfl, rfl⟩
    · split at h
      · obtain ⟨c, _, rfl⟩ := mem_map.mp h; exact .inl ⟨rfl, rfl⟩
      · exact attrStep_cases (saveSecAttr_eq .. ▸ h)

theorem rdfType_ne_hasTerminology : rdfType ≠ hasTerminology :=
  fun e => rdfNs_ne_ns _ _ (Term.iri.inj e)
theorem hasTerminology_ne_hs : hasTerminology ≠ .iri hsS.toList :=
  odmlIri_ne (l := "hasTerminology") (by decide +kernel)
theorem hasTerminology_ne_hp : hasTerminology ≠ .iri hpS.toList :=
  odmlIri_ne (l := "hasTerminology") (by decide +kernel)

/-- A triple whose predicate is none of those the writer adds on its own account comes from the
    step of a table entry with that predicate, at the node of the object. -/
theorem step_of_pred {ds : List DocT} {q : Term} (fq : NotAux q) (hd : q ≠ hasDocument) (hf : q ≠ hasFileName)
    {t : Triple} (h : t ∈ flatGraph noSubclassing ds) (hp : t.p = q) :
    (∃ d ∈ ds, ∃ kp ∈ Gen.Format.documentRdfMap, .iri kp.2.toList = q ∧ t ∈ ownDocStep d kp) ∨
    (∃ s ∈ docSecs ds, ∃ kp ∈ Gen.Format.sectionRdfMap, .iri kp.2.toList = q ∧
      t ∈ ownSecStep (node s.id) s.attrs s.props s.subs kp) ∨
    (∃ p ∈ docProps ds, ∃ kp ∈ Gen.Format.propertyRdfMap, .iri kp.2.toList = q ∧
      t ∈ savePropertyKey p kp) := by
  have own : ∀ {n pred i}, Emitted n pred i t → pred = q :=
    fun e => Classical.byContradiction fun hne => e.pred_ne fq hne hp
  rcases mem_flat_cases h with ⟨d, hd', h⟩ | ⟨d, hd', kp, hkp, h⟩ | ⟨s, hs, h⟩ | ⟨s, hs, kp, hkp, h⟩ |
    ⟨p, hp', h⟩ | ⟨p, hp', kp, hkp, h⟩
  · simp only [docHead, mem_cons, mem_nil_iff, or_false] at h
    rcases h with rfl | rfl | rfl
    · exact absurd hp fq.type
    · exact absurd hp.symm hd
    · exact absurd hp.symm hf
  · exact .inl ⟨d, hd', kp, hkp, own (emitted_ownDocStep h), h⟩
  · subst h; exact absurd hp fq.type
  · exact .inr (.inl ⟨s, hs, kp, hkp, own (emitted_ownSecStep (i := s.id) h), h⟩)
  · subst h; exact absurd hp fq.type
  · exact .inr (.inr ⟨p, hp', kp, hkp, own (emitted_savePropertyKey h), h⟩)

section cases
variable (ok : QTablesOK) {ds : List DocT}
include ok

theorem type_triple_cases {x o : Term} (h : (⟨x, rdfType, o⟩ : Triple) ∈ flatGraph noSubclassing ds) :
    (∃ d ∈ ds, x = node d.id ∧ o = docT) ∨ (∃ s ∈ docSecs ds, x = node s.id ∧ o = secT) ∨
    (∃ p ∈ docProps ds, x = node p.id ∧ o = propT) ∨ (∃ p ∈ docProps ds, x = .seqn p.id ∧ o = rdfSeq) ∨
    (∃ v ∈ repoVals ds, x = .tnode v.lex ∧ o = .iri v.lex) := by
  rcases mem_flat_cases h with ⟨d, hd, h⟩ | ⟨d, hd, kp, hkp, h⟩ | ⟨s, hs, h⟩ | ⟨s, hs, kp, hkp, h⟩ |
    ⟨p, hp, h⟩ | ⟨p, hp, kp, hkp, h⟩
  · simp only [docHead, mem_cons, mem_nil_iff, or_false, Triple.mk.injEq] at h
    rcases h with ⟨rfl, _, rfl⟩ | ⟨_, e, _⟩ | ⟨_, e, _⟩
    · exact .inl ⟨d, hd, rfl, rfl⟩
    · exact absurd e rdfType_ne_hasDocument
    · exact absurd (Term.iri.inj e) (rdfNs_ne_ns _ _)
  · rcases ownDocStep_cases h with c | ⟨v, hl, _, e | e⟩
    · exact absurd c.2.symm (ok.base.doc.notMeta kp hkp).1
    · simp only [Triple.mk.injEq] at e
      exact .inr (.inr (.inr (.inr ⟨v, mem_repoVals_doc hd hl, e.1, e.2.2⟩)))
    · simp only [Triple.mk.injEq] at e
      exact absurd e.2.1 rdfType_ne_hasTerminology
  · simp only [Triple.mk.injEq] at h
    exact .inr (.inl ⟨s, hs, h.1, h.2.2⟩)
  · rcases ownSecStep_cases h with c | ⟨v, hl, _, e | e⟩
    · exact absurd c.2.symm (ok.base.sec.notMeta kp hkp).1
    · simp only [Triple.mk.injEq] at e
      exact .inr (.inr (.inr (.inr ⟨v, mem_repoVals_sec hs hl, e.1, e.2.2⟩)))
    · simp only [Triple.mk.injEq] at e
      exact absurd e.2.1 rdfType_ne_hasTerminology
  · simp only [Triple.mk.injEq] at h
    exact .inr (.inr (.inl ⟨p, hp, h.1, h.2.2⟩))
  · rcases savePropertyKey_cases h with ⟨_, e⟩ | ⟨e0, ⟨_, e⟩ | ⟨k, e⟩⟩
    · exact absurd e.symm (ok.base.prop.notMeta kp hkp).1
    · exact .inr (.inr (.inr (.inl ⟨p, hp, e0, e⟩)))
    · exact absurd e.symm (li_ne_rdfType k)

theorem notAux_hs : NotAux (.iri hsS.toList) :=
  ⟨(ok.base.doc.notMeta _ ok.docSecs).1.symm, hasTerminology_ne_hs,
    fun k e => li_ne_odml k _ (e.trans ok.hsIri.symm)⟩

theorem notAux_hp : NotAux (.iri hpS.toList) :=
  ⟨(ok.base.sec.notMeta _ ok.secProps).1.symm, hasTerminology_ne_hp,
    fun k e => li_ne_odml k _ (e.trans ok.hpIri.symm)⟩

theorem hasSection_cases {x y : Term} (h : (⟨x, .iri hsS.toList, y⟩ : Triple) ∈ flatGraph noSubclassing ds) :
    (∃ d ∈ ds, x = node d.id ∧ ∃ c ∈ d.secs, y = node c.id) ∨
    (∃ s ∈ docSecs ds, x = node s.id ∧ ∃ c ∈ s.subs, y = node c.id) := by
  have mD := ok.base.doc.notMeta _ ok.docSecs
  rcases step_of_pred (notAux_hs ok) mD.2.2.1 mD.2.2.2 h rfl with
    ⟨d, hd, kp, hkp, e, h⟩ | ⟨s, hs, kp, hkp, e, h⟩ | ⟨p, _, kp, hkp, e, _⟩
  · obtain rfl := eq_of_nodup_map (f := (·.2)) ok.base.doc.keys.predsNodup hkp ok.docSecs
      (iri_toList_inj e : kp.2 = _)
    simp [ownDocStep, secLink] at h
    obtain ⟨c, hc, rfl, rfl⟩ := h
    exact .inl ⟨d, hd, rfl, c, hc, rfl⟩
  · obtain rfl := eq_of_nodup_map (f := (·.2)) ok.base.sec.keys.predsNodup hkp ok.secSecs
      (iri_toList_inj e : kp.2 = _)
    simp [ownSecStep, secLink] at h
    obtain ⟨c, hc, rfl, rfl⟩ := h
    exact .inr ⟨s, hs, rfl, c, hc, rfl⟩
  · exact absurd (iri_toList_inj e ▸ mem_map_of_mem (f := (·.2)) hkp) ok.hsNotProp

theorem hasProperty_cases {x y : Term} (h : (⟨x, .iri hpS.toList, y⟩ : Triple) ∈ flatGraph noSubclassing ds) :
    ∃ s ∈ docSecs ds, x = node s.id ∧ ∃ c ∈ s.props, y = node c.id := by
  have mS := ok.base.sec.notMeta _ ok.secProps
  rcases step_of_pred (notAux_hp ok) mS.2.2.1 mS.2.2.2 h rfl with
    ⟨d, _, kp, hkp, e, _⟩ | ⟨s, hs, kp, hkp, e, h⟩ | ⟨p, _, kp, hkp, e, _⟩
  · exact absurd (iri_toList_inj e ▸ mem_map_of_mem (f := (·.2)) hkp) ok.hpNotDoc
  · obtain rfl := eq_of_nodup_map (f := (·.2)) ok.base.sec.keys.predsNodup hkp ok.secProps
      (iri_toList_inj e : kp.2 = _)
    simp [ownSecStep, propLink] at h
    obtain ⟨c, hc, rfl, rfl⟩ := h
    exact ⟨s, hs, rfl, c, hc, rfl⟩
  · exact absurd (iri_toList_inj e ▸ mem_map_of_mem (f := (·.2)) hkp) ok.hpNotProp

end cases


theorem repo_iff_of {g : Graph} {n : Term} {a : Attrs} {conv : String → PyVal → Term}
    (hconv : ∀ v, conv "repository" v = .tnode v.lex)
    (hobjs : ∀ m, (⟨n, .iri htS.toList, m⟩ : Triple) ∈ g ↔
      m ∈ attrObjs PyVal.truthy conv a "repository")
    (htruthy : ∀ v, a.lookup "repository" = some v → v.truthy = true)
    (htype : ∀ u o, (⟨.tnode u, rdfType, o⟩ : Triple) ∈ g → o = .iri u)
    (hmem : ∀ v, a.lookup "repository" = some v →
      (⟨.tnode v.lex, rdfType, .iri v.lex⟩ : Triple) ∈ g) (s : Str) :
    (∃ m u, (⟨n, .iri htS.toList, m⟩ : Triple) ∈ g ∧ (⟨m, rdfType, u⟩ : Triple) ∈ g ∧
        strOf u = some s) ↔ carriesKey a "repository" s = true := by
  simp only [hobjs, attrObjs, carriesKey]
  cases hl : a.lookup "repository" with
  | none => simp
  | some v =>
    simp only [htruthy v hl, if_true, mem_cons, mem_nil_iff, or_false, beq_iff_eq, hconv]
    constructor
    · rintro ⟨m, u, rfl, hu, e⟩
      rw [htype _ _ hu] at e
      simpa [strOf] using e
    · rintro rfl
      exact ⟨_, .iri v.lex, rfl, hmem v hl, rfl⟩

section parts
variable (ok2 : QTablesOK2) {ds : List DocT} (wf : WFDocs ds) (ro : RepoOK ds)
  {g : Graph} (hg : ∀ t, t ∈ g ↔ t ∈ flatGraph noSubclassing ds) (F : Facts g ds)
include ok2 hg

include ro in
theorem doc_type_iff (x : Term) : (⟨x, rdfType, docT⟩ : Triple) ∈ g ↔ ∃ d ∈ ds, x = node d.id := by
  have ok := ok2.base
  rw [hg]
  constructor
  · intro h
    rcases type_triple_cases ok h with ⟨d, hd, e, _⟩ | ⟨_, _, _, e⟩ | ⟨_, _, _, e⟩ | ⟨_, _, _, e⟩ |
      ⟨v, hv, _, e⟩
    · exact ⟨d, hd, e⟩
    · exact absurd e ok.typesDistinct.1
    · exact absurd e ok.typesDistinct.2.1
    · exact absurd e ok.typesDistinct.2.2.2.1
    · exact absurd e.symm (ro v hv).2.1
  · rintro ⟨d, hd, rfl⟩
    exact mem_flat_of_block (doc_block noSubclassing hd) (by simp [ownDoc, docHead])

include ro in
theorem sec_type_iff (x : Term) : (⟨x, rdfType, secT⟩ : Triple) ∈ g ↔ ∃ s ∈ docSecs ds, x = node s.id := by
  have ok := ok2.base
  rw [hg]
  constructor
  · intro h
    rcases type_triple_cases ok h with ⟨_, _, _, e⟩ | ⟨s, hs, e, _⟩ | ⟨_, _, _, e⟩ | ⟨_, _, _, e⟩ |
      ⟨v, hv, _, e⟩
    · exact absurd e.symm ok.typesDistinct.1
    · exact ⟨s, hs, e⟩
    · exact absurd e ok.typesDistinct.2.2.1
    · exact absurd e ok.typesDistinct.2.2.2.2.1
    · exact absurd e.symm (ro v hv).2.2.1
  · rintro ⟨s, hs, rfl⟩
    obtain ⟨id, a, ps, ss⟩ := s
    exact mem_flat_of_block (sec_block noSubclassing hs)
      (by simp [ownSec, sectionTypeTriples, noSubclassing, SecT.id])

include ro in
theorem prop_type_iff (x : Term) : (⟨x, rdfType, propT⟩ : Triple) ∈ g ↔ ∃ p ∈ docProps ds, x = node p.id := by
  have ok := ok2.base
  rw [hg]
  constructor
  · intro h
    rcases type_triple_cases ok h with ⟨_, _, _, e⟩ | ⟨_, _, _, e⟩ | ⟨p, hp, e, _⟩ | ⟨_, _, _, e⟩ |
      ⟨v, hv, _, e⟩
    · exact absurd e.symm ok.typesDistinct.2.1
    · exact absurd e.symm ok.typesDistinct.2.2.1
    · exact ⟨p, hp, e⟩
    · exact absurd e ok.typesDistinct.2.2.2.2.2
    · exact absurd e.symm (ro v hv).2.2.2
  · rintro ⟨p, hp, rfl⟩
    exact mem_flat_of_block (prop_block noSubclassing hp) (by simp [saveProperty])

include wf F in
theorem hasSection_iff (x : Term) {s : SecT} (hs : s ∈ docSecs ds) :
    (⟨x, .iri hsS.toList, node s.id⟩ : Triple) ∈ g ↔ (x, s) ∈ allSecsWithParent ds := by
  have ok := ok2.base
  rw [hg, mem_allSecsWithParent]
  constructor
  · intro h
    rcases hasSection_cases ok h with ⟨d, hd, e, c, hc, e2⟩ | ⟨s0, hs0, e, c, hc, e2⟩
    · have hcm : c ∈ docSecs ds := mem_docSecs_of_doc hd (mem_allSecsL_of_mem _ _ hc)
      have := eq_of_nodup_map (wf_secs_nodup wf) hs hcm (node_inj e2)
      subst this
      exact .inl ⟨d, hd, e, hc⟩
    · have hcm : c ∈ docSecs ds := allSecsL_trans _ s0 hs0 _ hc
      have := eq_of_nodup_map (wf_secs_nodup wf) hs hcm (node_inj e2)
      subst this
      exact .inr ⟨s0, hs0, e, hc⟩
  · rintro (⟨d, hd, e, hc⟩ | ⟨s0, hs0, e, hc⟩) <;> simp only at e hc <;> subst e <;> rw [← hg, ← mem_objects]
    · exact (F.docKids d hd hsS ok.docSecs).mem_iff.mpr (mem_map_of_mem hc)
    · exact (F.secKids s0 hs0 hsS ok.secSecs).mem_iff.mpr (mem_map_of_mem hc)

include wf F in
theorem hasProperty_iff (x : Term) {p : PropT} (hp : p ∈ docProps ds) :
    (⟨x, .iri hpS.toList, node p.id⟩ : Triple) ∈ g ↔ ∃ s ∈ docSecs ds, x = node s.id ∧ p ∈ s.props := by
  have ok := ok2.base
  rw [hg]
  constructor
  · intro h
    obtain ⟨s, hs, e, c, hc, e2⟩ := hasProperty_cases ok h
    have hcm : c ∈ docProps ds := mem_flatMap.mpr ⟨s, hs, hc⟩
    have := eq_of_nodup_map (wf_props_nodup wf) hp hcm (node_inj e2)
    subst this
    exact ⟨s, hs, e, hc⟩
  · rintro ⟨s, hs, rfl, hc⟩
    rw [← hg, ← mem_objects]
    exact (F.secPropKids s hs hpS ok.secProps).mem_iff.mpr (mem_map_of_mem hc)

include wf in
theorem member_iff {p : PropT} (hp : p ∈ docProps ds) (s : Str) :
    (∃ t ∈ g, t.s = .seqn p.id ∧ isMemberPred t.p = true ∧ strOf t.o = some s) ↔
      ∃ l ∈ p.values, l.lex = s := by
  constructor
  · rintro ⟨t, ht, hs, e2, e3⟩
    rcases mem_flat_cases ((hg t).mp ht) with ⟨d, hd, h⟩ | ⟨d, hd, kp, hkp, h⟩ | ⟨s0, hs0, h⟩ |
      ⟨s0, hs0, kp, hkp, h⟩ | ⟨p0, hp0, h⟩ | ⟨p0, hp0, kp, hkp, h⟩
    · exfalso
      simp only [docHead, mem_cons, mem_nil_iff, or_false] at h
      rcases h with rfl | rfl | rfl <;> simp [node, hub] at hs
    · exfalso
      rcases ownDocStep_cases h with c | ⟨v, _, _, e | e⟩
      · rw [c.1] at hs; simp [node] at hs
      · rw [e] at hs; simp at hs
      · rw [e] at hs; simp [hub] at hs
    · exfalso; subst h; simp [node] at hs
    · exfalso
      rcases ownSecStep_cases h with c | ⟨v, _, _, e | e⟩
      · rw [c.1] at hs; simp [node] at hs
      · rw [e] at hs; simp at hs
      · rw [e] at hs; simp [hub] at hs
    · exfalso; subst h; simp [node] at hs
    · obtain ⟨v, hvm, e⟩ := savePropertyKey_member h hs e2
      have hid : p0.id = p.id := by
        rcases savePropertyKey_cases h with ⟨c, _⟩ | ⟨c, _⟩
        · rw [c] at hs; simp [node] at hs
        · rw [c] at hs; simpa using hs
      have := eq_of_nodup_map (wf_props_nodup wf) hp0 hp hid
      subst this
      refine ⟨v, hvm, ?_⟩
      rw [e] at e3
      simpa [Lit.toTerm, strOf] using e3
  · rintro ⟨l, hl, rfl⟩
    obtain ⟨j, hj⟩ := seqItems_of_mem (seq := .seqn p.id) (k := 1) hl
    have hne : p.values.isEmpty = false := by
      cases hvs : p.values with
      | nil => rw [hvs] at hl; simp at hl
      | cons a r => rfl
    refine ⟨⟨.seqn p.id, li j, l.toTerm⟩, ?_, rfl, isMemberPred_li j, by simp [Lit.toTerm, strOf]⟩
    refine (hg _).mpr (mem_flat_of_block (prop_block noSubclassing hp) ?_)
    unfold saveProperty
    refine mem_cons_of_mem _ (mem_flatMap.mpr ⟨_, ok2.propValue, ?_⟩)
    simp only [savePropertyKey, beq_self_eq_true, if_true, hne, Bool.false_eq_true, if_false, saveValues]
    exact mem_cons_of_mem _ (mem_cons_of_mem _ hj)

/-- The types of a terminology node: its URL (objects with the same URL share the node). -/
theorem tnode_type_iff (u : Str) (o : Term) (h : (⟨.tnode u, rdfType, o⟩ : Triple) ∈ g) : o = .iri u := by
  rcases type_triple_cases ok2.base ((hg _).mp h) with ⟨_, _, e, _⟩ | ⟨_, _, e, _⟩ | ⟨_, _, e, _⟩ |
    ⟨_, _, e, _⟩ | ⟨v, _, e, e2⟩
  · simp [node] at e
  · simp [node] at e
  · simp [node] at e
  · simp at e
  · simp only [Term.tnode.injEq] at e
    rw [e2, e]

include ro F in
theorem docRepo_iff {d : DocT} (hd : d ∈ ds) (s : Str) :
    (∃ m u, (⟨node d.id, .iri htS.toList, m⟩ : Triple) ∈ g ∧ (⟨m, rdfType, u⟩ : Triple) ∈ g ∧
        strOf u = some s) ↔ carriesKey d.attrs "repository" s = true := by
  refine repo_iff_of (conv := docConv) (fun _ => rfl) (fun m => ?_)
    (fun v hl => (ro v (mem_repoVals_doc hd hl)).1) (tnode_type_iff ok2 hg) (fun v hl => ?_) s
  · rw [← mem_objects,
      (F.docAttr d hd ("repository", htS) ok2.docRepo (by decide) (by decide)).mem_iff]
  · refine (hg _).mpr (mem_flat_of_block (doc_block noSubclassing hd) ?_)
    unfold ownDoc
    refine mem_append_right _ (mem_flatMap.mpr ⟨_, ok2.docRepo, ?_⟩)
    simp only [ownDocStep, show (("repository" : String) == "id") = false by decide,
      show (("repository" : String) == "sections") = false by decide,
      Bool.false_eq_true, if_false, saveDocAttr, hl, (ro v (mem_repoVals_doc hd hl)).1, Bool.not_true,
      beq_self_eq_true, if_true, saveRepositoryNode, mem_cons, true_or]

include ro F in
theorem secRepo_iff {c : SecT} (hc : c ∈ docSecs ds) (s : Str) :
    (∃ m u, (⟨node c.id, .iri htS.toList, m⟩ : Triple) ∈ g ∧ (⟨m, rdfType, u⟩ : Triple) ∈ g ∧
        strOf u = some s) ↔ carriesKey c.attrs "repository" s = true := by
  refine repo_iff_of (conv := secConv) (fun _ => rfl) (fun m => ?_)
    (fun v hl => (ro v (mem_repoVals_sec hc hl)).1) (tnode_type_iff ok2 hg) (fun v hl => ?_) s
  · rw [← mem_objects, (F.secAttr c hc ("repository", htS) ok2.secRepo (by decide) (by decide)
      (by decide)).mem_iff]
  · have ht := (ro v (mem_repoVals_sec hc hl)).1
    obtain ⟨id0, a0, ps0, ss0⟩ := c
    simp only [SecT.attrs] at hl
    refine (hg _).mpr (mem_flat_of_block (sec_block noSubclassing hc) ?_)
    unfold ownSec
    refine mem_append_right _ (mem_flatMap.mpr ⟨_, ok2.secRepo, ?_⟩)
    simp only [ownSecStep, show (("repository" : String) == "id") = false by decide,
      show (("repository" : String) == "sections") = false by decide,
      show (("repository" : String) == "properties") = false by decide,
      Bool.false_eq_true, if_false, saveSecAttr, hl, ht, Bool.not_true, beq_self_eq_true, if_true,
      saveRepositoryNode, mem_cons, true_or]

end parts

theorem gfacts_repo (ok2 : QTablesOK2) {ds : List DocT} (wf : WFDocs ds) (r : RdfRepr ds)
    (ro : RepoOK ds) : GFacts (exportRdf noSubclassing ds) ds := by
  have ok := ok2.base
  have hperm := export_flat noSubclassing ok.base.secOK ok.base.docOK ds
  have hg : ∀ t, t ∈ exportRdf noSubclassing ds ↔ t ∈ flatGraph noSubclassing ds := fun t => hperm.mem_iff
  have F := facts_export noSubclassing wf ok.base (Perm.refl (exportRdf noSubclassing ds))
  exact {
    docType := doc_type_iff ok2 ro hg
    secType := sec_type_iff ok2 ro hg
    propType := prop_type_iff ok2 ro hg
    hasSec := fun x s hs => hasSection_iff ok2 wf hg F x hs
    hasProp := fun x p hp => hasProperty_iff ok2 wf hg F x hp
    docAttrs := fun d hd l hs => doc_attrs_iff r F hd l hs
    secAttrs := fun s hs l hl => sec_attrs_iff r F hs l hl
    propAttrs := fun p hp l hl => prop_attrs_iff r F hp l hl
    hasValue := fun p hp y => by
      rw [← mem_objects, (F.propValue p hp hvS ok2.propValue).mem_iff]
      cases p.values <;> simp
    member := fun p hp s => member_iff ok2 wf hg hp s
    docRepo := fun d hd s => docRepo_iff ok2 ro hg F hd s
    secRepo := fun c hc s => secRepo_iff ok2 ro hg F hc s }

/-- **The FILTER of a searched value is exact** on the export (no sub-classing) of every well-formed
    document set, with or without repositories: with `?v` bound to the value node of a Property,
    `FILTER EXISTS { ?v ?t1 ?t2 . FILTER (STRSTARTS(STR(?t1), "…#_") && STR(?t2) = "s") }` holds iff
    `s` is the text of one of the values of that Property. -/
theorem value_filter_exact (ok2 : QTablesOK2) {ds : List DocT} (wf : WFDocs ds)
    {p : PropT} (hp : p ∈ docProps ds) (b : Binding) (hb : b.get .v = some (.seqn p.id)) (s : Str) :
    (Flt.member .v s).holds (exportRdf noSubclassing ds) b = true ↔ ∃ l ∈ p.values, l.lex = s :=
  (holds_member _ b .v s _ hb).trans
    (member_iff ok2 wf
      (fun _ => (export_flat noSubclassing ok2.base.base.secOK ok2.base.base.docOK ds).mem_iff) hp s)

/-- **Sound and complete, repositories included**: on the export of a well-formed, representable
    document set with `RepoOK` repositories, for a query over any searchable attributes. -/
theorem sound_complete_full (ok2 : QTablesOK2) (ds : List DocT) (q : QParams) (wf : WFDocs ds)
    (r : RdfRepr ds) (ro : RepoOK ds) (full : QueryFull q) (row : Row) :
    ∃ rows, queryRows (exportRdf noSubclassing ds) q = .ok rows ∧ (row ∈ rows ↔ row ∈ directEval' ds q) :=
  sound_complete_gen ok2 (gfacts_repo ok2 wf r ro) q full row


theorem isEmpty_congr {α} {a b : List α} (h : ∀ x, x ∈ a ↔ x ∈ b) : a.isEmpty = b.isEmpty := by
  cases a with
  | nil =>
    cases b with
    | nil => rfl
    | cons y r => exact absurd ((h y).mpr (by simp)) (by simp)
  | cons x r =>
    cases b with
    | nil => exact absurd ((h x).mp (by simp)) (by simp)
    | cons y r' => rfl

theorem findRows_go_exact (g : Graph) (ds : List DocT) : ∀ (L : List (List Pair)),
    (∀ c ∈ L, ∀ row, ∃ rows, queryRows g (groupPairs c) = .ok rows ∧
      (row ∈ rows ↔ row ∈ directEval' ds (groupPairs c))) →
    ∃ out, findRows.go g L = .ok out ∧
      out.map (·.1) = (L.filter fun c => !(directEval' ds (groupPairs c)).isEmpty).map groupPairs ∧
      ∀ blk ∈ out, ∀ row, row ∈ blk.2 ↔ row ∈ directEval' ds blk.1
  | [], _ => ⟨[], by simp [findRows.go], by simp, by simp⟩
  | c :: r, h => by
    obtain ⟨out, ho, hm, hb⟩ := findRows_go_exact g ds r (fun c' hc' => h c' (by simp [hc']))
    obtain ⟨rows, hq, _⟩ := h c (by simp) (none, none, none)
    have hrows : ∀ row, row ∈ rows ↔ row ∈ directEval' ds (groupPairs c) := by
      intro row
      obtain ⟨rows', hq', hi⟩ := h c (by simp) row
      rw [hq] at hq'; cases hq'
      exact hi
    have he := isEmpty_congr hrows
    refine ⟨if rows.isEmpty then out else (groupPairs c, rows) :: out, by simp [findRows.go, hq, ho], ?_, ?_⟩
    · rw [filter_cons]
      by_cases hemp : rows.isEmpty = true
      · have : (directEval' ds (groupPairs c)).isEmpty = true := by rw [← he]; exact hemp
        simp only [hemp, if_true, this, Bool.not_true, Bool.false_eq_true, if_false]
        exact hm
      · have hemp' : rows.isEmpty = false := by simpa using hemp
        have : (directEval' ds (groupPairs c)).isEmpty = false := by rw [← he]; exact hemp'
        simp only [hemp', Bool.false_eq_true, if_false, this, Bool.not_false, if_true, map_cons, hm]
    · intro blk hblk row
      by_cases hemp : rows.isEmpty = true
      · simp only [hemp, if_true] at hblk
        exact hb blk hblk row
      · have hemp' : rows.isEmpty = false := by simpa using hemp
        simp only [hemp', Bool.false_eq_true, if_false, mem_cons] at hblk
        rcases hblk with rfl | hblk
        · exact hrows row
        · exact hb blk hblk row

end Query
