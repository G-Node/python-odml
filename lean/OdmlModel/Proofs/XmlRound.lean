/-
XML round trip (C01): what the reader's node loop makes of the elements the writer emits for one
key.  `KeySpec` says per key which argument and which children the elements stand for; `LeafKey`
ties the at most one leaf written for an attribute key to that argument, under table facts about
the key (`textKeyOK` …) that are closed by evaluating the regenerated tables.
-/
import OdmlModel.Proofs.Xml
namespace Xml
open Py

theorem readKids_append (m : Mode) (lib : TokLib) (k : Kind) (tag : String) (a b : List X) :
    ∀ st, readKids m lib k tag (a ++ b) st =
      match readKids m lib k tag a st with
      | .error e => .error e
      | .ok st' => readKids m lib k tag b st' := by
  induction a with
  | nil => intro st; simp [readKids]
  | cons x xs ih =>
    intro st
    obtain ⟨t, at_, tx, ks⟩ := x
    simp only [List.cons_append]
    rw [readKids.eq_2, readKids.eq_2]
    split
    · split
      · split <;> simp only [ih]
      · split <;> simp only [ih]
    · split
      · rfl
      · split
        · rfl
        · simp only [ih]

theorem lookup_of_mem_nodup {β} : ∀ (l : List (String × β)) (a : String) (v : β),
    (l.map (·.1)).Nodup → (a, v) ∈ l → l.lookup a = some v := by
  intro l
  induction l with
  | nil => intro a v _ h; simp at h
  | cons x xs ih =>
    intro a v hn hm
    obtain ⟨b, w⟩ := x
    simp only [List.map_cons, List.nodup_cons] at hn
    rcases List.mem_cons.mp hm with h | h
    · cases h; simp [List.lookup]
    · have hne : a ≠ b := by
        rintro rfl
        exact hn.1 (List.mem_map.mpr ⟨(a, v), h, rfl⟩)
      have : (a == b) = false := by simpa using hne
      simp [List.lookup, this, ih a v hn.2 h]

theorem lookup_none_of_not_mem {β} : ∀ (l : List (String × β)) (a : String),
    a ∉ l.map (·.1) → l.lookup a = none := by
  intro l
  induction l with
  | nil => intro a _; rfl
  | cons x xs ih =>
    intro a h
    obtain ⟨b, w⟩ := x
    simp only [List.map_cons, List.mem_cons, not_or] at h
    have : (a == b) = false := by simpa using h.1
    simp [List.lookup, this, ih a h.2]

/-- What the elements the writer emitted for a key stand for, as functions of the key: the one
    argument assigned (if any), and the child Sections and Properties collected. -/
structure KeySpec where
  arg : String → Option ArgV
  secs : String → List SecT
  props : String → List PropT

def KeySpec.entry (S : KeySpec) (f : Fmt) (k : String) : Option (String × ArgV) :=
  (S.arg k).map fun v => (f.pyName k, v)

theorem entries_keys_sublist (S : KeySpec) (f : Fmt) : ∀ (L : List String),
    ((L.filterMap (S.entry f)).map (·.1)).Sublist (L.map f.pyName) := by
  intro L; induction L with
  | nil => simp
  | cons k ks ih =>
    cases h : S.arg k with
    | none => simp [KeySpec.entry, h]; exact List.Sublist.cons _ ih
    | some v => simp [KeySpec.entry, h]; exact ih

theorem ne_nil_of_strip {s : Str} (h : (strip s).isEmpty = false) : s.isEmpty = false := by
  cases s with
  | nil => exact absurd h (by decide)
  | cons c cs => rfl

theorem leafStep_text (m : Mode) (f : Fmt) (t : String) (s : Str) (st : PT)
    (hq : (strip s).isEmpty = true ∨
      ((f.pyName t == "values") = false ∧ "_cardinality".toList.isSuffixOf (f.pyName t).toList = false))
    (hn : st.args.lookup (f.pyName t) = none) :
    leafStep m f t (if s.isEmpty then none else some s) st =
      .ok { st with args := (f.pyName t, .text (normText (some s))) :: st.args } := by
  by_cases he : s.isEmpty = true
  · simp [leafStep, he, hn, normText]
  · rcases hq with hq | ⟨hv, hc⟩
    · simp [leafStep, he, hn, normText, hq]
    · -- without the simproc `simp` would spell `"_cardinality".toList` out and miss `hc`
      simp [leafStep, he, hn, hv, hc, normText, -String.reduceToList]

theorem leafStep_vals (m : Mode) (f : Fmt) (t : String) (s : Str) (vs : List Str) (st : PT)
    (hv : f.pyName t = "values") (hs : (strip s).isEmpty = false) (hcsv : fromCsv s = .ok vs)
    (hn : st.args.lookup (f.pyName t) = none) :
    leafStep m f t (if s.isEmpty then none else some s) st =
      .ok { st with args := (f.pyName t, .vals vs) :: st.args } := by
  have he := ne_nil_of_strip hs
  rw [hv] at hn ⊢
  simp [leafStep, he, hn, hv, hs, hcsv]

theorem leafStep_card (m : Mode) (f : Fmt) (t : String) (s : Str) (st : PT)
    (hv : (f.pyName t == "values") = false)
    (hc : "_cardinality".toList.isSuffixOf (f.pyName t).toList = true)
    (hs : (strip s).isEmpty = false)
    (hn : st.args.lookup (f.pyName t) = none) :
    leafStep m f t (if s.isEmpty then none else some s) st =
      .ok { st with args := (f.pyName t, .card (Card.parseCardText s)) :: st.args } := by
  have he := ne_nil_of_strip hs
  simp [leafStep, he, hn, hv, hs, hc, -String.reduceToList]

def textArg (s : Str) : ArgV := .text (normText (some s))
def cardArg (c : Option Int × Option Int) : ArgV := .card (Card.parseCardText (Card.renderCardText c))
def valsArg (s : Str) (vs : List Str) : ArgV := if s.isEmpty then .text none else .vals vs

/-- table facts about one key that is read through the leaf branch -/
def leafKeyOK (κ : Kind) (k : String) : Bool :=
  lowerS k == k && (fmtOf κ).keys.contains k &&
  !(readerTags.contains k && (fmtOf κ).mapKeys.contains k)
def textKeyOK (κ : Kind) (k : String) : Bool :=
  leafKeyOK κ k && !((fmtOf κ).pyName k == "values") &&
  !("_cardinality".toList.isSuffixOf ((fmtOf κ).pyName k).toList)
def cardKeyOK (κ : Kind) (k : String) : Bool :=
  leafKeyOK κ k && !((fmtOf κ).pyName k == "values") &&
  "_cardinality".toList.isSuffixOf ((fmtOf κ).pyName k).toList
def valsKeyOK (κ : Kind) (k : String) : Bool :=
  leafKeyOK κ k && (fmtOf κ).pyName k == "values"

theorem renderCardText_strip (c : Option Int × Option Int) :
    (strip (Card.renderCardText c)).isEmpty = false := by
  obtain ⟨a, b⟩ := c
  have : Card.renderCardText (a, b) =
      '(' :: ((Card.renderBound a ++ [',', ' '] ++ Card.renderBound b) ++ [')']) := by
    simp [Card.renderCardText]
  rw [this, strip_ends (a := '(') (b := ')') _ (by decide) (by decide)]
  rfl

/-- The elements the writer emits for a key that carries an attribute as text (at most one leaf),
    beside the argument the reader makes of them. -/
inductive LeafKey (κ : Kind) (k : String) : List X → Option ArgV → Prop
  | absent : LeafKey κ k [] none
  | text (h : textKeyOK κ k = true) (s : Str) : LeafKey κ k [leaf k s] (some (textArg s))
  | card (h : cardKeyOK κ k = true) (c : Option Int × Option Int) :
      LeafKey κ k [leaf k (Card.renderCardText c)] (some (cardArg c))
  | vals (h : valsKeyOK κ k = true) (s : Str) (vs : List Str)
      (hv : s.isEmpty = true ∨ ((strip s).isEmpty = false ∧ fromCsv s = .ok vs)) :
      LeafKey κ k [leaf k s] (some (valsArg s vs))

theorem LeafKey.optText {κ : Kind} {k : String} (h : textKeyOK κ k = true) :
    ∀ o, LeafKey κ k (optLeaf k o) (o.map textArg)
  | none => .absent
  | some s => .text h s

theorem LeafKey.optCard {κ : Kind} {k : String} (h : cardKeyOK κ k = true) :
    ∀ c, LeafKey κ k (cardLeaf k c) (c.map cardArg)
  | none => .absent
  | some c => .card h c

theorem Fmt.keys_nodup {f : Fmt} (h : (f.keys.map f.pyName).Nodup) : f.keys.Nodup :=
  List.Pairwise.of_map f.pyName (fun _ _ hne e => hne (congrArg _ e)) h

theorem flatMap_keys {β} (args : List (String × Nat)) (g : String → List β) :
    args.flatMap (fun kv => g kv.1) = (args.map (·.1)).flatMap g :=
  (List.flatMap_map _ g args).symm

theorem lookup_some_mem {β} (l : List (String × β)) (a : String) (v : β)
    (h : l.lookup a = some v) : a ∈ l.map (·.1) := by
  by_cases hm : a ∈ l.map (·.1)
  · exact hm
  · rw [lookup_none_of_not_mem l a hm] at h; cases h

theorem mem_keys_of_lookup {β} (l : List (String × β)) (a : String) (h : (l.lookup a).isSome = true) :
    a ∈ l.map (·.1) := by
  cases hl : l.lookup a with
  | none => rw [hl] at h; cases h
  | some v => exact lookup_some_mem l a v hl

theorem mandatory_ok (m : Mode) (f : Fmt) (present : List String) :
    ∀ (L : List (String × Nat)) (w : Nat),
      (∀ kr ∈ L, kr.2 ≠ 0 → f.pyName kr.1 ∈ present) → mandatoryLoop m f present L w = .ok w := by
  intro L
  induction L with
  | nil => intro w _; rfl
  | cons kr rest ih =>
    intro w h
    obtain ⟨k, req⟩ := kr
    have ih' := ih w (fun x hx => h x (by simp [hx]))
    by_cases hr : req = 0
    · simp [mandatoryLoop, hr, ih']
    · have := h (k, req) (by simp) hr
      simp [mandatoryLoop, this, ih']

end Xml
