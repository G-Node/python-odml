/-
The well-formedness and representability predicates of `Model/XmlRepr.lean` by their conjuncts, so
that a proof names the conjunct it needs.
-/
import OdmlModel.Model.XmlRepr

namespace Xml
open Py

theorem propWf_name {lib : TokLib} {p : PropT} (h : propWf lib p = true) : p.name.isSome = true := by
  simp only [propWf, Bool.and_eq_true] at h
  exact h.1.1.2

theorem propWf_base {lib : TokLib} {p : PropT} (h : propWf lib p = true) :
    idOk p.id = true ∧ p.name.isSome = true ∧ cardOk p.valCard = true := by
  simp only [propWf, Bool.and_eq_true] at h
  exact ⟨h.1.1.1, h.1.1.2, h.1.2⟩

theorem propWf_none {lib : TokLib} {p : PropT} (h : propWf lib p = true) (hd : p.dtype = none) :
    p.values = [] := by
  simp only [propWf, hd, Bool.and_eq_true, List.isEmpty_iff] at h
  exact h.2

theorem propWf_some {lib : TokLib} {p : PropT} {d : Str} (h : propWf lib p = true)
    (hd : p.dtype = some d) :
    validType (some d) = true ∧ strip d = d ∧ d.isEmpty = false ∧
      ∀ v ∈ p.values, valOk lib d v = true := by
  simp only [propWf, hd, Bool.and_eq_true, beq_iff_eq, Bool.not_eq_true', List.all_eq_true] at h
  exact ⟨h.2.1.1.1, h.2.1.1.2, h.2.1.2, h.2.2⟩

theorem secWf_mk {lib : TokLib} {id name type defn ref link repo incl : Option Str}
    {secs : List SecT} {props : List PropT} {sc pc : Card.Card} :
    secWf lib (.mk id name type defn ref link repo incl secs props sc pc) = true ↔
      idOk id = true ∧ name.isSome = true ∧ type.isSome = true ∧ cardOk sc = true ∧
      cardOk pc = true ∧ (∀ p ∈ props, propWf lib p = true) ∧ secsWf lib secs = true := by
  simp only [secWf, Bool.and_eq_true, List.all_eq_true, and_assoc]

theorem secRepr_mk {id name type defn ref link repo incl : Option Str}
    {secs : List SecT} {props : List PropT} {sc pc : Card.Card} :
    secRepr (.mk id name type defn ref link repo incl secs props sc pc) = true ↔
      nameRepr name = true ∧ (∀ p ∈ props, propRepr p = true) ∧
      distinctTrimmed (props.map (·.name)) = true ∧ distinctTrimmed (secNames secs) = true ∧
      secsRepr secs = true := by
  simp only [secRepr, Bool.and_eq_true, List.all_eq_true, and_assoc]

theorem wfDoc_iff {lib : TokLib} {d : DocT} :
    wfDoc lib d = true ↔ idOk d.id = true ∧ dateOk lib d.date = true ∧ secsWf lib d.secs = true := by
  simp only [wfDoc, Bool.and_eq_true, and_assoc]

theorem xmlRepr_iff {d : DocT} :
    xmlRepr d = true ↔ distinctTrimmed (secNames d.secs) = true ∧ secsRepr d.secs = true := by
  simp only [xmlRepr, Bool.and_eq_true]

end Xml
