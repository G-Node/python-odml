/-
C11: without `keep_id`, *every* object of the copy - at every depth - carries
an id generated during the call (`uuid4`: at or beyond the counter the call started with).
-/
import OdmlModel.Proofs.CloneSpec
namespace Clone

/-- Every object a successful call allocates has an id generated during the call. -/
def RecIds (rec : H → Nat → H × Res) : Prop :=
  ∀ h s h1 sc, rec h s = (h1, .ok sc) → ∀ a, h.nN ≤ a → a < h1.nN → h.nextId ≤ (h1.node a).id

/-- New objects other than the copy `c` carry ids generated since `b`. -/
def NewIds (b : H) (c : Nat) (k : H) : Prop :=
  ∀ a, b.nN ≤ a → a < k.nN → a ≠ c → b.nextId ≤ (k.node a).id

theorem NewIds.updN {b c k} (i : NewIds b c k) (f : Node → Node) : NewIds b c (updN k c f) :=
  fun a h1 h2 hne => by rw [updN_other _ _ _ _ hne]; exact i a h1 h2 hne

theorem Loop.ids {rec b c h h'} (hrec : RecOk rec) (hid : RecIds rec) (l : Loop rec c h h')
    (hc : c < h.nN) (hb : b.nextId ≤ h.nextId) (i : NewIds b c h) : NewIds b c h' := by
  induction l with
  | done => exact i
  | @round h h1 _ _ _ _ hr hat _ ih =>
    obtain ⟨e1, -, -, -, -, -⟩ := hrec _ _ _ _ hr
    have ids1 := hid _ _ _ _ hr
    have hid2 := attach_id hat
    cases attach_ok hat
    refine ih (Nat.lt_of_lt_of_le hc e1.mono.nN) (Nat.le_trans hb e1.mono.nextId) fun a ha hlt hne => ?_
    rw [hid2 a]
    by_cases hold : a < h.nN
    · rw [e1.node a hold]; exact i a ha hold hne
    · exact Nat.le_trans hb (ids1 a (Nat.le_of_not_lt hold) hlt)

theorem cloneBody_ids {rec} (hrec : RecOk rec) (hid : RecIds rec) {h : H} {x : Nat} {ch : Bool} {h' : H} {c : Nat}
    (hb : cloneBody rec h x ch false = (h', .ok c)) :
    ∀ a, h.nN ≤ a → a < h'.nN → h.nextId ≤ (h'.node a).id := by
  have root := cloneBody_fields hrec hb
  obtain ⟨rfl, h4, l4, rest⟩ := cloneBody_ok hb
  obtain ⟨-, nx4, nn4⟩ := l4.fields hrec (Nat.lt_succ_self _)
  have i5 : NewIds h h.nN (newId h4 h.nN) :=
    (l4.ids (b := h) hrec hid (Nat.lt_succ_self _) (Nat.le_refl _)
      fun a h1 h2 hne => absurd (Nat.le_antisymm (Nat.le_of_lt_succ h2) h1) hne).updN fun n => { n with id := h4.nextId }
  have i7 : NewIds h h.nN h' := by
    rw [if_neg Bool.false_ne_true] at rest
    split at rest
    · exact rest ▸ i5
    · exact rest.ids hrec hid (Nat.lt_of_lt_of_le (Nat.lt_succ_self _) nn4) (Nat.le_succ_of_le nx4) (i5.updN _)
  -- the copy itself gets its id from `new_id`
  exact fun a h1 h2 => if e : a = h.nN then e ▸ (root.idFresh rfl).1 else i7 a h1 h2 e

theorem cloneF_ids {f : Nat} : ∀ {h : H} {x : Nat} {ch : Bool} {h' : H} {c : Nat},
    cloneF f h x ch false = (h', .ok c) → ∀ a, h.nN ≤ a → a < h'.nN → h.nextId ≤ (h'.node a).id := by
  induction f with
  | zero => intro h x ch h' c hc; cases hc
  | succ f ih =>
    intro h x ch h' c hc
    simp only [cloneF] at hc
    split at hc
    · cases hc
      have s := cloneProp_spec h x false
      intro a h1 h2
      have h2 : a < h.nN + 1 := s.nN ▸ h2
      have : a = (cloneProp h x false).2 := s.c_eq ▸ Nat.le_antisymm (Nat.le_of_lt_succ h2) h1
      rw [this, s.node]
      exact Nat.le_refl _
    · exact cloneBody_ids (cloneF_recOk f false) (fun _ _ _ _ hr => ih hr) hc

end Clone
