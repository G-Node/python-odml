/-
The name setter by cases (`setName_ok`); `set` on distinct, plain names.
-/
import OdmlModel.Model.PathName
import OdmlModel.Proofs.Path

namespace PathName
open PathTree

theorem setName_ok {sibs : List Str} {i : Nat} {oid : Str} {new : Option Str} {r : List Str}
    (h : setName sibs i oid new = .ok r) :
    (r = sibs ∧ ∀ cur, sibs[i]? = some cur → cur ≠ [] → stored oid new = cur) ∨
    (sibs.contains (stored oid new) = false ∧ r = sibs.set i (stored oid new)) := by
  cases hcur : sibs[i]? with
  | none => simp only [setName, hcur] at h; cases h; exact .inl ⟨rfl, nofun⟩
  | some cur =>
    simp only [setName, hcur] at h
    simp only [Option.some.injEq, forall_eq']
    by_cases h1 : new = some cur
    · rw [if_pos h1] at h
      cases h
      refine .inl ⟨rfl, fun hne => ?_⟩
      rw [h1, stored, falsy, if_neg (by simpa using hne)]; rfl
    · rw [if_neg h1] at h
      by_cases h2 : (falsy new && cur == stored oid new) = true
      · rw [if_pos h2] at h
        cases h
        exact .inl ⟨rfl, fun _ => (beq_iff_eq.1 (Bool.and_eq_true_iff.1 h2).2).symm⟩
      · rw [if_neg h2] at h
        by_cases h3 : sibs.contains (stored oid new) = true
        · rw [if_pos h3] at h; cases h
        · rw [if_neg h3] at h; cases h
          exact .inr ⟨Bool.eq_false_iff.2 h3, rfl⟩

theorem nodup_set {α : Type} {l : List α} {v : α} (i : Nat) (hd : l.Nodup) (hv : v ∉ l) :
    (l.set i v).Nodup := by
  induction l generalizing i with
  | nil => exact hd
  | cons n r ih =>
    rw [List.nodup_cons] at hd
    rw [List.mem_cons, not_or] at hv
    cases i with
    | zero => exact List.nodup_cons.2 ⟨hv.2, hd.2⟩
    | succ j =>
      refine List.nodup_cons.2 ⟨fun hm => ?_, ih j hd.2 hv.2⟩
      rcases List.mem_or_eq_of_mem_set hm with h | h
      · exact hd.1 h
      · exact hv.1 h.symm

theorem distinct_set (l : List Str) (i : Nat) (v : Str) (hd : distinct l = true)
    (hc : l.contains v = false) : distinct (l.set i v) = true := by
  rw [distinct_iff] at hd ⊢
  exact nodup_set i hd (by simpa using hc)

theorem all_plain_set (l : List Str) (i : Nat) (v : Str) (hl : l.all plainName = true)
    (hv : plainName v = true) : (l.set i v).all plainName = true := by
  rw [List.all_eq_true] at hl ⊢
  intro x hx
  rcases List.mem_or_eq_of_mem_set hx with h | h
  · exact hl x h
  · rw [h]; exact hv

end PathName
