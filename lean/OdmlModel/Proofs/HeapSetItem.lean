/-
Item assignment on a child list (`SmartList.__setitem__`) on a well-formed heap.
-/
import OdmlModel.Proofs.HeapOps

namespace Heap

/-- The heap after `p.sections[idx] = v` replaced `r`: both detached, then `v` attached. -/
def replaced (h : H) (p r v : Nat) (ls lp : List Nat) : H :=
  attach (detach (detachIf h v) p r) p v ls lp

/-- The model's three updates yield exactly that heap. -/
theorem setItem_heap_eq (g : H) {p r v : Nat} {f : Node → Node}
    (hf : ∀ n, f n = { n with secs := (f n).secs, props := (f n).props })
    (hvp : v ≠ p) (hvr : v ≠ r) (hrp : r ≠ p) :
    upd (upd (upd g v (fun n => { n with parent := some p })) r (fun n => { n with parent := none })) p f =
    attach (detach g p r) p v (f (g.node p)).secs (f (g.node p)).props := by
  refine H.ext' (fun j => ?_) rfl
  simp only [attach, detach, upd_node]
  by_cases h1 : j = v
  · subst h1; simp [hvp, hvr]
  · by_cases h2 : j = p
    · subst h2; rw [hf]; simp [h1, hrp.symm]
    · by_cases h3 : j = r
      · subst h3; simp [h1, h2]
      · simp [h1, h2, h3]

theorem setItem_spec {h : H} (w : WF h) {p v : Nat} (secList : Bool) (key : Int)
    (hps : p < h.size) (hvs : v < h.size) : Safe h (setItem h p secList key v) := by
  unfold setItem
  dsimp only
  generalize hl : (if secList = true then (h.node p).secs else (h.node p).props) = lst
  generalize hK : (if secList = true then Kind.sec else Kind.prop) = K
  refine .ite (fun _ => .refuse) fun hp0 => .ite (fun _ => .refuse) fun hvk => ?_
  cases hidx : pyIndex lst.length key with
  | none => exact .refuse
  | some idx =>
  dsimp only
  cases hr : lst[idx]? with
  | none => exact .refuse
  | some r =>
  dsimp only
  refine .ite (fun _ => .ok w) fun hrv => .ite (fun _ => .refuse) fun hclash =>
    .ite (fun _ => .refuse) fun hcyc => ?_
  split
  · rename_i heq; cases (removeChild_parent_detachIf w v).symm.trans heq
  rename_i h1 heq
  cases (removeChild_parent_detachIf w v).symm.trans heq
  refine .ok ?_
  -- the addressed list holds the children of kind `K`
  have hKv : (h.node v).kind = K := Decidable.not_not.mp hvk
  have hlst : (∀ c, c ∈ lst ↔ (h.node c).parent = some p ∧ (h.node c).kind = K) ∧ lst.Nodup := by
    cases secList
    · subst hl hK; exact ⟨w.memP p, w.nodupP p⟩
    · subst hl hK; exact ⟨w.memS p, w.nodupS p⟩
  have hvr : v ≠ r := fun e => hrv e.symm
  have hrpar := (hlst.1 r).mp (List.mem_of_getElem? hr)
  have hrp : r ≠ p := (w.parent_ne hrpar.1).symm
  have hanc : ¬ Anc h v p := by
    rw [hrpar.1] at hcyc
    exact meetsUp_false w (Bool.not_eq_true _ ▸ hcyc)
  have hvp : v ≠ p := ne_of_not_anc hanc
  have hnc : ∀ c ∈ lst, c ≠ r → (h.node c).name ≠ (h.node v).name := by
    intro c hc hcr hn
    apply hclash
    rw [List.any_eq_true]
    exact ⟨c, hc, by simp [hcr, hn]⟩
  have hvnot : (h.node v).parent ≠ some p := fun hpv =>
    hnc v ((hlst.1 v).mpr ⟨hpv, hKv⟩) hvr rfl
  have hg1r : ((detachIf h v).node r).parent = some p := by
    rw [detachIf_parent, if_neg (Ne.symm hvr), hrpar.1]
  rw [hg1r, setItem_heap_eq (detachIf h v) (by intro n; split <;> rfl) hvp hvr hrp]
  refine wf_attach (wf_detach (wf_detachIf w v) hg1r) ?_ ?_ ?_ ?_
    (fun ha => hanc (.of_detachIf (.of_detach ha))) ?_ ?_ ?_ ?_ ?_
  · rw [detach_parent, if_neg hvr, detachIf_parent, if_pos rfl]
  · rw [detach_kind, detachIf_kind, hKv, ← hK]; split <;> decide
  · intro _ e
    rw [detach_kind, detachIf_kind] at e
    simp [e] at hp0
  · rw [detach_kind, detachIf_kind, detach_kind, detachIf_kind, hKv, ← hK]
    intro e
    cases secList
    · cases hkp : (h.node p).kind <;> simp_all
    · simp at e
  · rwa [detach_size, detachIf_size]
  · rwa [detach_size, detachIf_size]
  · intro c hc hkc
    simp only [detach_parent, detach_kind, detach_name, detachIf_parent, detachIf_kind,
      detachIf_name] at hc hkc ⊢
    split at hc
    · cases hc
    · rename_i hcr
      split at hc
      · cases hc
      · exact hnc c ((hlst.1 c).mpr ⟨hc, hkc.trans hKv⟩) hcr
  · simp only [detach_kind, detachIf_kind, hKv, detach_secs, detachIf_secs, if_neg hvnot, if_true]
    cases secList <;> simp only [Bool.false_eq_true, ↓reduceIte] at hl hK ⊢ <;> subst hl hK
    · rw [if_neg (by decide), List.erase_of_not_mem fun hm => by
        have := ((w.memS p r).mp hm).2; rw [hrpar.2] at this; cases this]
    · rw [if_pos rfl]; exact setAt_perm hr
  · simp only [detach_kind, detachIf_kind, hKv, detach_props, detachIf_props, if_neg hvnot, if_true]
    cases secList <;> simp only [Bool.false_eq_true, ↓reduceIte] at hl hK ⊢ <;> subst hl hK
    · rw [if_pos rfl]; exact setAt_perm hr
    · rw [if_neg (by decide), List.erase_of_not_mem fun hm => by
        have := ((w.memP p r).mp hm).2; rw [hrpar.2] at this; cases this]
end Heap
