/-
Termination measure of M-Loader (C18: "no call blocks forever").

`phi1` = remaining structural work: every frame carries the cost of everything it can still
cause (a `_load` of `u` costs `body u` = 2 + Σ over its includes of (one `deferred_load` step +
a possibly spawned loader thread + one `load`)); operations of the caller's program that have
not begun carry the cost of their first frame.  `phi2` = position of the `load` frames in the
cycle  load -(loading set)-> join -> pop -> load  (the only transitions that leave `phi1`
unchanged).  `mu = 4 * phi1² + phi2` strictly decreases with every step of an enabled thread.
Then schedules (`effSteps`) and what a run keeps (`trace`).
-/
import OdmlModel.Proofs.Loader

namespace Loader

def bodyF (g : Url → Res) : Nat → Url → Nat
  | 0, _ => 1
  | n + 1, u =>
    match g u with
    | .doc incs => 2 + (incs.map fun v => 3 + 2 * bodyF g n v).sum
    | _ => 1

/-- Cost of one execution of `_load(u)`. -/
def body (g : Url → Res) (rank : Url → Nat) (u : Url) : Nat := bodyF g (rank u + 1) u

/-- Cost of resolving one include `u`: the `deferred_load` step, the loader thread it may start,
    and the `load`. -/
def cost (g : Url → Res) (rank : Url → Nat) (u : Url) : Nat := 3 + 2 * body g rank u

def todoW (g : Url → Res) (rank : Url → Nat) (todo : List Url) : Nat := (todo.map (cost g rank)).sum

/-- Remaining structural work of a frame.  `defer`, `clear`: this step and what it leaves (a thread
    `start k`, a `load k`); `fin .. true`: the `load` frame above pays for the head include. -/
def w (g : Url → Res) (rank : Url → Nat) : Frame → Nat
  | .start k => 1 + body g rank k.url
  | .load k => 1 + body g rank k.url
  | .join k _ => 1 + body g rank k.url
  | .pop k => 1 + body g rank k.url
  | .fin _ todo _ _ false => 2 + todoW g rank todo
  | .fin _ todo _ _ true => 2 + todoW g rank todo.tail
  | .pub _ _ => 1
  | .defer k => 2 + body g rank k.url
  | .clear k => 2 + body g rank k.url

/-- Position in the cycle load -> join -> pop -> load. -/
def c2 (sh : Shared) : Frame → Nat
  | .load k => if (sh.loading k).isSome then 3 else 0
  | .join _ _ => 2
  | .pop _ => 1
  | _ => 0

def wop (g : Url → Res) (rank : Url → Nat) : Op → Nat
  | .load k => w g rank (.load k)
  | .deferred k => w g rank (.defer k)
  | .refresh k => w g rank (.clear k)

def sumF (c : Frame → Nat) (st : List Frame) : Nat := (st.map c).sum

def thrF (c : Frame → Nat) (ts : List Thr) : Nat := (ts.map fun th => sumF c th.stack).sum

def totF (c : Frame → Nat) (s : State) : Nat := sumF c s.caller + thrF c s.threads

def spawnF (c : Frame → Nat) : Option Key → Nat
  | none => 0
  | some k => c (.start k)

/-- Weight of what a transition puts in the place of the top frame. -/
def newW (c : Frame → Nat) : Next → Nat
  | .cont fs => sumF c fs
  | .ret _ => 0

@[simp] theorem sumF_nil (c : Frame → Nat) : sumF c [] = 0 := rfl
@[simp] theorem sumF_cons (c : Frame → Nat) (f : Frame) (st : List Frame) :
    sumF c (f :: st) = c f + sumF c st := by simp [sumF]
theorem sumF_append (c : Frame → Nat) (a b : List Frame) :
    sumF c (a ++ b) = sumF c a + sumF c b := by simp [sumF]
@[simp] theorem thrF_nil (c : Frame → Nat) : thrF c [] = 0 := rfl
@[simp] theorem thrF_cons (c : Frame → Nat) (th : Thr) (ts : List Thr) :
    thrF c (th :: ts) = sumF c th.stack + thrF c ts := by simp [thrF]
theorem thrF_append (c : Frame → Nat) (a b : List Thr) :
    thrF c (a ++ b) = thrF c a + thrF c b := by simp [thrF]

theorem sumF_le_mul {c c' : Frame → Nat} (m : Nat) (h : ∀ x, c' x ≤ m * c x) (st : List Frame) :
    sumF c' st ≤ m * sumF c st := by
  induction st with
  | nil => exact Nat.zero_le _
  | cons f st ih =>
    rw [sumF_cons, sumF_cons, Nat.mul_add]
    exact Nat.add_le_add (h f) ih

theorem thrF_le_mul {c c' : Frame → Nat} (m : Nat) (h : ∀ x, c' x ≤ m * c x) (ts : List Thr) :
    thrF c' ts ≤ m * thrF c ts := by
  induction ts with
  | nil => exact Nat.zero_le _
  | cons th ts ih =>
    rw [thrF_cons, thrF_cons, Nat.mul_add]
    exact Nat.add_le_add (sumF_le_mul m h th.stack) ih

section Sums
variable {c c' : Frame → Nat} (hm : ∀ x, c' x ≤ c x)
include hm

theorem sumF_mono (st : List Frame) : sumF c' st ≤ sumF c st :=
  Nat.one_mul (sumF c st) ▸ sumF_le_mul 1 (fun x => (Nat.one_mul (c x)).symm ▸ hm x) st

theorem thrF_mono (ts : List Thr) : thrF c' ts ≤ thrF c ts :=
  Nat.one_mul (thrF c ts) ▸ thrF_le_mul 1 (fun x => (Nat.one_mul (c x)).symm ▸ hm x) ts

theorem thrF_setThr (st : List Frame) :
    ∀ (ts : List Thr) (i : Nat) (th : Thr), ts[i]? = some th →
      thrF c' (setThr ts i st) + sumF c th.stack ≤ thrF c ts + sumF c' st := by
  intro ts
  induction ts with
  | nil => exact fun i th h => nomatch h
  | cons hd tl ih =>
    intro i th h
    cases i with
    | zero =>
      cases h
      have := thrF_mono hm tl
      simp only [setThr, thrF_cons]
      omega
    | succ i =>
      have := ih i th h
      have := sumF_mono hm hd.stack
      simp only [setThr, thrF_cons]
      omega

/-- Replacing the stack `f :: rest` of the picked thread by `st` and starting the thread `sp`,
    while the weight function shrinks from `c` to `c'`. -/
theorem tot_replace {s : State} (sh' : Shared) {t : Nat} {f : Frame} {rest : List Frame}
    (st : List Frame) (sp : Option Key) (hstk : stackOf s t = f :: rest) :
    totF c' (mid s sh' t st sp) + sumF c (f :: rest) ≤ totF c s + sumF c' st + spawnF c' sp := by
  have hsp : thrF c' (spawned sp) = spawnF c' sp := by cases sp <;> simp [spawned, spawnF]
  cases t with
  | zero =>
    have hc : s.caller = f :: rest := hstk
    have := thrF_mono hm s.threads
    simp only [totF, mid, threadsAfter, thrF_append, hsp, hc]
    omega
  | succ i =>
    obtain ⟨th, hth, e⟩ := stackOf_succ hstk
    have h1 := thrF_setThr hm st s.threads i th hth
    have h2 := sumF_mono hm s.caller
    rw [e] at h1
    simp only [totF, mid, threadsAfter, thrF_append, hsp]
    omega

end Sums

def progW (g : Url → Res) (rank : Url → Nat) (ops : List Op) : Nat := (ops.map (wop g rank)).sum

def phi1 (g : Url → Res) (rank : Url → Nat) (s : State) : Nat :=
  totF (w g rank) s + progW g rank (s.prog.drop 1)

def phi2 (s : State) : Nat := totF (c2 s.sh) s

/-- `(phi1, phi2)` lexicographically, in one number: `phi2 ≤ 3 * phi1` (`phi2_le`) and a step that lowers
    `phi1` may raise `phi2`, hence `4 (a+1)² > 4 a² + 3 a` (`mu_lt_of_phi1`). -/
def mu (g : Url → Res) (rank : Url → Nat) (s : State) : Nat :=
  4 * (phi1 g rank s * phi1 g rank s) + phi2 s

variable {g : Url → Res} {rank : Url → Nat} {cache0 : Url → CacheSt}

theorem bodyF_mono (h : Acyclic g rank) :
    ∀ n m u, rank u < n → rank u < m → bodyF g n u = bodyF g m u := by
  intro n
  induction n with
  | zero => intro m u hn; omega
  | succ n ih =>
    intro m u hn hm
    cases m with
    | zero => omega
    | succ m =>
      simp only [bodyF]
      cases hg : g u with
      | doc incs =>
        simp only
        congr 2
        apply List.map_congr_left
        intro v hv
        have := h u incs v hg hv
        rw [ih m v (by omega) (by omega)]
      | _ => rfl

theorem body_doc (h : Acyclic g rank) {u : Url} {incs : List Url} (hu : g u = .doc incs) :
    body g rank u = 2 + todoW g rank incs := by
  simp only [body, todoW, bodyF, hu]
  congr 2
  apply List.map_congr_left
  intro v hv
  have := h u incs v hu hv
  simp only [cost, body]
  rw [bodyF_mono h (rank u) (rank v + 1) v (by omega) (by omega)]

theorem body_pos (g : Url → Res) (rank : Url → Nat) (u : Url) : 1 ≤ body g rank u := by
  unfold body
  simp only [bodyF]
  split <;> omega

theorem w_pos (g : Url → Res) (rank : Url → Nat) (f : Frame) : 1 ≤ w g rank f := by
  cases f with
  | fin k todo acc id aw => cases aw <;> exact Nat.le_trans (by decide) (Nat.le_add_right 2 _)
  | pub => exact Nat.le_refl 1
  | defer => exact Nat.le_trans (by decide) (Nat.le_add_right 2 _)
  | clear => exact Nat.le_trans (by decide) (Nat.le_add_right 2 _)
  | _ => exact Nat.le_add_right 1 _

theorem c2_le (g : Url → Res) (rank : Url → Nat) (sh : Shared) (f : Frame) :
    c2 sh f ≤ 3 * w g rank f := by
  have h3 : c2 sh f ≤ 3 := by
    cases f with
    | load k => simp only [c2]; split <;> decide
    | _ => exact Nat.le_of_ble_eq_true rfl
  exact Nat.le_trans h3 (Nat.le_mul_of_pos_right 3 (w_pos g rank f))

theorem w_advance (g : Url → Res) (rank : Url → Nat) (k : Key) (todo : List Url) (acc : List Tree)
    (id : Nat) : w g rank (advance k todo acc id) ≤ 2 + todoW g rank todo := by
  cases todo <;> simp [advance, w, todoW]

theorem phi2_le (g : Url → Res) (rank : Url → Nat) (s : State) : phi2 s ≤ 3 * phi1 g rank s := by
  have := sumF_le_mul 3 (c2_le g rank s.sh) s.caller
  have := thrF_le_mul 3 (c2_le g rank s.sh) s.threads
  simp only [phi2, phi1, totF]
  omega

theorem mu_lt_of_phi1 {s s' : State} (h : phi1 g rank s' < phi1 g rank s) :
    mu g rank s' < mu g rank s := by
  unfold mu
  have h2 := phi2_le g rank s'
  generalize phi1 g rank s' = a at *
  generalize phi1 g rank s = b at *
  have h3 : (a + 1) * (a + 1) ≤ b * b := Nat.mul_le_mul h h
  have h4 : (a + 1) * (a + 1) = a * a + 2 * a + 1 := by
    simp only [Nat.add_mul, Nat.mul_add, Nat.mul_one, Nat.one_mul]; omega
  omega

theorem mu_lt_of_phi2 {s s' : State} (h1 : phi1 g rank s' ≤ phi1 g rank s) (h2 : phi2 s' < phi2 s) :
    mu g rank s' < mu g rank s := by
  unfold mu
  have := Nat.mul_le_mul h1 h1
  omega

/-- Local decrease: either the structural work of the picked stack (plus a started thread)
    strictly decreases, or it stays and the frame moves on in the load/join/pop cycle while no
    frame anywhere moves back. -/
theorem Top.dec {sh sh' : Shared} {n : Nat} {f : Frame} {nx : Next} {sp : Option Key}
    (hacy : Acyclic g rank) (h : Top g sh n f sh' nx sp) (hf : ¬ IsAwait f) :
    newW (w g rank) nx + spawnF (w g rank) sp < w g rank f ∨
    (sp = none ∧ newW (w g rank) nx = w g rank f ∧ newW (c2 sh') nx < c2 sh f ∧
      ∀ x, c2 sh' x ≤ c2 sh x) := by
  have hb : ∀ {k}, Begins sh f k → w g rank f = 1 + body g rank k.url := by
    intro k hb
    rcases hb with rfl | ⟨rfl, _⟩ <;> rfl
  cases h
  case wait hl hlg => exact .inr ⟨rfl, rfl, by simp [newW, c2, hlg], fun x => Nat.le_refl _⟩
  case join => exact .inr ⟨rfl, rfl, by simp [newW, c2], fun x => Nat.le_refl _⟩
  case pop =>
    rename_i k
    refine .inr ⟨rfl, rfl, by simp [newW, c2], fun x => ?_⟩
    cases x with
    | load k' =>
      simp only [c2]
      by_cases hkk : k' = k
      · subst hkk; simp
      · simp only [upd_other _ _ _ _ hkk]; exact Nat.le_refl _
    | _ => exact Nat.le_refl _
  case await => exact absurd trivial hf
  case doc hg hb' =>
    have := w_advance g rank ‹_› ‹_› [] sh.nextId
    left
    rw [hb hb', body_doc hacy hg]
    simp only [newW, spawnF, sumF_cons, sumF_nil]
    omega
  case garbage hg ht hb' =>
    have := body_pos g rank ‹Key›.url
    left
    rw [hb hb']
    simp only [newW, spawnF, sumF_cons, sumF_nil, w]
    omega
  case fails => exact .inl (w_pos g rank _)
  case hit => exact .inl (w_pos g rank _)
  case dup => exact .inl (w_pos g rank _)
  case pub => exact .inl (w_pos g rank _)
  case known => exact .inl (w_pos g rank _)
  all_goals
    left
    simp only [newW, spawnF, sumF_cons, sumF_nil, w, todoW, cost, tkey, advance, List.map_cons, List.sum_cons,
      List.tail_cons]
    omega

theorem Applied.weight {nx : Next} {rest st : List Frame} {b : Option Val} (ha : Applied nx rest st b) :
    sumF (w g rank) st ≤ newW (w g rank) nx + sumF (w g rank) rest := by
  cases ha with
  | cont => simp [newW, sumF_append]
  | exit => simp
  | deliver =>
    rename_i v k u todo acc id r
    have := w_advance g rank k todo (v.content :: acc) id
    have hw : w g rank (.fin k (u :: todo) acc id true) = 2 + todoW g rank todo := rfl
    simp only [newW, sumF_cons, hw]
    omega

theorem phi1_opStack (sh : Shared) (ops : List Op) (results : List Result) (threads : List Thr) :
    phi1 g rank ⟨sh, opStack ops, ops, results, threads⟩ = thrF (w g rank) threads + progW g rank ops := by
  rcases ops with _ | ⟨o, ops⟩
  · exact Nat.zero_add _
  · have : w g rank (opFrame o) = wop g rank o := by cases o <;> rfl
    simp only [phi1, totF, opStack, progW, List.head?_cons, Option.map_some, Option.toList_some, sumF_cons,
      sumF_nil, List.drop_succ_cons, List.drop_zero, List.map_cons, List.sum_cons, this]
    omega

theorem finishOp_phi1 {m : State} {op : Op} {ops : List Op} (hp : m.prog = op :: ops) (v : Val) :
    phi1 g rank (finishOp m v) ≤ phi1 g rank m := by
  obtain ⟨b, e⟩ := finishOp_eq hp v
  rw [e, phi1_opStack]
  simp [phi1, totF, hp]

theorem step_dec (hacy : Acyclic g rank) {s : State} (hi : Inv g rank cache0 s) (t : Nat)
    (hen : enabled s t = true) : mu g rank (step g s t) < mu g rank s := by
  -- a returning transition lowers `phi1`: that pays for the frame `finishOp` pushes (it may raise `phi2`)
  have hmid : ∀ {f rest sh' nx sp st b}, stackOf s t = f :: rest →
      Top g s.sh (s.threads.length + 1) f sh' nx sp → Applied nx rest st b →
      mu g rank (mid s sh' t st sp) < mu g rank s ∧
      ((∀ fs, nx ≠ .cont fs) → phi1 g rank (mid s sh' t st sp) < phi1 g rank s) := by
    intro f rest sh' nx sp st b hstk h ha
    have hrepl := tot_replace (c := w g rank) (fun _ => Nat.le_refl _) sh' st sp hstk
    have hwt := ha.weight (g := g) (rank := rank)
    rcases h.dec hacy ((hi.picked hstk).2.2 f rfl) with hlt | ⟨rfl, hweq, hclt, hmono⟩
    · have : phi1 g rank (mid s sh' t st sp) < phi1 g rank s := by
        simp only [phi1, mid_prog, sumF_cons] at hrepl ⊢
        omega
      exact ⟨mu_lt_of_phi1 this, fun _ => this⟩
    · cases ha with
      | cont =>
        rename_i fs
        have hrepl2 := tot_replace hmono sh' (fs ++ rest) none hstk
        have := sumF_mono hmono rest
        simp only [newW] at hweq hclt
        simp only [spawnF, sumF_append, sumF_cons] at hrepl hrepl2
        exact ⟨mu_lt_of_phi2 (by simp only [phi1, mid_prog]; omega) (by simp only [phi2, mid_sh]; omega),
          fun hne => absurd rfl (hne fs)⟩
      | _ => have := w_pos g rank f; simp [newW] at hweq; omega
  refine hi.step_cases t (P := fun s' => mu g rank s' < mu g rank s) (fun h => by simp [hen] at h)
    (fun f rest sh' nx sp st b hstk h ha _ => (hmid hstk h ha).1) ?_
  intro f sh' v sp op ops ht hc hp _ h
  subst ht
  have h1 := (hmid hc h .exit).2 nofun
  have h2 := finishOp_phi1 (g := g) (rank := rank) (m := mid s sh' 0 [] sp) hp v
  exact mu_lt_of_phi1 (by omega)

/-- Number of effective steps (picks of an enabled thread) of a schedule. -/
def effSteps (g : Url → Res) (s : State) : List Nat → Nat
  | [] => 0
  | t :: ts => (if enabled s t then 1 else 0) + effSteps g (step g s t) ts

theorem step_not_enabled (g : Url → Res) {s : State} {t : Nat} (hen : enabled s t = false) :
    step g s t = s := by
  unfold step
  simp [hen]

theorem effSteps_bound (hacy : Acyclic g rank) (sched : List Nat) :
    ∀ s, Inv g rank cache0 s → effSteps g s sched + mu g rank (runSched g s sched) ≤ mu g rank s := by
  induction sched with
  | nil => intro s _; simp [effSteps, runSched]
  | cons t ts ih =>
    intro s hi
    have := ih (step g s t) (step_inv hacy hi t)
    simp only [effSteps, runSched]
    cases hen : enabled s t with
    | true => have := step_dec hacy hi t hen; simp only [if_true]; omega
    | false => rw [step_not_enabled g hen] at this ⊢; simpa using this

theorem mu_init (g : Url → Res) (rank : Url → Nat) (cache0 : Url → CacheSt) (prog : List Op) :
    mu g rank (init cache0 prog) = 4 * (progW g rank prog * progW g rank prog) := by
  obtain ⟨b, e⟩ := init_eq cache0 prog
  have h2 : phi2 (init cache0 prog) = 0 := by
    rw [e]
    rcases prog with _ | ⟨o, _⟩
    · rfl
    · cases o <;> rfl
  rw [mu, h2, e, phi1_opStack]
  simp

theorem step_mu_le (hacy : Acyclic g rank) {s : State} (hi : Inv g rank cache0 s) (t : Nat) :
    mu g rank (step g s t) ≤ mu g rank s := by
  cases hen : enabled s t with
  | true => exact Nat.le_of_lt (step_dec hacy hi t hen)
  | false => rw [step_not_enabled g hen]; exact Nat.le_refl _

theorem runSched_append (g : Url → Res) (l : List Nat) (t : Nat) :
    ∀ s, runSched g s (l ++ [t]) = step g (runSched g s l) t := by
  induction l with
  | nil => intro s; rfl
  | cons a l ih => intro s; exact ih _

theorem allDone_not_enabled {s : State} (hd : allDone s = true) (t : Nat) : enabled s t = false := by
  obtain ⟨hc, _, hth⟩ := allDone_iff.1 hd
  cases t with
  | zero => simp [enabled, stackOf, hc]
  | succ i =>
    cases hi : s.threads[i]? with
    | none => simp [enabled, stackOf, hi]
    | some th => simp [enabled, stackOf, hi, hth th (List.mem_of_getElem? hi)]

/-- The operations completed so far (oldest first) followed by the rest of the program. -/
def trace (s : State) : List Op := (s.results.reverse.map fun r => r.op) ++ s.prog

theorem startOp_trace (s : State) : (startOp s).results = s.results ∧ (startOp s).prog = s.prog := by
  unfold startOp
  split <;> exact ⟨rfl, rfl⟩

theorem finishOp_trace (s : State) (v : Val) : trace (finishOp s v) = trace s := by
  unfold finishOp
  cases hp : s.prog with
  | nil => rfl
  | cons op rest => simp [trace, (startOp_trace _).1, (startOp_trace _).2, hp]

theorem step_trace (g : Url → Res) (s : State) (t : Nat) : trace (step g s t) = trace s := by
  exact step_cases g s t (P := fun s' => trace s' = trace s) (fun _ => rfl) (fun _ _ _ _ _ _ _ _ => rfl)
    (fun _ _ _ _ _ _ _ _ _ _ _ => rfl) fun _ _ _ _ _ _ _ => finishOp_trace _ _

theorem runSched_trace (g : Url → Res) (sched : List Nat) :
    ∀ s, trace (runSched g s sched) = trace s := by
  induction sched with
  | nil => intro s; rfl
  | cons t ts ih => intro s; simp only [runSched]; rw [ih, step_trace]

theorem init_trace (cache0 : Url → CacheSt) (prog : List Op) : trace (init cache0 prog) = prog := by
  simp [trace, init, (startOp_trace _).1, (startOp_trace _).2]

end Loader
