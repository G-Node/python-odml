/-
XML round trip: one Property element.  `prop_keys` classifies the regenerated key table once (by
the kernel alone, `decide +kernel`), `prop_leafKey` gives every key its `LeafKey`, `value_elem`
the `<value>` text, and `createProp_of` is `odml.Property(**arguments)` on the collected arguments.
-/
import OdmlModel.Proofs.XmlRoundVal

namespace Xml
open Py Py.Csv

def propArg (vs : List Str) (p : PropT) (k : String) : Option ArgV :=
  match k with
  | "id" => some (textArg (shown p.id))
  | "name" => some (textArg (shown (p.name <|> p.id)))
  | "value" => some (valsArg (valueText p) vs)
  | "unit" => p.unit.map textArg
  | "definition" => p.definition.map textArg
  | "dependency" => p.dependency.map textArg
  | "dependencyvalue" => p.dependencyValue.map textArg
  | "uncertainty" => (p.uncertainty.map (·.text)).map textArg
  | "reference" => p.reference.map textArg
  | "type" => p.dtype.map textArg
  | "value_origin" => p.valueOrigin.map textArg
  | "val_cardinality" => p.valCard.map cardArg
  | _ => none

def propSpec (vs : List Str) (p : PropT) : KeySpec :=
  { arg := propArg vs p, secs := fun _ => [], props := fun _ => [] }

theorem prop_keys : ∀ k ∈ (fmtOf .prop).keys,
    (k = "value" → valsKeyOK .prop k = true) ∧
    (k = "val_cardinality" → cardKeyOK .prop k = true) ∧
    (k ≠ "value" → k ≠ "val_cardinality" → textKeyOK .prop k = true) := by
  decide +kernel

theorem prop_leafKey {p : PropT} {vs : List Str}
    (hv : (valueText p).isEmpty = true ∨
      ((strip (valueText p)).isEmpty = false ∧ fromCsv (valueText p) = .ok vs))
    {k : String} (hk : k ∈ (fmtOf .prop).keys) :
    LeafKey .prop k (propKey p k) (propArg vs p k) := by
  obtain ⟨hvals, hcard, htext⟩ := prop_keys k hk
  by_cases h1 : k = "value"
  · subst h1; rw [propKey, propArg]; exact .vals (hvals rfl) _ vs hv
  by_cases h2 : k = "val_cardinality"
  · subst h2; rw [propKey, propArg]; exact .optCard (hcard rfl) _
  have ht := htext h1 h2
  unfold propKey
  split
  · rw [propArg]; exact .text ht _
  · rw [propArg]; exact .text ht _
  · exact absurd rfl h1
  · rw [propArg]; exact .optText ht _
  · rw [propArg]; exact .optText ht _
  · rw [propArg]; exact .optText ht _
  · rw [propArg]; exact .optText ht _
  · rw [propArg]; exact .optText ht _
  · rw [propArg]; exact .optText ht _
  · rw [propArg]; exact .optText ht _
  · rw [propArg]; exact .optText ht _
  · exact absurd rfl h2
  · -- the wildcard equation of `propArg` asks for the disequalities `split` left in the context
    rw [propArg]
    · exact .absent
    all_goals assumption

theorem dtype_facts (lib : TokLib) (p : PropT) (hwf : propWf lib p = true) (hlow : propLower p = true) :
    normText p.dtype = p.dtype ∧ (if validType p.dtype then p.dtype.map lower else none) = p.dtype := by
  cases hd : p.dtype with
  | none => simp [normText, validType]
  | some d =>
    obtain ⟨h1, h2, h3, _⟩ := propWf_some hwf hd
    simp only [propLower, hd, beq_iff_eq] at hlow
    simp [normText, h1, h2, h3, hlow]

theorem createProp_of (lib : TokLib) (a : Args) (p : PropT) (vs : List Str)
    (hwf : propWf lib p = true) (hrepr : propRepr p = true) (hlow : propLower p = true)
    (hvs : (valueText p = [] ∧ p.values = []) ∨
      ((strip (valueText p)).isEmpty = false ∧ fromCsv (valueText p) = .ok vs ∧
        loadValues lib p.dtype vs = .ok (p.dtype, p.values.map trimVal)))
    (h : ∀ k ∈ (fmtOf .prop).keys, a.lookup ((fmtOf .prop).pyName k) = propArg vs p k) :
    createProp lib a = .ok (trimProp p) := by
  obtain ⟨hid, hname, hcard⟩ := propWf_base hwf
  simp only [propRepr, Bool.and_eq_true] at hrepr
  obtain ⟨⟨hnr, _⟩, hur⟩ := hrepr
  obtain ⟨hd1, hd2⟩ := dtype_facts lib p hwf hlow
  -- `h` over the key table: one look-up under each Python name
  simp only [fmtOf, Fmt.keys, Fmt.pyName, Gen.Format.propertyArgs, Gen.Format.propertyMap, List.map,
    List.forall_mem_cons, List.lookup, String.reduceBEq, Option.getD_some, Option.getD_none] at h
  unfold createProp
  simp only [getText_eq, loadCard_eq, h]
  -- by its equations, not by evaluating the `match` on a `String` literal
  repeat rw [propArg]
  simp only [argText_textArg, argText_map, argCard_map _ hcard, hd1, hd2,
    idOk_facts p.id hid, name_facts p.name p.id hname hnr, unc_facts p.uncertainty hur]
  rcases hvs with ⟨he, hv⟩ | ⟨hs, _, hv⟩
  · simp only [valsArg, he, List.isEmpty_nil, if_true, loadValues]
    simp only [trimProp, hd1, hv, List.map_nil]
  · simp only [valsArg, ne_nil_of_strip hs, hv, Bool.false_eq_true, if_false]
    simp only [trimProp, hd1]

theorem valueText_nil (p : PropT) (h : p.values = []) : valueText p = [] := by
  simp [valueText, h, toCsv_nil]

theorem value_elem (lib : TokLib) (p : PropT)
    (hwf : propWf lib p = true) (hrepr : propRepr p = true) (hlow : propLower p = true) :
    ∃ vs, (valueText p = [] ∧ p.values = []) ∨
      ((strip (valueText p)).isEmpty = false ∧ fromCsv (valueText p) = .ok vs ∧
        loadValues lib p.dtype vs = .ok (p.dtype, p.values.map trimVal)) := by
  by_cases hvals : p.values = []
  · exact ⟨[], .inl ⟨valueText_nil p hvals, hvals⟩⟩
  · cases hd : p.dtype with
    | none => exact absurd (propWf_none hwf hd) hvals
    | some d =>
      obtain ⟨hval, _, _, hok⟩ := propWf_some hwf hd
      simp only [propLower, hd, beq_iff_eq] at hlow
      simp only [propRepr, Bool.and_eq_true] at hrepr
      obtain ⟨vs, h1, h2, h3⟩ := value_facts lib p d hd hval hlow hok hrepr.1.2 hvals
      exact ⟨vs, .inr ⟨h1, h2, h3⟩⟩

end Xml
