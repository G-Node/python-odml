/-
Helper lemmas for C10 (RDF export / import); the property theorems are in `Props/C10.lean`.

The exported graph is, up to order, the concatenation of `blocks`, the own triples of each
Document, Section and Property (`export_flat`).  A block is built by table-driven steps; `Emitted`
says which triples a step can emit.  Ids are unique (`WFDocs`), so a lookup at the node of an object
is answered by its own block alone (`flat_at`); this gives the `Facts` on which the reader is run.
-/
import OdmlModel.Model.Rdf
import OdmlModel.Proofs.Str

namespace Rdf
open List

theorem flatMap_perm_left {α β} {f g : α → List β} :
    ∀ (l : List α), (∀ a ∈ l, (f a).Perm (g a)) → (l.flatMap f).Perm (l.flatMap g)
  | [], _ => by simp
  | a :: l, h => by
    simp only [flatMap_cons]
    exact (h a (by simp)).append (flatMap_perm_left l (fun b hb => h b (by simp [hb])))

theorem flatMap_append_perm {α β} (f g : α → List β) :
    ∀ (l : List α), (l.flatMap (fun a => f a ++ g a)).Perm (l.flatMap f ++ l.flatMap g)
  | [] => Perm.refl _
  | a :: l => by
    simp only [flatMap_cons, append_assoc]
    exact (((flatMap_append_perm f g l).append_left _).append_left _).trans
      (.append_left _ (perm_append_comm_assoc ..))

theorem flatMap_single {α β γ} {f : α → List β} {l : List α} {a : α} (key : α → γ)
    (nd : (l.map key).Nodup) (ha : a ∈ l) (h : ∀ b ∈ l, key b ≠ key a → f b = []) :
    l.flatMap f = f a := by
  obtain ⟨s, t, rfl⟩ := append_of_mem ha
  rw [map_append, map_cons] at nd
  have nd' := nodup_append.mp nd
  rw [flatMap_append, flatMap_cons,
    flatMap_eq_nil_iff.mpr fun b hb => h b (by simp [hb]) fun e =>
      nd'.2.2 _ (mem_map_of_mem hb) _ mem_cons_self e,
    flatMap_eq_nil_iff.mpr fun b hb => h b (by simp [hb]) fun e =>
      (nodup_cons.mp nd'.2.1).1 (e ▸ mem_map_of_mem hb),
    nil_append, append_nil]

theorem objects_append (g h : Graph) (s p : Term) :
    objects (g ++ h) s p = objects g s p ++ objects h s p := by
  simp [objects]

theorem objects_nil (s p : Term) : objects [] s p = [] := rfl

theorem objects_cons (t : Triple) (g : Graph) (s p : Term) :
    objects (t :: g) s p = (if t.s = s ∧ t.p = p then [t.o] else []) ++ objects g s p := by
  by_cases h : t.s = s ∧ t.p = p
  · simp [objects, h.1, h.2]
  · have : (t.s == s && t.p == p) = false := by
      simp only [Bool.and_eq_false_imp, beq_iff_eq, beq_eq_false_iff_ne]
      intro e; exact fun e2 => h ⟨e, e2⟩
    simp [objects, this, h]

theorem objects_headless {t : Triple} {g : Graph} {n q : Term} (h : ¬ (t.s = n ∧ t.p = q)) :
    objects (t :: g) n q = objects g n q := by
  rw [objects_cons, if_neg h]; rfl

theorem objects_flatMap {α} (l : List α) (f : α → Graph) (s p : Term) :
    objects (l.flatMap f) s p = l.flatMap (fun a => objects (f a) s p) := by
  induction l with
  | nil => rfl
  | cons a l ih => simp [flatMap_cons, objects_append, ih]

theorem objects_perm {g g' : Graph} (h : g'.Perm g) (s p : Term) :
    (objects g' s p).Perm (objects g s p) :=
  (h.filter _).map _

theorem objects_eq_nil {g : Graph} {s p : Term} (h : ∀ t ∈ g, ¬ (t.s = s ∧ t.p = p)) :
    objects g s p = [] := by
  induction g with
  | nil => rfl
  | cons t g ih =>
    rw [objects_cons, if_neg (h t (by simp)), ih (fun u hu => h u (by simp [hu]))]; rfl

theorem seqPairs_append (g h : Graph) (s : Term) :
    seqPairs (g ++ h) s = seqPairs g s ++ seqPairs h s := by
  simp [seqPairs]

theorem seqPairs_flatMap {α} (l : List α) (f : α → Graph) (s : Term) :
    seqPairs (l.flatMap f) s = l.flatMap (fun a => seqPairs (f a) s) := by
  induction l with
  | nil => rfl
  | cons a l ih => simp [flatMap_cons, seqPairs_append, ih]

theorem seqPairs_perm {g g' : Graph} (h : g'.Perm g) (s : Term) :
    (seqPairs g' s).Perm (seqPairs g s) :=
  (h.filter _).filterMap _

theorem seqPairs_eq_nil {g : Graph} {s : Term} (h : ∀ t ∈ g, t.s = s → liIndex t.p = none) :
    seqPairs g s = [] := by
  induction g with
  | nil => rfl
  | cons t g ih =>
    have ih' := ih (fun u hu => h u (by simp [hu]))
    unfold seqPairs at ih' ⊢
    by_cases e : t.s = s
    · have := h t (by simp) e
      simp [e, this, ih']
    · have : (t.s == s) = false := by simpa using e
      simp [this, ih']

/-- Pointwise relation of two lists (core has no `Forall₂`). -/
inductive All2 {α β} (R : α → β → Prop) : List α → List β → Prop
  | nil : All2 R [] []
  | cons {a b as bs} : R a b → All2 R as bs → All2 R (a :: as) (b :: bs)

theorem All2.imp_mem {α β} {R S : α → β → Prop} {l : List α} {m : List β} (h : All2 R l m)
    (hi : ∀ a ∈ l, ∀ b, R a b → S a b) : All2 S l m := by
  induction h with
  | nil => exact .nil
  | cons hab _ ih =>
    exact .cons (hi _ mem_cons_self _ hab) (ih fun a ha => hi a (mem_cons_of_mem _ ha))

theorem mapE_cons_ok {α β ε} {f : α → Except ε β} {a : α} {l : List α} {r : List β} :
    mapE f (a :: l) = .ok r ↔ ∃ b bs, f a = .ok b ∧ mapE f l = .ok bs ∧ r = b :: bs := by
  rw [mapE]
  cases f a <;> cases mapE f l <;> simp [eq_comm]

theorem mapE_perm {α β ε} {f : α → Except ε β} {l₁ l₂ : List α} (h : l₁.Perm l₂) :
    ∀ r₂, mapE f l₂ = .ok r₂ → ∃ r₁, mapE f l₁ = .ok r₁ ∧ r₁.Perm r₂ := by
  induction h with
  | nil => exact fun r h => ⟨r, h, Perm.refl _⟩
  | cons a _ ih =>
    intro r h
    obtain ⟨b, bs, hb, hbs, rfl⟩ := mapE_cons_ok.mp h
    obtain ⟨r₁, e₁, p₁⟩ := ih bs hbs
    exact ⟨b :: r₁, mapE_cons_ok.mpr ⟨b, r₁, hb, e₁, rfl⟩, p₁.cons b⟩
  | swap a b l =>
    intro r h
    obtain ⟨a', w, ha, hw, rfl⟩ := mapE_cons_ok.mp h
    obtain ⟨b', bs, hb, hl, rfl⟩ := mapE_cons_ok.mp hw
    exact ⟨_, mapE_cons_ok.mpr ⟨_, _, hb, mapE_cons_ok.mpr ⟨_, _, ha, hl, rfl⟩, rfl⟩, Perm.swap ..⟩
  | trans _ _ ih₁ ih₂ =>
    intro r h
    obtain ⟨r', e', p'⟩ := ih₂ r h
    obtain ⟨r'', e'', p''⟩ := ih₁ r' e'
    exact ⟨r'', e'', p''.trans p'⟩

theorem mapE_map_ok {α β γ ε} {f : α → Except ε β} {k : γ → α} {R : γ → β → Prop} :
    ∀ (l : List γ), (∀ c ∈ l, ∃ b, f (k c) = .ok b ∧ R c b) →
      ∃ bs, mapE f (l.map k) = .ok bs ∧ All2 R l bs
  | [], _ => ⟨[], rfl, All2.nil⟩
  | c :: l, h => by
    obtain ⟨b, hb, rb⟩ := h c (by simp)
    obtain ⟨bs, hbs, rbs⟩ := mapE_map_ok l (fun d hd => h d (by simp [hd]))
    exact ⟨b :: bs, mapE_cons_ok.mpr ⟨b, bs, hb, hbs, rfl⟩, All2.cons rb rbs⟩

theorem mapE_mem {α β ε} {f : α → Except ε β} : ∀ {l : List α} {r : List β}, mapE f l = .ok r →
    ∀ b ∈ r, ∃ a, f a = .ok b
  | [], _, h, b, hb => by cases h; cases hb
  | a :: l, r, h, b, hb => by
    obtain ⟨b', bs, hb', hbs, rfl⟩ := mapE_cons_ok.mp h
    rcases mem_cons.mp hb with rfl | hb
    · exact ⟨a, hb'⟩
    · exact mapE_mem hbs b hb

/-! A string literal is `String.ofList` of its characters, so `rw [String.toList_ofList]` turns
`"…".toList` into the list of characters, and the kernel accepts that at once; evaluating
`String.toList` makes it decode UTF-8 character by character.  Facts about the vocabulary are
therefore proved by rewriting the literals first. -/

theorem afterHash_append (pre rest : Str) (h : '#' ∉ pre) :
    afterHash (pre ++ '#' :: rest) = some rest := by
  induction pre with
  | nil => simp [afterHash]
  | cons c cs ih =>
    have hc : c ≠ '#' := fun e => h (by simp [e])
    have hcs : '#' ∉ cs := fun e => h (by simp [e])
    simp [afterHash, hc, ih hcs]

theorem afterHash_ns (id : Str) : afterHash (ns ++ id) = some id := by
  unfold ns
  rw [String.toList_ofList]
  rfl

theorem node_inj {a b : Str} (h : node a = node b) : a = b := by
  simp only [node, Term.iri.injEq] at h
  exact append_cancel_left h

theorem stripPrefix_append (p s : Str) : stripPrefix p (p ++ s) = some s := by
  induction p with
  | nil => cases s <;> rfl
  | cons c cs ih => simp [stripPrefix, ih]

theorem stripPrefix_eq_some : ∀ {p s r : Str}, stripPrefix p s = some r → s = p ++ r
  | [], _, _, h => by cases stripPrefix.eq_1 _ ▸ h; rfl
  | _ :: _, [], _, h => by simp [stripPrefix] at h
  | a :: p, b :: s, r, h => by
    simp only [stripPrefix] at h
    split at h
    · rename_i e
      rw [eq_of_beq e, stripPrefix_eq_some h, cons_append]
    · cases h

theorem isDigit_toDigits (n : Nat) : Py.isDigitStr (Py.natToDigits n) = true :=
  Py.isDigitStr_natToDigits n

theorem rdfNs_ne_ns (x y : Str) : rdfNs ++ x ≠ ns ++ y := by
  unfold rdfNs ns
  rw [String.toList_ofList, String.toList_ofList]
  simp

theorem rdfsNs_ne_ns (x y : Str) : rdfsNs ++ x ≠ ns ++ y := by
  unfold rdfsNs ns
  rw [String.toList_ofList, String.toList_ofList]
  simp

theorem rdfNs_ne_rdfsNs (x y : Str) : rdfNs ++ x ≠ rdfsNs ++ y := by
  unfold rdfNs rdfsNs
  rw [String.toList_ofList, String.toList_ofList]
  simp

theorem rdfType_ne_hasDocument : rdfType ≠ hasDocument :=
  fun e => rdfNs_ne_ns _ _ (Term.iri.inj e)

theorem rdfType_ne_subClassOf : rdfType ≠ rdfsSubClassOf :=
  fun e => rdfNs_ne_rdfsNs _ _ (Term.iri.inj e)

theorem node_ne_subClassOf (l : Str) : node l ≠ rdfsSubClassOf :=
  fun e => rdfsNs_ne_ns _ _ (Term.iri.inj e).symm

-- `hasFileName`, `hasDocument`, `hasTerminology` unfold to `node <local name>`
theorem hasFileName_ne_hasDocument : hasFileName ≠ hasDocument := by
  refine fun e => absurd (node_inj e) ?_
  rw [String.toList_ofList, String.toList_ofList]
  decide

theorem hasTerminology_ne_hasDocument : hasTerminology ≠ hasDocument := by
  refine fun e => absurd (node_inj e) ?_
  rw [String.toList_ofList, String.toList_ofList]
  decide

theorem liIndex_li (k : Nat) : liIndex (li k) = some (some k) := by
  rw [li, liIndex, stripPrefix_append]
  show (if Py.isDigitStr (Py.natToDigits k) = true then _ else _) = _
  rw [if_pos (Py.isDigitStr_natToDigits k), Py.natOfDigits_natToDigits]

theorem liIndex_eq_none {s : Str} (h : ∀ r, s ≠ liPrefix ++ r) : liIndex (.iri s) = none := by
  rw [liIndex]
  split
  · rename_i r e
    exact absurd (stripPrefix_eq_some e) (h r)
  · rfl

theorem liIndex_rdfType : liIndex rdfType = none := by
  refine liIndex_eq_none fun r e => ?_
  rw [liPrefix, append_assoc, String.toList_ofList] at e
  cases append_cancel_left e

theorem liIndex_subClassOf : liIndex rdfsSubClassOf = none :=
  liIndex_eq_none fun _ e => rdfNs_ne_rdfsNs _ _ ((append_assoc ..).symm.trans e.symm)

/-! `ownDoc`, `ownSec`, `saveProperty` are the triples the writer emits for one object itself: its
type, its set attributes, the links to its children, its value sequence. -/

def secLink (n pred : Term) (c : SecT) : Triple := ⟨n, pred, node c.id⟩
def propLink (n pred : Term) (p : PropT) : Triple := ⟨n, pred, node p.id⟩

def secStep (cfg : Cfg) (n : Term) (a : Attrs) (ps : List PropT) (ss : List SecT)
    (kp : String × String) : Graph :=
  if kp.1 == "id" then []
  else if kp.1 == "sections" then saveSecList cfg n (.iri kp.2.toList) ss
  else if kp.1 == "properties" then savePropList n (.iri kp.2.toList) ps
  else saveSecAttr n a kp

def ownSecStep (n : Term) (a : Attrs) (ps : List PropT) (ss : List SecT)
    (kp : String × String) : Graph :=
  if kp.1 == "id" then []
  else if kp.1 == "sections" then ss.map (secLink n (.iri kp.2.toList))
  else if kp.1 == "properties" then ps.map (propLink n (.iri kp.2.toList))
  else saveSecAttr n a kp

def ownSec (cfg : Cfg) : SecT → Graph
  | .mk id a ps ss =>
    sectionTypeTriples cfg (node id) a ++
      Gen.Format.sectionRdfMap.flatMap (ownSecStep (node id) a ps ss)

def docHead (d : DocT) : Graph :=
  [⟨node d.id, rdfType, .iri Gen.Format.documentRdfType.toList⟩, ⟨hub, hasDocument, node d.id⟩,
   ⟨node d.id, hasFileName, .lit (d.origin.getD noneStr) []⟩]

def docStep (cfg : Cfg) (d : DocT) (kp : String × String) : Graph :=
  if kp.1 == "id" then []
  else if kp.1 == "sections" then saveSecList cfg (node d.id) (.iri kp.2.toList) d.secs
  else saveDocAttr (node d.id) d.attrs kp

def ownDocStep (d : DocT) (kp : String × String) : Graph :=
  if kp.1 == "id" then []
  else if kp.1 == "sections" then d.secs.map (secLink (node d.id) (.iri kp.2.toList))
  else saveDocAttr (node d.id) d.attrs kp

def ownDoc (d : DocT) : Graph := docHead d ++ Gen.Format.documentRdfMap.flatMap (ownDocStep d)

def flatSecs (cfg : Cfg) (l : List SecT) : Graph :=
  l.flatMap (ownSec cfg) ++ l.flatMap (fun s => s.props.flatMap saveProperty)

def flatGraph (cfg : Cfg) (ds : List DocT) : Graph :=
  ds.flatMap ownDoc ++ flatSecs cfg (docSecs ds)

theorem saveSection_eq (cfg : Cfg) (id : Str) (a : Attrs) (ps : List PropT) (ss : List SecT) :
    saveSection cfg (.mk id a ps ss) =
      sectionTypeTriples cfg (node id) a ++
        Gen.Format.sectionRdfMap.flatMap (secStep cfg (node id) a ps ss) := by
  rw [saveSection]; rfl

theorem saveDocument_eq (cfg : Cfg) (d : DocT) :
    saveDocument cfg d = docHead d ++ Gen.Format.documentRdfMap.flatMap (docStep cfg d) := rfl

theorem perm_links {α} (h : α → Triple) (f : α → Graph) (l : List α) :
    (l.flatMap (fun a => h a :: f a)).Perm (l.map h ++ l.flatMap f) :=
  map_eq_flatMap ▸ flatMap_append_perm (fun a => [h a]) f l

theorem saveSecList_eq (cfg : Cfg) (n pred : Term) (ss : List SecT) :
    saveSecList cfg n pred ss = ss.flatMap (fun s => secLink n pred s :: saveSection cfg s) := by
  induction ss with
  | nil => rfl
  | cons s ss ih => rw [saveSecList, ih]; rfl

theorem saveSecList_perm (cfg : Cfg) (n pred : Term) (ss : List SecT) :
    (saveSecList cfg n pred ss).Perm (ss.map (secLink n pred) ++ ss.flatMap (saveSection cfg)) :=
  saveSecList_eq cfg n pred ss ▸ perm_links _ _ ss

theorem savePropList_perm (n pred : Term) (ps : List PropT) :
    (savePropList n pred ps).Perm (ps.map (propLink n pred) ++ ps.flatMap saveProperty) :=
  perm_links (propLink n pred) saveProperty ps

/-- Discharged by `decide` on the regenerated tables (`Props/C10.lean`). -/
structure KeysOK (tbl : List (String × String)) : Prop where
  keysNodup : (tbl.map (·.1)).Nodup
  predsNodup : (tbl.map (·.2)).Nodup

/-- The children's triples, emitted in the step of the table entry `key`. -/
def kids (key : String) (g : Graph) (kp : String × String) : Graph :=
  if kp.1 == key then g else []

theorem secStep_perm (cfg : Cfg) (n : Term) (a : Attrs) (ps : List PropT) (ss : List SecT)
    (kp : String × String) :
    (secStep cfg n a ps ss kp).Perm (ownSecStep n a ps ss kp ++
      (kids "sections" (ss.flatMap (saveSection cfg)) kp ++
        kids "properties" (ps.flatMap saveProperty) kp)) := by
  unfold secStep ownSecStep kids
  by_cases h1 : kp.1 = "id"
  · simp [h1]
  · by_cases h2 : kp.1 = "sections"
    · simp only [h2]
      simpa using saveSecList_perm cfg n (.iri kp.2.toList) ss
    · by_cases h3 : kp.1 = "properties"
      · simp only [h3]
        simpa using savePropList_perm n (.iri kp.2.toList) ps
      · simp [h1, h2, h3]

theorem docStep_perm (cfg : Cfg) (d : DocT) (kp : String × String) :
    (docStep cfg d kp).Perm
      (ownDocStep d kp ++ kids "sections" (d.secs.flatMap (saveSection cfg)) kp) := by
  unfold docStep ownDocStep kids
  by_cases h1 : kp.1 = "id"
  · simp [h1]
  · by_cases h2 : kp.1 = "sections"
    · simp only [h2]
      simpa using saveSecList_perm cfg (node d.id) (.iri kp.2.toList) d.secs
    · simp [h1, h2]

theorem kids_flat {tbl : List (String × String)} (ok : KeysOK tbl) {key pred : String}
    (h : (key, pred) ∈ tbl) (g : Graph) : tbl.flatMap (kids key g) = g := by
  rw [flatMap_single (·.1) ok.keysNodup h]
  · simp [kids]
  · intro b _ hb
    have : b.1 ≠ key := hb
    simp [kids, this]

theorem allSecsL_cons (s : SecT) (r : List SecT) : allSecsL (s :: r) = allSecs s ++ allSecsL r := by
  rw [allSecsL]

theorem flatSecs_append (cfg : Cfg) (l₁ l₂ : List SecT) :
    (flatSecs cfg (l₁ ++ l₂)).Perm (flatSecs cfg l₁ ++ flatSecs cfg l₂) := by
  unfold flatSecs
  simp only [flatMap_append]
  refine perm_iff_count.mpr (fun a => ?_)
  simp only [count_append]; omega

structure SecTableOK : Prop where
  keys : KeysOK Gen.Format.sectionRdfMap
  secs : ∃ p, ("sections", p) ∈ Gen.Format.sectionRdfMap
  props : ∃ p, ("properties", p) ∈ Gen.Format.sectionRdfMap

mutual
theorem flatten_sec (cfg : Cfg) (ok : SecTableOK) :
    ∀ s : SecT, (saveSection cfg s).Perm (flatSecs cfg (allSecs s))
  | .mk id a ps ss => by
    have ih := flatten_secs cfg ok ss
    obtain ⟨p1, h1⟩ := ok.secs
    obtain ⟨p2, h2⟩ := ok.props
    rw [saveSection_eq]
    have e1 : (Gen.Format.sectionRdfMap.flatMap (secStep cfg (node id) a ps ss)).Perm
        (Gen.Format.sectionRdfMap.flatMap (ownSecStep (node id) a ps ss) ++
          (ss.flatMap (saveSection cfg) ++ ps.flatMap saveProperty)) := by
      refine (flatMap_perm_left _ (fun kp _ => secStep_perm cfg (node id) a ps ss kp)).trans ?_
      refine (flatMap_append_perm _ _ _).trans ?_
      refine (Perm.refl _).append ?_
      refine (flatMap_append_perm _ _ _).trans ?_
      rw [kids_flat ok.keys h1, kids_flat ok.keys h2]
    have e2 := ((Perm.refl (sectionTypeTriples cfg (node id) a)).append
      (e1.trans ((Perm.refl _).append (ih.append (Perm.refl _)))))
    refine e2.trans ?_
    rw [allSecs]
    unfold flatSecs
    simp only [flatMap_cons, ownSec, SecT.props]
    refine perm_iff_count.mpr (fun t => ?_)
    simp only [count_append]; omega
theorem flatten_secs (cfg : Cfg) (ok : SecTableOK) :
    ∀ ss : List SecT, (ss.flatMap (saveSection cfg)).Perm (flatSecs cfg (allSecsL ss))
  | [] => by simp [allSecsL, flatSecs]
  | s :: r => by
    have h1 := flatten_sec cfg ok s
    have h2 := flatten_secs cfg ok r
    rw [allSecsL_cons, flatMap_cons]
    exact (h1.append h2).trans (flatSecs_append cfg _ _).symm
end

structure DocTableOK : Prop where
  keys : KeysOK Gen.Format.documentRdfMap
  secs : ∃ p, ("sections", p) ∈ Gen.Format.documentRdfMap

theorem flatten_doc (cfg : Cfg) (okS : SecTableOK) (okD : DocTableOK) (d : DocT) :
    (saveDocument cfg d).Perm (ownDoc d ++ flatSecs cfg (allSecsL d.secs)) := by
  obtain ⟨p1, h1⟩ := okD.secs
  rw [saveDocument_eq]
  have e1 : (Gen.Format.documentRdfMap.flatMap (docStep cfg d)).Perm
      (Gen.Format.documentRdfMap.flatMap (ownDocStep d) ++ d.secs.flatMap (saveSection cfg)) := by
    refine (flatMap_perm_left _ (fun kp _ => docStep_perm cfg d kp)).trans ?_
    refine (flatMap_append_perm _ _ _).trans ?_
    rw [kids_flat okD.keys h1]
  unfold ownDoc
  rw [append_assoc]
  exact (Perm.refl _).append (e1.trans ((Perm.refl _).append (flatten_secs cfg okS d.secs)))

theorem allSecsL_append (l₁ l₂ : List SecT) : allSecsL (l₁ ++ l₂) = allSecsL l₁ ++ allSecsL l₂ := by
  induction l₁ with
  | nil => simp [allSecsL]
  | cons s r ih => simp [allSecsL_cons, ih]

theorem export_flat (cfg : Cfg) (okS : SecTableOK) (okD : DocTableOK) :
    ∀ ds : List DocT, (exportRdf cfg ds).Perm (flatGraph cfg ds)
  | [] => by simp [exportRdf, flatGraph, docSecs, allSecsL, flatSecs]
  | d :: ds => by
    have ih := export_flat cfg okS okD ds
    unfold exportRdf flatGraph docSecs at ih ⊢
    simp only [flatMap_cons, allSecsL_append]
    refine ((flatten_doc cfg okS okD d).append ih).trans ?_
    refine Perm.trans ?_ ((Perm.refl _).append (flatSecs_append cfg _ _).symm)
    refine perm_iff_count.mpr (fun t => ?_)
    simp only [count_append]; omega

/-- The triples a writer step for the entry with predicate `pred` of object `i` at node `n` can
    emit: `(n, pred, _)`, a typed terminology node with its Hub link, the typed sequence node
    `seqn i` with its members. -/
inductive Emitted (n pred : Term) (i : Str) : Triple → Prop
  | own (o) : Emitted n pred i ⟨n, pred, o⟩
  | term (u o) : Emitted n pred i ⟨.tnode u, rdfType, o⟩
  | hubTerm (o) : Emitted n pred i ⟨hub, hasTerminology, o⟩
  | seqType (o) : Emitted n pred i ⟨.seqn i, rdfType, o⟩
  | seqItem (k o) : Emitted n pred i ⟨.seqn i, li k, o⟩

theorem emitted_saveRepositoryNode {n pred : Term} {url i : Str} {t : Triple}
    (h : t ∈ saveRepositoryNode n pred url) : Emitted n pred i t := by
  simp only [saveRepositoryNode, mem_cons, mem_nil_iff, or_false] at h
  rcases h with rfl | rfl | rfl
  · exact .term _ _
  · exact .hubTerm _
  · exact .own _

/-- The attribute step of `save_section` / `save_document`, with the literal maker left open. -/
def attrStep (L : String → PyVal → Term) (n : Term) (a : Attrs) (kp : String × String) : Graph :=
  match a.lookup kp.1 with
  | none => []
  | some v =>
    if !v.truthy then []
    else if kp.1 == "repository" then saveRepositoryNode n (.iri kp.2.toList) v.lex
    else [⟨n, .iri kp.2.toList, L kp.1 v⟩]

theorem saveSecAttr_eq (n : Term) (a : Attrs) (kp : String × String) :
    saveSecAttr n a kp = attrStep (fun _ v => v.toLit) n a kp := rfl

theorem saveDocAttr_eq (n : Term) (a : Attrs) (kp : String × String) :
    saveDocAttr n a kp = attrStep (fun k v => if k == "date" then v.toDateLit else v.toLit) n a kp := by
  unfold saveDocAttr attrStep
  cases a.lookup kp.1 with
  | none => rfl
  | some v => simp only []; repeat' split
              all_goals rfl

theorem emitted_attrStep {L : String → PyVal → Term} {n : Term} {a : Attrs} {kp : String × String}
    {i : Str} {t : Triple} (h : t ∈ attrStep L n a kp) : Emitted n (.iri kp.2.toList) i t := by
  unfold attrStep at h
  split at h
  · simp at h
  · split at h
    · simp at h
    · split at h
      · exact emitted_saveRepositoryNode h
      · rw [mem_singleton.mp h]; exact .own _

theorem emitted_ownSecStep {n : Term} {a : Attrs} {ps : List PropT} {ss : List SecT}
    {kp : String × String} {i : Str} {t : Triple} (h : t ∈ ownSecStep n a ps ss kp) :
    Emitted n (.iri kp.2.toList) i t := by
  unfold ownSecStep at h
  split at h
  · simp at h
  · split at h
    · obtain ⟨c, _, rfl⟩ := mem_map.mp h; exact .own _
    · split at h
      · obtain ⟨c, _, rfl⟩ := mem_map.mp h; exact .own _
      · exact emitted_attrStep (L := fun _ v => v.toLit) h

theorem emitted_ownDocStep {d : DocT} {kp : String × String} {t : Triple}
    (h : t ∈ ownDocStep d kp) : Emitted (node d.id) (.iri kp.2.toList) d.id t := by
  unfold ownDocStep at h
  split at h
  · simp at h
  · split at h
    · obtain ⟨c, _, rfl⟩ := mem_map.mp h; exact .own _
    · exact emitted_attrStep (saveDocAttr_eq _ _ _ ▸ h)

theorem eq_of_mem_seqItems {seq : Term} {t : Triple} : ∀ {k : Nat} {vs : List Lit},
    t ∈ seqItems seq k vs → ∃ j o, t = ⟨seq, li j, o⟩
  | _, [], h => by simp [seqItems] at h
  | k, v :: vs, h => by
    simp only [seqItems, mem_cons] at h
    rcases h with rfl | h
    · exact ⟨k, _, rfl⟩
    · exact eq_of_mem_seqItems h

theorem mem_savePropertyKey {p : PropT} {kp : String × String} {t : Triple} :
    t ∈ savePropertyKey p kp ↔
      (kp.1 = "value" ∧ p.values ≠ [] ∧
        t ∈ saveValues (node p.id) (.iri kp.2.toList) p.id p.values) ∨
      (kp.1 ≠ "value" ∧ kp.1 ≠ "id" ∧ ∃ v, p.attrs.lookup kp.1 = some v ∧ v.isSet = true ∧
        t = ⟨node p.id, .iri kp.2.toList, v.toLit⟩) := by
  unfold savePropertyKey
  by_cases h1 : kp.1 = "value"
  · cases p.values <;> simp [h1]
  · by_cases h2 : kp.1 = "id"
    · simp [h2]
    · cases hl : p.attrs.lookup kp.1 with
      | none => simp [h1, h2]
      | some v => cases hs : v.isSet <;> simp [h1, h2, hs]

theorem emitted_savePropertyKey {p : PropT} {kp : String × String} {t : Triple}
    (h : t ∈ savePropertyKey p kp) : Emitted (node p.id) (.iri kp.2.toList) p.id t := by
  rcases mem_savePropertyKey.mp h with ⟨_, _, h⟩ | ⟨_, _, v, _, _, rfl⟩
  · rcases mem_cons.mp h with rfl | h
    · exact .seqType _
    · rcases mem_cons.mp h with rfl | h
      · exact .own _
      · obtain ⟨_, _, rfl⟩ := eq_of_mem_seqItems h; exact .seqItem _ _
  · exact .own _

theorem objects_quiet {g : Graph} {n pred q : Term} {i j : Str} (sh : ∀ t ∈ g, Emitted n pred i t)
    (hj : j ≠ hubName) (h : n ≠ node j ∨ pred ≠ q) : objects g (node j) q = [] := by
  refine objects_eq_nil fun t ht ⟨e1, e2⟩ => ?_
  cases sh t ht with
  | own => exact h.elim (· e1) (· e2)
  | hubTerm => exact hj (node_inj e1).symm
  | _ => cases e1

/-- `q` is none of the predicates a step adds besides its own: `rdf:type`, `hasTerminology`, `rdf:_k`. -/
structure NotAux (q : Term) : Prop where
  type : rdfType ≠ q
  term : hasTerminology ≠ q
  li : ∀ k, li k ≠ q

theorem Emitted.pred_ne {n pred q : Term} {i : Str} {t : Triple} (h : Emitted n pred i t)
    (fq : NotAux q) (hp : pred ≠ q) : t.p ≠ q := by
  cases h with
  | own => exact hp
  | hubTerm => exact fq.term
  | seqItem k => exact fq.li k
  | _ => exact fq.type

theorem notAux_hasDocument : NotAux hasDocument :=
  ⟨rdfType_ne_hasDocument, hasTerminology_ne_hasDocument,
    fun _ e => rdfNs_ne_ns _ _ ((append_assoc ..).symm.trans (Term.iri.inj e))⟩

theorem notAux_subClassOf : NotAux rdfsSubClassOf :=
  ⟨rdfType_ne_subClassOf, node_ne_subClassOf _,
    fun _ e => rdfNs_ne_rdfsNs _ _ ((append_assoc ..).symm.trans (Term.iri.inj e))⟩

/-- What a table must provide for the lookups: distinct keys and predicates, none of them
    `rdf:type`, `rdfs:subClassOf`, `hasDocument` or `hasFileName`. -/
structure TableOK (tbl : List (String × String)) : Prop where
  keys : KeysOK tbl
  notMeta : ∀ kp ∈ tbl, Term.iri kp.2.toList ≠ rdfType ∧ Term.iri kp.2.toList ≠ rdfsSubClassOf ∧
    Term.iri kp.2.toList ≠ hasDocument ∧ Term.iri kp.2.toList ≠ hasFileName

theorem TableOK.of_ns {tbl : List (String × String)} (keys : KeysOK tbl)
    (h : ∀ kp ∈ tbl, ns <+: kp.2.toList ∧ Term.iri kp.2.toList ≠ hasDocument ∧
      Term.iri kp.2.toList ≠ hasFileName) : TableOK tbl where
  keys := keys
  notMeta kp hkp := by
    obtain ⟨⟨l, e⟩, h3, h4⟩ := h kp hkp
    rw [← e] at h3 h4 ⊢
    exact ⟨fun e => rdfNs_ne_ns _ _ (Term.iri.inj e).symm, node_ne_subClassOf l, h3, h4⟩

theorem objects_table {tbl : List (String × String)} (ok : KeysOK tbl) {step : String × String → Graph}
    {kp : String × String} (hkp : kp ∈ tbl) {i j : Str} (hj : j ≠ hubName)
    (sh : ∀ kp' ∈ tbl, ∀ t ∈ step kp', Emitted (node j) (.iri kp'.2.toList) i t) :
    objects (tbl.flatMap step) (node j) (.iri kp.2.toList) =
      objects (step kp) (node j) (.iri kp.2.toList) := by
  rw [objects_flatMap]
  exact flatMap_single (·.2) ok.predsNodup hkp
    fun b hb hne => objects_quiet (sh b hb) hj
      (.inr fun e => hne (String.toList_inj.mp (Term.iri.inj e)))

def attrObjs (chk : PyVal → Bool) (conv : String → PyVal → Term) (a : Attrs) (k : String) : List Term :=
  match a.lookup k with
  | some v => if chk v then [conv k v] else []
  | none => []

def propConv (_k : String) (v : PyVal) : Term := v.toLit
def secConv (k : String) (v : PyVal) : Term := if k == "repository" then .tnode v.lex else v.toLit
def docConv (k : String) (v : PyVal) : Term :=
  if k == "repository" then .tnode v.lex else if k == "date" then v.toDateLit else v.toLit

theorem objects_single (n p o : Term) : objects [⟨n, p, o⟩] n p = [o] := by
  simp [objects]

theorem objects_saveRepositoryNode (pred : Term) (url : Str) {j : Str} (hj : j ≠ hubName) :
    objects (saveRepositoryNode (node j) pred url) (node j) pred = [.tnode url] := by
  rw [saveRepositoryNode, objects_headless (fun e => by cases e.1),
    objects_headless (fun e => hj (node_inj e.1).symm), objects_single]

theorem objects_attrStep (L : String → PyVal → Term) (a : Attrs) (kp : String × String) {j : Str}
    (hj : j ≠ hubName) :
    objects (attrStep L (node j) a kp) (node j) (.iri kp.2.toList) =
      attrObjs PyVal.truthy (fun k v => if k == "repository" then .tnode v.lex else L k v) a kp.1 := by
  unfold attrStep attrObjs
  cases a.lookup kp.1 with
  | none => rfl
  | some v =>
    simp only
    cases v.truthy with
    | false => rfl
    | true =>
      simp only [Bool.not_true, Bool.false_eq_true, if_false, if_true]
      split
      · exact objects_saveRepositoryNode _ _ hj
      · exact objects_single _ _ _

theorem objects_links {α} (n pred : Term) (l : List α) (idf : α → Str) :
    objects (l.map (fun c => (⟨n, pred, node (idf c)⟩ : Triple))) n pred = l.map (fun c => node (idf c)) := by
  induction l with
  | nil => rfl
  | cons c l ih => simp [objects_cons, ih]

/-- The value pairs `(1, v₁), (2, v₂), …` a value sequence must contain. -/
def pairs : Nat → List Lit → List (Option (Nat × Term))
  | _, [] => []
  | k, v :: vs => some (k, v.toTerm) :: pairs (k + 1) vs

/-- For a variable triple: on `⟨seq, li k, o⟩` the kernel evaluates `liIndex (li k)`, a namespace
    literal, when it checks the unfolding of `seqPairs`. -/
theorem seqPairs_cons_idx {t : Triple} {g : Graph} {s : Term} {k : Nat} (hs : t.s = s)
    (hq : liIndex t.p = some (some k)) : seqPairs (t :: g) s = some (k, t.o) :: seqPairs g s := by
  simp [seqPairs, hs, hq]

theorem seqPairs_seqItems (seq : Term) : ∀ (k : Nat) (vs : List Lit),
    seqPairs (seqItems seq k vs) seq = pairs k vs
  | _, [] => rfl
  | k, v :: vs => by
    rw [seqItems, seqPairs_cons_idx (t := ⟨seq, li k, v.toTerm⟩) rfl (liIndex_li k),
      seqPairs_seqItems seq (k + 1) vs, pairs]

theorem seqPairs_saveValues (pred : Term) (j pid : Str) (vs : List Lit) :
    seqPairs (saveValues (node j) pred pid vs) (.seqn pid) = pairs 1 vs := by
  show seqPairs ([_, _] ++ _) _ = _
  rw [seqPairs_append, seqPairs_seqItems, seqPairs_eq_nil, nil_append]
  intro t ht e
  simp only [mem_cons, mem_nil_iff, or_false] at ht
  rcases ht with rfl | rfl
  · exact liIndex_rdfType
  · cases e

theorem objects_saveValues (pred : Term) (j pid : Str) (vs : List Lit) :
    objects (saveValues (node j) pred pid vs) (node j) pred = [.seqn pid] := by
  rw [saveValues, objects_headless (fun e => by cases e.1), objects_cons, if_pos ⟨rfl, rfl⟩,
    objects_eq_nil fun t ht e => by
      obtain ⟨_, _, rfl⟩ := eq_of_mem_seqItems ht
      cases e.1]
  rfl

theorem own_prop_lookup (ok : TableOK Gen.Format.propertyRdfMap) (p : PropT) (hid : p.id ≠ hubName)
    {kp : String × String} (hkp : kp ∈ Gen.Format.propertyRdfMap) :
    objects (saveProperty p) (node p.id) (.iri kp.2.toList) =
      objects (savePropertyKey p kp) (node p.id) (.iri kp.2.toList) := by
  rw [saveProperty, objects_headless (fun e => (ok.notMeta kp hkp).1 e.2.symm),
    objects_table ok.keys hkp hid (fun _ _ _ ht => emitted_savePropertyKey ht)]

theorem savePropertyKey_subject {p : PropT} {kp : String × String} (h : kp.1 ≠ "value")
    {t : Triple} (ht : t ∈ savePropertyKey p kp) : t.s = node p.id := by
  rcases mem_savePropertyKey.mp ht with ⟨e, _⟩ | ⟨_, _, v, _, _, rfl⟩
  · exact absurd e h
  · rfl
theorem own_prop_seq (ok : TableOK Gen.Format.propertyRdfMap) (p : PropT)
    {vp : String} (hkp : ("value", vp) ∈ Gen.Format.propertyRdfMap) :
    seqPairs (saveProperty p) (.seqn p.id) = pairs 1 p.values := by
  unfold saveProperty
  have h0 : seqPairs ((⟨node p.id, rdfType, .iri Gen.Format.propertyRdfType.toList⟩ : Triple) ::
      Gen.Format.propertyRdfMap.flatMap (savePropertyKey p)) (.seqn p.id) =
      seqPairs (Gen.Format.propertyRdfMap.flatMap (savePropertyKey p)) (.seqn p.id) := by
    simp [seqPairs, node]
  rw [h0, seqPairs_flatMap, flatMap_single (·.1) ok.keys.keysNodup hkp]
  · unfold savePropertyKey
    simp only [beq_self_eq_true, if_true]
    split
    · rename_i h
      have : p.values = [] := by simpa using h
      simp [this, pairs, seqPairs]
    · exact seqPairs_saveValues _ _ _ _
  · intro b _ hb
    apply seqPairs_eq_nil
    intro t ht e
    rw [savePropertyKey_subject hb ht] at e
    simp [node] at e

theorem pred_typeTriples {cfg : Cfg} {n : Term} {a : Attrs} {t : Triple}
    (h : t ∈ sectionTypeTriples cfg n a) :
    t.p = rdfType ∨ (t.p = rdfsSubClassOf ∧ cfg.subclassing = true) := by
  unfold sectionTypeTriples at h
  cases hc : cfg.subclassing <;> simp only [hc, Bool.false_eq_true, if_false, if_true] at h
  · rw [mem_singleton.mp h]; exact .inl rfl
  · split at h <;> simp only [mem_cons, mem_nil_iff, or_false] at h
    · rcases h with rfl | rfl | rfl | rfl
      · exact .inl rfl
      · exact .inl rfl
      · exact .inr ⟨rfl, rfl⟩
      · exact .inl rfl
    · rw [h]; exact .inl rfl

theorem own_sec_lookup (cfg : Cfg) (ok : TableOK Gen.Format.sectionRdfMap) (s : SecT)
    (hid : s.id ≠ hubName) {kp : String × String} (hkp : kp ∈ Gen.Format.sectionRdfMap) :
    objects (ownSec cfg s) (node s.id) (.iri kp.2.toList) =
      objects (ownSecStep (node s.id) s.attrs s.props s.subs kp) (node s.id) (.iri kp.2.toList) := by
  obtain ⟨id, a, ps, ss⟩ := s
  simp only [SecT.id, SecT.attrs, SecT.props, SecT.subs] at hid ⊢
  unfold ownSec
  rw [objects_append, objects_eq_nil (g := sectionTypeTriples cfg (node id) a) fun t ht e =>
      (pred_typeTriples ht).elim (fun h => (ok.notMeta kp hkp).1 (e.2.symm.trans h))
        fun h => (ok.notMeta kp hkp).2.1 (e.2.symm.trans h.1),
    nil_append, objects_table ok.keys hkp hid (fun kp' _ t ht => emitted_ownSecStep (i := id) ht)]

theorem own_doc_lookup (ok : TableOK Gen.Format.documentRdfMap) (d : DocT) (hid : d.id ≠ hubName)
    {kp : String × String} (hkp : kp ∈ Gen.Format.documentRdfMap) :
    objects (ownDoc d) (node d.id) (.iri kp.2.toList) =
      objects (ownDocStep d kp) (node d.id) (.iri kp.2.toList) := by
  unfold ownDoc docHead
  have m := ok.notMeta kp hkp
  rw [cons_append, cons_append, cons_append, nil_append,
    objects_headless (by intro ⟨_, e⟩; exact m.1 e.symm),
    objects_headless (by intro ⟨_, e⟩; exact m.2.2.1 e.symm),
    objects_headless (by intro ⟨_, e⟩; exact m.2.2.2 e.symm),
    objects_table ok.keys hkp hid (fun kp' _ t ht => emitted_ownDocStep ht)]

/-- A triple that may stand in the block of object `i`.  Deliberately coarse: any type, class or
    Hub triple may stand in any block, so blocks may share their terminology nodes. -/
def Owned (i : Str) (t : Triple) : Prop :=
  t.p = rdfType ∨ t.p = rdfsSubClassOf ∨ t.s = hub ∨ t.s = node i ∨ t.s = .seqn i

def Owns (i : Str) (g : Graph) : Prop := ∀ t ∈ g, Owned i t

theorem Emitted.owned {i : Str} {pred : Term} {t : Triple} (h : Emitted (node i) pred i t) :
    Owned i t := by
  cases h with
  | own => exact .inr (.inr (.inr (.inl rfl)))
  | hubTerm => exact .inr (.inr (.inl rfl))
  | seqItem => exact .inr (.inr (.inr (.inr rfl)))
  | _ => exact .inl rfl

theorem mem_saveProperty {p : PropT} {t : Triple} (h : t ∈ saveProperty p) :
    t.p = rdfType ∨ ∃ kp ∈ Gen.Format.propertyRdfMap, Emitted (node p.id) (.iri kp.2.toList) p.id t := by
  rcases mem_cons.mp h with rfl | h
  · exact .inl rfl
  · obtain ⟨kp, hkp, h⟩ := mem_flatMap.mp h
    exact .inr ⟨kp, hkp, emitted_savePropertyKey h⟩

theorem mem_ownSec {cfg : Cfg} {s : SecT} {t : Triple} (h : t ∈ ownSec cfg s) :
    t ∈ sectionTypeTriples cfg (node s.id) s.attrs ∨
      ∃ kp ∈ Gen.Format.sectionRdfMap, Emitted (node s.id) (.iri kp.2.toList) s.id t := by
  obtain ⟨id, a, ps, ss⟩ := s
  rcases mem_append.mp h with h | h
  · exact .inl h
  · obtain ⟨kp, hkp, h⟩ := mem_flatMap.mp h
    exact .inr ⟨kp, hkp, emitted_ownSecStep h⟩

theorem typeTriples_sub_ownSec {cfg : Cfg} {s : SecT} {t : Triple}
    (h : t ∈ sectionTypeTriples cfg (node s.id) s.attrs) : t ∈ ownSec cfg s := by
  obtain ⟨id, a, ps, ss⟩ := s
  exact mem_append_left _ h

theorem mem_ownDoc {d : DocT} {t : Triple} (h : t ∈ ownDoc d) :
    t ∈ docHead d ∨
      ∃ kp ∈ Gen.Format.documentRdfMap, Emitted (node d.id) (.iri kp.2.toList) d.id t := by
  rcases mem_append.mp h with h | h
  · exact .inl h
  · obtain ⟨kp, hkp, h⟩ := mem_flatMap.mp h
    exact .inr ⟨kp, hkp, emitted_ownDocStep h⟩

/-- A predicate the reader asks for at an object node.  `hasTerminology` and `rdf:_k` need not be
    excluded: their triples start at the Hub or a sequence node (`Owned`). -/
def DataPred (q : Term) : Prop :=
  q ≠ rdfType ∧ q ≠ rdfsSubClassOf

theorem owns_objects_nil {i j : Str} {g : Graph} {q : Term} (h : Owns i g) (hij : j ≠ i)
    (hj : j ≠ hubName) (hq : DataPred q) : objects g (node j) q = [] := by
  refine objects_eq_nil fun t ht ⟨e1, e2⟩ => ?_
  rcases h t ht with a | a | a | a | a
  · exact hq.1 (e2.symm.trans a)
  · exact hq.2 (e2.symm.trans a)
  · exact hj (node_inj (e1.symm.trans a))
  · exact hij (node_inj (e1.symm.trans a))
  · cases e1.symm.trans a

theorem owns_seqPairs_nil {i j : Str} {g : Graph} (h : Owns i g) (hij : j ≠ i) :
    seqPairs g (.seqn j) = [] := by
  refine seqPairs_eq_nil fun t ht e => ?_
  rcases h t ht with a | a | a | a | a
  · rw [a]; exact liIndex_rdfType
  · rw [a]; exact liIndex_subClassOf
  · cases e.symm.trans a
  · cases e.symm.trans a
  · exact absurd (Term.seqn.inj (e.symm.trans a)) hij

/-- Ids are unique over all Documents, Sections and Properties (and none is the word "Hub"). -/
def WFDocs (ds : List DocT) : Prop := (hubName :: allIds ds).Nodup

/-- `*NoDate`: the reader parses only the Document's `date` to a date.  `*NoUnc`: `truthy` and
    `isSet` differ only on a float 0, the uncertainty. -/
structure TablesOK : Prop where
  doc : TableOK Gen.Format.documentRdfMap
  sec : TableOK Gen.Format.sectionRdfMap
  prop : TableOK Gen.Format.propertyRdfMap
  docSecs : ∃ p, ("sections", p) ∈ Gen.Format.documentRdfMap
  secSecs : ∃ p, ("sections", p) ∈ Gen.Format.sectionRdfMap
  secProps : ∃ p, ("properties", p) ∈ Gen.Format.sectionRdfMap
  propValue : ∃ p, ("value", p) ∈ Gen.Format.propertyRdfMap
  docId : (Gen.Format.documentRdfMap.lookup "id").isSome
  secId : (Gen.Format.sectionRdfMap.lookup "id").isSome
  propId : (Gen.Format.propertyRdfMap.lookup "id").isSome
  propNoDate : "date" ∉ Gen.Format.propertyRdfMap.map (·.1)
  secNoDate : "date" ∉ Gen.Format.sectionRdfMap.map (·.1)
  secNoUnc : "uncertainty" ∉ Gen.Format.sectionRdfMap.map (·.1)
  docNoUnc : "uncertainty" ∉ Gen.Format.documentRdfMap.map (·.1)

theorem TablesOK.secOK (t : TablesOK) : SecTableOK := ⟨t.sec.keys, t.secSecs, t.secProps⟩
theorem TablesOK.docOK (t : TablesOK) : DocTableOK := ⟨t.doc.keys, t.docSecs⟩

/-- The answers to all graph lookups the reader makes, for the documents `ds`. -/
structure Facts (g : Graph) (ds : List DocT) : Prop where
  hubDocs : (objects g hub hasDocument).Perm (ds.map (fun d => node d.id))
  docAttr : ∀ d ∈ ds, ∀ kp ∈ Gen.Format.documentRdfMap, kp.1 ≠ "id" → kp.1 ≠ "sections" →
    (objects g (node d.id) (.iri kp.2.toList)).Perm (attrObjs PyVal.truthy docConv d.attrs kp.1)
  docKids : ∀ d ∈ ds, ∀ pred, ("sections", pred) ∈ Gen.Format.documentRdfMap →
    (objects g (node d.id) (.iri pred.toList)).Perm (d.secs.map (fun c => node c.id))
  secAttr : ∀ s ∈ docSecs ds, ∀ kp ∈ Gen.Format.sectionRdfMap, kp.1 ≠ "id" → kp.1 ≠ "sections" →
    kp.1 ≠ "properties" →
    (objects g (node s.id) (.iri kp.2.toList)).Perm (attrObjs PyVal.truthy secConv s.attrs kp.1)
  secKids : ∀ s ∈ docSecs ds, ∀ pred, ("sections", pred) ∈ Gen.Format.sectionRdfMap →
    (objects g (node s.id) (.iri pred.toList)).Perm (s.subs.map (fun c => node c.id))
  secPropKids : ∀ s ∈ docSecs ds, ∀ pred, ("properties", pred) ∈ Gen.Format.sectionRdfMap →
    (objects g (node s.id) (.iri pred.toList)).Perm (s.props.map (fun c => node c.id))
  propAttr : ∀ p ∈ docProps ds, ∀ kp ∈ Gen.Format.propertyRdfMap, kp.1 ≠ "id" → kp.1 ≠ "value" →
    (objects g (node p.id) (.iri kp.2.toList)).Perm (attrObjs PyVal.isSet propConv p.attrs kp.1)
  propValue : ∀ p ∈ docProps ds, ∀ pred, ("value", pred) ∈ Gen.Format.propertyRdfMap →
    (objects g (node p.id) (.iri pred.toList)).Perm (if p.values.isEmpty then [] else [.seqn p.id])
  propSeq : ∀ p ∈ docProps ds, (seqPairs g (.seqn p.id)).Perm (pairs 1 p.values)

theorem Facts.perm {g g' : Graph} {ds : List DocT} (f : Facts g ds) (h : g'.Perm g) : Facts g' ds where
  hubDocs := (objects_perm h _ _).trans f.hubDocs
  docAttr := fun d hd kp hk a b => (objects_perm h _ _).trans (f.docAttr d hd kp hk a b)
  docKids := fun d hd p hp => (objects_perm h _ _).trans (f.docKids d hd p hp)
  secAttr := fun s hs kp hk a b c => (objects_perm h _ _).trans (f.secAttr s hs kp hk a b c)
  secKids := fun s hs p hp => (objects_perm h _ _).trans (f.secKids s hs p hp)
  secPropKids := fun s hs p hp => (objects_perm h _ _).trans (f.secPropKids s hs p hp)
  propAttr := fun p hp kp hk a b => (objects_perm h _ _).trans (f.propAttr p hp kp hk a b)
  propValue := fun p hp q hq => (objects_perm h _ _).trans (f.propValue p hp q hq)
  propSeq := fun p hp => (seqPairs_perm h _).trans (f.propSeq p hp)

theorem flatGraph_eq (cfg : Cfg) (ds : List DocT) :
    flatGraph cfg ds = ds.flatMap ownDoc ++ ((docSecs ds).flatMap (ownSec cfg) ++
      (docProps ds).flatMap saveProperty) := by
  unfold flatGraph flatSecs docProps
  rw [flatMap_assoc]

theorem dataPred_of {tbl : List (String × String)} (ok : TableOK tbl) {kp : String × String}
    (h : kp ∈ tbl) : DataPred (.iri kp.2.toList) := ⟨(ok.notMeta kp h).1, (ok.notMeta kp h).2.1⟩

/-- The exported objects, each with its id and its own triples. -/
def blocks (cfg : Cfg) (ds : List DocT) : List (Str × Graph) :=
  ds.map (fun d => (d.id, ownDoc d)) ++ ((docSecs ds).map (fun s => (s.id, ownSec cfg s)) ++
    (docProps ds).map (fun p => (p.id, saveProperty p)))

theorem flatGraph_blocks (cfg : Cfg) (ds : List DocT) :
    flatGraph cfg ds = (blocks cfg ds).flatMap (·.2) := by
  rw [flatGraph_eq, blocks, flatMap_append, flatMap_append, flatMap_map, flatMap_map, flatMap_map]

theorem mem_flat_of_block {cfg : Cfg} {ds : List DocT} {b : Str × Graph} (hb : b ∈ blocks cfg ds)
    {t : Triple} (ht : t ∈ b.2) : t ∈ flatGraph cfg ds :=
  flatGraph_blocks cfg ds ▸ mem_flatMap.mpr ⟨b, hb, ht⟩

theorem blocks_ids (cfg : Cfg) (ds : List DocT) : (blocks cfg ds).map (·.1) = allIds ds := by
  simp [blocks, allIds, Function.comp_def]

theorem blocks_owns (cfg : Cfg) (ds : List DocT) : ∀ b ∈ blocks cfg ds, Owns b.1 b.2 := by
  intro b hb
  simp only [blocks, mem_append, mem_map] at hb
  rcases hb with ⟨d, _, rfl⟩ | ⟨s, _, rfl⟩ | ⟨p, _, rfl⟩ <;> intro t ht
  · rcases mem_ownDoc ht with h | ⟨_, _, h⟩
    · simp only [docHead, mem_cons, mem_nil_iff, or_false] at h
      rcases h with rfl | rfl | rfl
      · exact .inl rfl
      · exact .inr (.inr (.inl rfl))
      · exact .inr (.inr (.inr (.inl rfl)))
    · exact h.owned
  · exact (mem_ownSec ht).elim
      (fun h => (pred_typeTriples h).elim .inl fun h => .inr (.inl h.1)) fun ⟨_, _, h⟩ => h.owned
  · exact (mem_saveProperty ht).elim .inl fun ⟨_, _, h⟩ => h.owned

section wf
variable {ds : List DocT} (wf : WFDocs ds)
include wf

theorem wf_secs_nodup : ((docSecs ds).map (·.id)).Nodup :=
  (nodup_append.mp (nodup_append.mp (nodup_cons.mp wf).2).2.1).1
theorem wf_props_nodup : ((docProps ds).map (·.id)).Nodup :=
  (nodup_append.mp (nodup_append.mp (nodup_cons.mp wf).2).2.1).2.1

variable (cfg : Cfg) {b : Str × Graph} (hb : b ∈ blocks cfg ds)
include hb

theorem block_ne_hub : b.1 ≠ hubName :=
  fun e => (nodup_cons.mp wf).1 (e ▸ blocks_ids cfg ds ▸ mem_map_of_mem hb)

theorem flat_at {q : Term} (hq : DataPred q) :
    objects (flatGraph cfg ds) (node b.1) q = objects b.2 (node b.1) q := by
  rw [flatGraph_blocks, objects_flatMap]
  exact flatMap_single (·.1) (blocks_ids cfg ds ▸ (nodup_cons.mp wf).2) hb fun c hc hne =>
    owns_objects_nil (blocks_owns cfg ds c hc) (Ne.symm hne) (block_ne_hub wf cfg hb) hq

theorem flat_seq_at : seqPairs (flatGraph cfg ds) (.seqn b.1) = seqPairs b.2 (.seqn b.1) := by
  rw [flatGraph_blocks, seqPairs_flatMap]
  exact flatMap_single (·.1) (blocks_ids cfg ds ▸ (nodup_cons.mp wf).2) hb fun c hc hne =>
    owns_seqPairs_nil (blocks_owns cfg ds c hc) (Ne.symm hne)

end wf

theorem doc_block (cfg : Cfg) {ds : List DocT} {d : DocT} (h : d ∈ ds) :
    (d.id, ownDoc d) ∈ blocks cfg ds :=
  mem_append_left _ (mem_map_of_mem h)
theorem sec_block (cfg : Cfg) {ds : List DocT} {s : SecT} (h : s ∈ docSecs ds) :
    (s.id, ownSec cfg s) ∈ blocks cfg ds :=
  mem_append_right _ (mem_append_left _ (mem_map_of_mem h))
theorem prop_block (cfg : Cfg) {ds : List DocT} {p : PropT} (h : p ∈ docProps ds) :
    (p.id, saveProperty p) ∈ blocks cfg ds :=
  mem_append_right _ (mem_append_right _ (mem_map_of_mem h))

/-! If `q` is neither one of the writer's own predicates (`NotAux q`) nor a table predicate, no
triple of a block has predicate `q`, except the Hub link for `q = hasDocument`. -/

theorem saveProperty_pred_ne {q : Term} (fq : NotAux q)
    (hq : ∀ kp ∈ Gen.Format.propertyRdfMap, Term.iri kp.2.toList ≠ q) {p : PropT} {t : Triple}
    (h : t ∈ saveProperty p) : t.p ≠ q := by
  rcases mem_saveProperty h with e | ⟨kp, hkp, h⟩
  · rw [e]; exact fq.type
  · exact h.pred_ne fq (hq kp hkp)

theorem ownSec_pred_ne {q : Term} (fq : NotAux q)
    (hq : ∀ kp ∈ Gen.Format.sectionRdfMap, Term.iri kp.2.toList ≠ q) {cfg : Cfg}
    (hs : rdfsSubClassOf ≠ q ∨ cfg.subclassing = false) {s : SecT} {t : Triple}
    (h : t ∈ ownSec cfg s) : t.p ≠ q := by
  rcases mem_ownSec h with h | ⟨kp, hkp, h⟩
  · rcases pred_typeTriples h with e | ⟨e, hc⟩ <;> rw [e]
    · exact fq.type
    · exact hs.elim id fun hf => absurd (hf.symm.trans hc) Bool.false_ne_true
  · exact h.pred_ne fq (hq kp hkp)

theorem ownDoc_pred_ne {q : Term} (fq : NotAux q)
    (hq : ∀ kp ∈ Gen.Format.documentRdfMap, Term.iri kp.2.toList ≠ q) (hf : hasFileName ≠ q)
    {d : DocT} {t : Triple} (h : t ∈ ownDoc d) (hp : t.p = q) : t = ⟨hub, hasDocument, node d.id⟩ := by
  rcases mem_ownDoc h with h | ⟨kp, hkp, h⟩
  · simp only [docHead, mem_cons, mem_nil_iff, or_false] at h
    rcases h with rfl | rfl | rfl
    · exact absurd hp fq.type
    · rfl
    · exact absurd hp hf
  · exact absurd hp (h.pred_ne fq (hq kp hkp))

theorem hasDocument_only_hub (cfg : Cfg) (ok : TablesOK) (ds : List DocT) (t : Triple)
    (ht : t ∈ flatGraph cfg ds) (hp : t.p = hasDocument) :
    t.s = hub ∧ ∃ d ∈ ds, t.o = node d.id := by
  rw [flatGraph_eq] at ht
  simp only [mem_append, mem_flatMap] at ht
  rcases ht with ⟨d, hd, h⟩ | ⟨s, _, h⟩ | ⟨p, _, h⟩
  · rw [ownDoc_pred_ne notAux_hasDocument (fun kp h => (ok.doc.notMeta kp h).2.2.1)
      hasFileName_ne_hasDocument h hp]
    exact ⟨rfl, d, hd, rfl⟩
  · exact absurd hp (ownSec_pred_ne notAux_hasDocument (fun kp h => (ok.sec.notMeta kp h).2.2.1)
      (.inl (node_ne_subClassOf _).symm) h)
  · exact absurd hp (saveProperty_pred_ne notAux_hasDocument
      (fun kp h => (ok.prop.notMeta kp h).2.2.1) h)

theorem hubdoc_ownDoc (ok : TableOK Gen.Format.documentRdfMap) (d : DocT) :
    objects (ownDoc d) hub hasDocument = [node d.id] := by
  unfold ownDoc docHead
  have h0 : objects (Gen.Format.documentRdfMap.flatMap (ownDocStep d)) hub hasDocument = [] :=
    objects_eq_nil fun t ht e => by
      obtain ⟨kp, hkp, h⟩ := mem_flatMap.mp ht
      exact (emitted_ownDocStep h).pred_ne notAux_hasDocument (ok.notMeta kp hkp).2.2.1 e.2
  rw [cons_append, cons_append, cons_append, nil_append,
    objects_headless (fun e => rdfType_ne_hasDocument e.2),
    objects_cons, if_pos ⟨rfl, rfl⟩,
    objects_headless (fun e => hasFileName_ne_hasDocument e.2), h0]
  rfl

theorem flat_hub (cfg : Cfg) (ds : List DocT) (ok : TablesOK) :
    objects (flatGraph cfg ds) hub hasDocument = ds.map (fun d => node d.id) := by
  rw [flatGraph_eq, objects_append, objects_append, objects_flatMap, objects_flatMap, objects_flatMap,
    flatMap_eq_nil_iff.mpr (fun s _ => objects_eq_nil fun t ht e =>
      ownSec_pred_ne notAux_hasDocument (fun kp h => (ok.sec.notMeta kp h).2.2.1)
        (.inl (node_ne_subClassOf _).symm) ht e.2),
    flatMap_eq_nil_iff.mpr (fun p _ => objects_eq_nil fun t ht e =>
      saveProperty_pred_ne notAux_hasDocument (fun kp h => (ok.prop.notMeta kp h).2.2.1) ht e.2),
    funext (hubdoc_ownDoc ok.doc),
    ← map_eq_flatMap, append_nil, append_nil]

/-- Unique ids are not needed for the Hub lookup. -/
theorem hub_links (cfg : Cfg) (ds : List DocT) (ok : TablesOK) {g : Graph}
    (h : g.Perm (exportRdf cfg ds)) :
    (objects g hub hasDocument).Perm (ds.map (fun d => node d.id)) :=
  flat_hub cfg ds ok ▸ objects_perm (h.trans (export_flat cfg ok.secOK ok.docOK ds)) _ _

section flat
variable (cfg : Cfg) {ds : List DocT} (wf : WFDocs ds)
include wf

theorem facts_flat (ok : TablesOK) : Facts (flatGraph cfg ds) ds where
  hubDocs := flat_hub cfg ds ok ▸ Perm.refl _
  docAttr := fun d hd kp hk h1 h2 => by
    have hb := doc_block cfg hd
    rw [flat_at wf cfg hb (dataPred_of ok.doc hk), own_doc_lookup ok.doc d (block_ne_hub wf cfg hb) hk,
      ownDocStep]
    simp only [beq_iff_eq, h1, h2, if_false]
    rw [saveDocAttr_eq, objects_attrStep _ _ _ (block_ne_hub wf cfg hb)]
    exact Perm.refl _
  docKids := fun d hd p hp => by
    have hb := doc_block cfg hd
    rw [flat_at wf cfg hb (dataPred_of ok.doc hp), own_doc_lookup ok.doc d (block_ne_hub wf cfg hb) hp,
      ownDocStep]
    exact objects_links _ _ d.secs (·.id) ▸ Perm.refl _
  secAttr := fun s hs kp hk h1 h2 h3 => by
    have hb := sec_block cfg hs
    rw [flat_at wf cfg hb (dataPred_of ok.sec hk), own_sec_lookup cfg ok.sec s (block_ne_hub wf cfg hb) hk,
      ownSecStep]
    simp only [beq_iff_eq, h1, h2, h3, if_false]
    rw [saveSecAttr_eq, objects_attrStep _ _ _ (block_ne_hub wf cfg hb)]
    exact Perm.refl _
  secKids := fun s hs p hp => by
    have hb := sec_block cfg hs
    rw [flat_at wf cfg hb (dataPred_of ok.sec hp), own_sec_lookup cfg ok.sec s (block_ne_hub wf cfg hb) hp,
      ownSecStep]
    exact objects_links _ _ s.subs (·.id) ▸ Perm.refl _
  secPropKids := fun s hs p hp => by
    have hb := sec_block cfg hs
    rw [flat_at wf cfg hb (dataPred_of ok.sec hp), own_sec_lookup cfg ok.sec s (block_ne_hub wf cfg hb) hp,
      ownSecStep]
    exact objects_links _ _ s.props (·.id) ▸ Perm.refl _
  propAttr := fun p hp kp hk h1 h2 => by
    have hb := prop_block cfg hp
    rw [flat_at wf cfg hb (dataPred_of ok.prop hk), own_prop_lookup ok.prop p (block_ne_hub wf cfg hb) hk,
      savePropertyKey, attrObjs]
    simp only [beq_iff_eq, h1, h2, if_false, propConv]
    cases p.attrs.lookup kp.1 with
    | none => rfl
    | some v =>
      simp only
      cases v.isSet
      · rfl
      · rw [if_pos rfl, if_pos rfl, objects_single]
  propValue := fun p hp q hq => by
    have hb := prop_block cfg hp
    rw [flat_at wf cfg hb (dataPred_of ok.prop hq), own_prop_lookup ok.prop p (block_ne_hub wf cfg hb) hq,
      savePropertyKey]
    simp only [beq_self_eq_true, if_true]
    split
    · rfl
    · rw [objects_saveValues]
  propSeq := fun p hp => by
    obtain ⟨vp, hv⟩ := ok.propValue
    rw [flat_seq_at wf cfg (prop_block cfg hp), own_prop_seq ok.prop p hv]

theorem facts_export (ok : TablesOK) {g : Graph} (h : g.Perm (exportRdf cfg ds)) : Facts g ds :=
  (facts_flat cfg wf ok).perm (h.trans (export_flat cfg ok.secOK ok.docOK ds))

end flat

/-- Comparison of one attribute.  `strict`: equal Python values.  Otherwise the uncertainty is
    compared as text only (`0.5` vs `'0.5'`). -/
def valEq (strict : Bool) (k : String) (a b : Option PyVal) : Prop :=
  if !strict && k == "uncertainty" then a.map PyVal.lex = b.map PyVal.lex else a = b

def attrsEq (strict : Bool) (a b : Attrs) : Prop :=
  ∀ k ∈ cmpKeys, valEq strict k (a.lookup k) (b.lookup k)

def propEquiv (strict : Bool) (p q : PropT) : Prop :=
  p.id = q.id ∧ attrsEq strict p.attrs q.attrs ∧ p.values = q.values

mutual
/-- Same id, same attributes, same values in order, children equal as multisets. -/
def secEquiv (strict : Bool) : SecT → SecT → Prop
  | .mk id a ps ss, t =>
    id = t.id ∧ attrsEq strict a t.attrs ∧
    (∃ mid, t.props.Perm mid ∧ All2 (propEquiv strict) ps mid) ∧
    (∃ mid, t.subs.Perm mid ∧ secsEquiv strict ss mid)
def secsEquiv (strict : Bool) : List SecT → List SecT → Prop
  | [], [] => True
  | s :: r, t :: u => secEquiv strict s t ∧ secsEquiv strict r u
  | [], _ :: _ => False
  | _ :: _, [] => False
end

def docEquiv (strict : Bool) (d e : DocT) : Prop :=
  d.id = e.id ∧ attrsEq strict d.attrs e.attrs ∧ ∃ mid, e.secs.Perm mid ∧ secsEquiv strict d.secs mid

/-- One imported document per exported document, in any order. -/
def docsEquiv (strict : Bool) (ds es : List DocT) : Prop :=
  ∃ mid, es.Perm mid ∧ All2 (docEquiv strict) ds mid

/-- The attribute dictionary only has keys of the RDF map, with representable values. -/
def AttrsRepr (tbl : List (String × String)) (a : Attrs) : Prop :=
  ∀ k v, a.lookup k = some v →
    k ∈ (plainKeys tbl).map (·.1) ∧ (k ∈ cmpKeys → reprVal k v = true)

/-- What a Property must satisfy to survive the RDF route. -/
def PropRepr (p : PropT) : Prop :=
  AttrsRepr Gen.Format.propertyRdfMap p.attrs ∧ (p.attrs.lookup "name").isSome

/-- What a Section must satisfy to survive the RDF route. -/
def SecRepr (s : SecT) : Prop :=
  AttrsRepr Gen.Format.sectionRdfMap s.attrs ∧ (s.attrs.lookup "name").isSome ∧
    (s.attrs.lookup "type").isSome

def DocRepr (d : DocT) : Prop := AttrsRepr Gen.Format.documentRdfMap d.attrs

/-- **RdfRepr**: what a document set must satisfy so that the RDF route can represent it:
    attributes are non-empty strings (the Document date a date, the uncertainty a float) under
    keys of the RDF maps; every Section has a name and a type, every Property a name. -/
structure RdfRepr (ds : List DocT) : Prop where
  docs : ∀ d ∈ ds, DocRepr d
  secs : ∀ s ∈ docSecs ds, SecRepr s
  props : ∀ p ∈ docProps ds, PropRepr p

/-- A Section of `ds` that is representable, with all its Properties. -/
def Good (ds : List DocT) (x : SecT) : Prop :=
  x ∈ docSecs ds ∧ SecRepr x ∧ ∀ p ∈ x.props, PropRepr p

theorem good_of_repr {ds : List DocT} (r : RdfRepr ds) {x : SecT} (hx : x ∈ docSecs ds) : Good ds x :=
  ⟨hx, r.secs x hx, fun p hp => r.props p (mem_flatMap.mpr ⟨x, hx, hp⟩)⟩

theorem perm_small {α} {l m : List α} (h : l.Perm m) (hm : m.length ≤ 1) : l = m := by
  match m, hm with
  | [], _ => exact perm_nil.mp h
  | [a], _ => exact perm_singleton.mp h

theorem attrObjs_small (chk : PyVal → Bool) (conv : String → PyVal → Term) (a : Attrs) (k : String) :
    (attrObjs chk conv a k).length ≤ 1 := by
  unfold attrObjs
  split
  · split <;> simp
  · simp

theorem lookup_filterMap_not_mem {F : String × String → Option PyVal} {k : String} :
    ∀ (l : List (String × String)), k ∉ l.map (·.1) →
      (l.filterMap (fun kp => (F kp).map (fun v => (kp.1, v)))).lookup k = none
  | [], _ => rfl
  | y :: l, hn => by
    rw [map_cons, mem_cons, not_or] at hn
    rw [filterMap_cons]
    cases F y with
    | none => exact lookup_filterMap_not_mem l hn.2
    | some w =>
      rw [Option.map_some, lookup_cons, beq_false_of_ne hn.1]
      exact lookup_filterMap_not_mem l hn.2

theorem lookup_filterMap_mem {F : String × String → Option PyVal} :
    ∀ (l : List (String × String)), (l.map (·.1)).Nodup → ∀ kp ∈ l,
      (l.filterMap (fun kp => (F kp).map (fun v => (kp.1, v)))).lookup kp.1 = F kp
  | x :: l, nd, kp, h => by
    rw [map_cons, nodup_cons] at nd
    rw [filterMap_cons]
    rcases mem_cons.mp h with rfl | h
    · cases hF : F kp with
      | none => exact lookup_filterMap_not_mem l nd.1
      | some v => rw [Option.map_some, lookup_cons, beq_self_eq_true]
    · have hne : kp.1 ≠ x.1 := fun e => nd.1 (e ▸ mem_map_of_mem h)
      cases F x with
      | none => exact lookup_filterMap_mem l nd.2 kp h
      | some w =>
        rw [Option.map_some, lookup_cons, beq_false_of_ne hne]
        exact lookup_filterMap_mem l nd.2 kp h
theorem readAttrs_eq (g : Graph) (uri : Term) (tbl : List (String × String)) :
    readAttrs g uri tbl = (plainKeys tbl).filterMap (fun kp =>
      ((objects g uri (.iri kp.2.toList)).head?.map (importAttr kp.1)).map (fun v => (kp.1, v))) := by
  unfold readAttrs
  congr 1
  funext kp
  cases objects g uri (.iri kp.2.toList) <;> rfl

theorem plainKeys_nodup {tbl : List (String × String)} (ok : KeysOK tbl) :
    ((plainKeys tbl).map (·.1)).Nodup :=
  ok.keysNodup.sublist ((filter_sublist).map _)

theorem mem_plainKeys {tbl : List (String × String)} {kp : String × String} (h : kp ∈ plainKeys tbl) :
    kp ∈ tbl ∧ kp.1 ≠ "id" ∧ kp.1 ≠ "sections" ∧ kp.1 ≠ "properties" ∧ kp.1 ≠ "value" := by
  simp only [plainKeys, mem_filter, Bool.not_eq_true', Bool.or_eq_false_iff, beq_eq_false_iff_ne] at h
  exact ⟨h.1, h.2.1.1.1, h.2.1.1.2, h.2.1.2, h.2.2⟩

theorem readAttrs_equiv {tbl : List (String × String)} (ok : KeysOK tbl) (chk : PyVal → Bool)
    (conv : String → PyVal → Term) (g : Graph) (uri : Term) (a : Attrs)
    (facts : ∀ kp ∈ tbl, kp.1 ≠ "id" → kp.1 ≠ "sections" → kp.1 ≠ "properties" → kp.1 ≠ "value" →
      (objects g uri (.iri kp.2.toList)).Perm (attrObjs chk conv a kp.1))
    (repr : AttrsRepr tbl a)
    (hconv : ∀ k v, k ∈ tbl.map (·.1) → k ∈ cmpKeys → reprVal k v = true →
      chk v = true ∧ valEq false k (some v) (some (importAttr k (conv k v)))) :
    attrsEq false a (readAttrs g uri tbl) := by
  intro k hk
  rw [readAttrs_eq]
  by_cases hmem : k ∈ (plainKeys tbl).map (·.1)
  · obtain ⟨kp, hkp, rfl⟩ := mem_map.mp hmem
    rw [lookup_filterMap_mem _ (plainKeys_nodup ok) kp hkp]
    obtain ⟨m, m1, m2, m3, m4⟩ := mem_plainKeys hkp
    rw [perm_small (facts kp m m1 m2 m3 m4) (attrObjs_small _ _ _ _)]
    unfold attrObjs
    cases hl : a.lookup kp.1 with
    | none => simp [valEq]
    | some v =>
      have hr := (repr kp.1 v hl).2 hk
      obtain ⟨c1, c2⟩ := hconv kp.1 v (mem_map_of_mem m) hk hr
      simp only [c1, if_true, head?_cons, Option.map_some]
      exact c2
  · rw [lookup_filterMap_not_mem _ hmem]
    cases hl : a.lookup k with
    | none => simp [valEq]
    | some v => exact absurd (repr k v hl).1 hmem

theorem pyStrOf_typed (s dt : Str) (h : (dt == xsdBoolean) = false) : pyStrOf (.lit s dt) = s := by
  unfold pyStrOf
  simp only [h, Bool.false_eq_true, if_false]

theorem plain_ne_boolean : (([] : Str) == xsdBoolean) = false := by
  unfold xsdBoolean xsdNs
  rw [String.toList_ofList]
  rfl

theorem double_ne_boolean : (xsdDouble == xsdBoolean) = false := by
  refine beq_eq_false_iff_ne.mpr fun e => absurd (append_cancel_left e) ?_
  rw [String.toList_ofList, String.toList_ofList]
  decide

theorem date_ne_boolean : (xsdDate == xsdBoolean) = false := by
  refine beq_eq_false_iff_ne.mpr fun e => absurd (append_cancel_left e) ?_
  rw [String.toList_ofList, String.toList_ofList]
  decide

theorem pyStrOf_plain (s : Str) : pyStrOf (.lit s []) = s := pyStrOf_typed s [] plain_ne_boolean

theorem ne_repository {k : String} (hk : k ∈ cmpKeys) : (k == "repository") = false := by
  simp only [cmpKeys, mem_cons, mem_nil_iff, or_false] at hk
  rcases hk with rfl | rfl | rfl | rfl | rfl | rfl | rfl | rfl | rfl | rfl | rfl <;> decide

/-- The literal is `Literal(v, datatype=XSD.date)` for the Document date, `Literal(v)` otherwise;
    the uncertainty comes back as text. -/
theorem importAttr_repr {k : String} {v : PyVal} (hr : reprVal k v = true) :
    v.isSet = true ∧ (k ≠ "uncertainty" → v.truthy = true) ∧
      valEq false k (some v) (some (importAttr k (if k == "date" then v.toDateLit else v.toLit))) := by
  cases v with
  | str s =>
    simp only [reprVal, Bool.and_eq_true, bne_iff_ne] at hr
    refine ⟨hr.1, fun _ => hr.1, ?_⟩
    simp only [beq_eq_false_iff_ne.mpr hr.2, Bool.false_eq_true, if_false, PyVal.toLit, importAttr,
      pyStrOf_plain]
    unfold valEq; split <;> rfl
  | float r =>
    cases eq_of_beq hr
    exact ⟨rfl, fun h => absurd rfl h, by
      simp [valEq, PyVal.toLit, importAttr, PyVal.lex, pyStrOf_typed _ _ double_ne_boolean]⟩
  | date d =>
    cases eq_of_beq hr
    exact ⟨rfl, fun _ => rfl, by
      simp [valEq, PyVal.toDateLit, importAttr, pyStrOf_typed _ _ date_ne_boolean]⟩
  | int i => cases hr

theorem lookup_of_mem {k v : String} {tbl : List (String × String)}
    (nd : (tbl.map (·.1)).Nodup) (h : (k, v) ∈ tbl) : tbl.lookup k = some v := by
  obtain ⟨l₁, l₂, rfl⟩ := append_of_mem h
  refine lookup_eq_some_iff.mpr ⟨l₁, l₂, rfl, fun p hp => bne_iff_ne.mpr fun e => ?_⟩
  rw [map_append, map_cons] at nd
  exact (nodup_append.mp nd).2.2 _ (mem_map_of_mem hp) _ mem_cons_self e.symm

theorem readId_iri {tbl : List (String × String)} {s i : Str} (h : (tbl.lookup "id").isSome)
    (hs : afterHash s = some i) : readId (.iri s) tbl = .ok i := by
  obtain ⟨p, hl⟩ := Option.isSome_iff_exists.mp h
  simp only [readId, hl, hs]

theorem readId_node (id : Str) {tbl : List (String × String)} (h : (tbl.lookup "id").isSome) :
    readId (node id) tbl = .ok id :=
  readId_iri h (afterHash_ns id)

/-- `pairs` without the `some` (`pairs_eq`). -/
def enum : Nat → List Lit → List (Nat × Term)
  | _, [] => []
  | k, v :: vs => (k, v.toTerm) :: enum (k + 1) vs

theorem pairs_eq (k : Nat) (vs : List Lit) : pairs k vs = (enum k vs).map some := by
  induction vs generalizing k with
  | nil => rfl
  | cons v vs ih => simp [pairs, enum, ih]

theorem enum_lb : ∀ (k : Nat) (vs : List Lit), ∀ x ∈ enum k vs, k ≤ x.1
  | _, [], _, h => by simp [enum] at h
  | k, v :: vs, x, h => by
    simp only [enum, mem_cons] at h
    rcases h with rfl | h
    · exact Nat.le_refl _
    · exact Nat.le_of_succ_le (enum_lb (k + 1) vs x h)

theorem enum_sorted : ∀ (k : Nat) (vs : List Lit), (enum k vs).Pairwise (fun a b => a.1 < b.1)
  | _, [] => Pairwise.nil
  | k, v :: vs => by
    simp only [enum, pairwise_cons]
    exact ⟨fun x hx => enum_lb (k + 1) vs x hx, enum_sorted (k + 1) vs⟩

theorem enum_snd (k : Nat) (vs : List Lit) : (enum k vs).map (·.2) = vs.map Lit.toTerm := by
  induction vs generalizing k with
  | nil => rfl
  | cons v vs ih => simp [enum, ih]

theorem allSome_eq {α} : ∀ {l : List (Option α)}, (∀ x ∈ l, x.isSome) → allSome l = some (l.filterMap id)
  | [], _ => rfl
  | none :: _, h => nomatch h none mem_cons_self
  | some a :: l, h => by
    rw [allSome, allSome_eq fun x hx => h x (mem_cons_of_mem _ hx)]; rfl

theorem sort_unique {ps m : List (Nat × Term)} (h : ps.Perm m)
    (sorted : m.Pairwise (fun a b => a.1 < b.1)) : ps.mergeSort leIdx = m := by
  have hs : (ps.mergeSort leIdx).Pairwise (fun a b => leIdx a b = true) :=
    pairwise_mergeSort (le := leIdx)
      (fun a b c h1 h2 => by simp only [leIdx, decide_eq_true_eq] at *; omega)
      (fun a b => by simp only [leIdx, Bool.or_eq_true, decide_eq_true_eq]; omega) ps
  have hm : m.Pairwise (fun a b => leIdx a b = true) :=
    sorted.imp (fun h => by simp only [leIdx, decide_eq_true_eq]; omega)
  have hp : (ps.mergeSort leIdx).Perm m := (mergeSort_perm ps leIdx).trans h
  refine Perm.eq_of_pairwise (fun a b ha hb h1 h2 => ?_) hs hm hp
  simp only [leIdx, decide_eq_true_eq] at h1 h2
  -- two members of a strictly increasing list with the same key are the same
  exact Pairwise.forall_of_forall_of_flip (R := fun a b => a.1 = b.1 → a = b) (fun _ _ _ => rfl)
    (sorted.imp fun h e => absurd e (Nat.ne_of_lt h))
    (sorted.imp fun h e => absurd e.symm (Nat.ne_of_lt h)) (hp.mem_iff.mp ha) hb (by omega)

theorem termToLit_toTerm (v : Lit) : termToLit v.toTerm = v := rfl

theorem readSeq_ok {g : Graph} {seq : Term} {vs : List Lit} (h : (seqPairs g seq).Perm (pairs 1 vs)) :
    ∃ ts, readSeq g seq = .ok ts ∧ ts.map termToLit = vs := by
  rw [pairs_eq] at h
  have hall : ∀ x ∈ seqPairs g seq, x.isSome := fun x hx => by
    obtain ⟨a, _, rfl⟩ := mem_map.mp (h.mem_iff.mp hx); rfl
  have e2 : ((seqPairs g seq).filterMap id).Perm (enum 1 vs) := by
    simpa [filterMap_map] using h.filterMap id
  rw [readSeq, allSome_eq hall]
  refine ⟨_, rfl, ?_⟩
  rw [sort_unique e2 (enum_sorted 1 vs), enum_snd, map_map]
  simp [Function.comp_def, termToLit_toTerm]

theorem hasName_of_equiv {a b : Attrs} (h : attrsEq false a b) (hn : (a.lookup "name").isSome) :
    hasName b = true := by
  have := h "name" (by decide)
  simp only [valEq, Bool.not_false, Bool.true_and, show ("name" == "uncertainty") = false by decide,
    Bool.false_eq_true, if_false] at this
  rw [hasName, ← this]; exact hn

theorem parseProperty_ok (ok : TablesOK) {g : Graph} {ds : List DocT} (f : Facts g ds) {p : PropT}
    (hp : p ∈ docProps ds) (r : PropRepr p) :
    ∃ q, parseProperty g (node p.id) = .ok q ∧ propEquiv false p q := by
  obtain ⟨vp, hv⟩ := ok.propValue
  have hattr : attrsEq false p.attrs (readAttrs g (node p.id) Gen.Format.propertyRdfMap) := by
    apply readAttrs_equiv ok.prop.keys PyVal.isSet propConv g _ p.attrs
    · exact fun kp m h1 _ _ h4 => f.propAttr p hp kp m h1 h4
    · exact r.1
    · intro k v hmem hk hr
      have h := importAttr_repr hr
      rw [beq_eq_false_iff_ne.mpr fun (e : k = "date") => ok.propNoDate (e ▸ hmem)] at h
      exact ⟨h.1, h.2.2⟩
  have hname := hasName_of_equiv hattr r.2
  rw [parseProperty, readId_node _ ok.propId]
  simp only [childObjects, lookup_of_mem ok.prop.keys.keysNodup hv]
  have hval := f.propValue p hp vp hv
  by_cases he : p.values = []
  · simp only [he, isEmpty_nil, if_true] at hval
    rw [perm_nil.mp hval]
    simp only [hname, if_true]
    exact ⟨_, rfl, rfl, hattr, he⟩
  · have : p.values.isEmpty = false := by simpa using he
    simp only [this, Bool.false_eq_true, if_false] at hval
    rw [perm_singleton.mp hval]
    obtain ⟨ts, e1, e2⟩ := readSeq_ok (f.propSeq p hp)
    simp only [e1, hname, if_true]
    exact ⟨_, rfl, rfl, hattr, e2.symm⟩

mutual
/-- Nesting depth of a Section: the fuel `parseSection` needs. -/
def depth : SecT → Nat
  | .mk _ _ _ ss => depthL ss + 1
def depthL : List SecT → Nat
  | [] => 0
  | s :: r => max (depth s) (depthL r)
end

theorem withDefaultType_id {a b : Attrs} (h : attrsEq false a b) (ht : (a.lookup "type").isSome) :
    withDefaultType b = b := by
  have := h "type" (by decide)
  simp only [valEq, Bool.not_false, Bool.true_and, show ("type" == "uncertainty") = false by decide,
    Bool.false_eq_true, if_false] at this
  unfold withDefaultType
  rw [← this, if_pos ht]

theorem mem_allSecs_self (s : SecT) : s ∈ allSecs s := by
  obtain ⟨id, a, ps, ss⟩ := s
  rw [allSecs]; simp

theorem allSecs_sub (id : Str) (a : Attrs) (ps : List PropT) (ss : List SecT) :
    ∀ x ∈ allSecsL ss, x ∈ allSecs (.mk id a ps ss) := by
  intro x hx; rw [allSecs]; simp [hx]

section reader
variable (ok : TablesOK) {g : Graph} {ds : List DocT} (f : Facts g ds)
include ok f

theorem parseProps_ok (s : SecT) (hs : Good ds s) :
    ∃ qs, mapE (parseProperty g) (s.props.map (fun p => node p.id)) = .ok qs ∧
      All2 (propEquiv false) s.props qs := by
  apply mapE_map_ok (f := parseProperty g) (k := fun p : PropT => node p.id) (R := propEquiv false)
  intro p hp
  have hmem : p ∈ docProps ds := by
    unfold docProps
    exact mem_flatMap.mpr ⟨s, hs.1, hp⟩
  exact parseProperty_ok ok f hmem (hs.2.2 p hp)

set_option linter.unusedSectionVars false in
mutual
theorem parseSection_ok :
    ∀ (s : SecT), (∀ x ∈ allSecs s, Good ds x) → ∀ fuel, depth s ≤ fuel →
      ∃ t, parseSection g fuel (node s.id) = .ok t ∧ secEquiv false s t
  | .mk id a ps ss, H, fuel, hf => by
    have hself : Good ds (.mk id a ps ss) := H _ (mem_allSecs_self _)
    obtain ⟨p1, h1⟩ := ok.secSecs
    obtain ⟨p2, h2⟩ := ok.secProps
    cases fuel with
    | zero => rw [depth] at hf; omega
    | succ fuel =>
      rw [depth] at hf
      obtain ⟨ts, hts, ets⟩ := parseSections_ok ss (fun x hx => H x (allSecs_sub id a ps ss x hx)) fuel
        (by omega)
      obtain ⟨qs, hqs, eqs⟩ := parseProps_ok ok f _ hself
      have hattr : attrsEq false a (readAttrs g (node id) Gen.Format.sectionRdfMap) := by
        apply readAttrs_equiv ok.sec.keys PyVal.truthy secConv g _ a
        · exact fun kp m h1 h2 h3 _ => f.secAttr _ hself.1 kp m h1 h2 h3
        · exact hself.2.1.1
        · intro k v hmem hk hr
          have h := importAttr_repr hr
          rw [beq_eq_false_iff_ne.mpr fun (e : k = "date") => ok.secNoDate (e ▸ hmem)] at h
          rw [secConv, ne_repository hk]
          exact ⟨h.2.1 fun e => ok.secNoUnc (e ▸ hmem), h.2.2⟩
      have hname := hasName_of_equiv hattr hself.2.1.2.1
      obtain ⟨r1, er1, pr1⟩ := mapE_perm (f.secKids _ hself.1 p1 h1) ts hts
      obtain ⟨r2, er2, pr2⟩ := mapE_perm (f.secPropKids _ hself.1 p2 h2) qs hqs
      rw [parseSection, readId_node _ ok.secId]
      simp only [childObjects, lookup_of_mem ok.sec.keys.keysNodup h1,
        lookup_of_mem ok.sec.keys.keysNodup h2]
      simp only [SecT.id] at er1 er2
      simp only [SecT.id, er1, er2, hname, if_true, withDefaultType_id hattr hself.2.1.2.2]
      refine ⟨_, rfl, ?_⟩
      simp only [secEquiv, SecT.id, SecT.attrs, SecT.props, SecT.subs, true_and]
      exact ⟨hattr, ⟨qs, pr2, eqs⟩, ⟨ts, pr1, ets⟩⟩
theorem parseSections_ok :
    ∀ (ss : List SecT), (∀ x ∈ allSecsL ss, Good ds x) → ∀ fuel, depthL ss ≤ fuel →
      ∃ ts, mapE (parseSection g fuel) (ss.map (fun c => node c.id)) = .ok ts ∧ secsEquiv false ss ts
  | [], _, _, _ => ⟨[], rfl, by simp [secsEquiv]⟩
  | s :: r, H, fuel, hf => by
    rw [depthL] at hf
    obtain ⟨t, ht, et⟩ := parseSection_ok s (fun x hx => H x (by rw [allSecsL_cons]; simp [hx])) fuel
      (by omega)
    obtain ⟨ts, hts, ets⟩ := parseSections_ok r (fun x hx => H x (by rw [allSecsL_cons]; simp [hx])) fuel
      (by omega)
    exact ⟨t :: ts, mapE_cons_ok.mpr ⟨t, ts, ht, hts, rfl⟩, by simp only [secsEquiv]; exact ⟨et, ets⟩⟩
end

end reader

mutual
theorem depth_le_count : ∀ s : SecT, depth s ≤ (allSecs s).length
  | .mk id a ps ss => by
    rw [depth, allSecs]
    have := depthL_le_count ss
    simp only [length_cons]; omega
theorem depthL_le_count : ∀ ss : List SecT, depthL ss ≤ (allSecsL ss).length
  | [] => by simp [depthL]
  | s :: r => by
    rw [depthL, allSecsL_cons, length_append]
    have h1 := depth_le_count s
    have h2 := depthL_le_count r
    omega
end

theorem mem_docSecs_of_doc {ds : List DocT} {d : DocT} (hd : d ∈ ds) {x : SecT}
    (hx : x ∈ allSecsL d.secs) : x ∈ docSecs ds := by
  obtain ⟨l1, l2, rfl⟩ := append_of_mem hd
  unfold docSecs
  simp only [flatMap_append, flatMap_cons, allSecsL_append, mem_append]
  exact .inr (.inl hx)

theorem count_doc_le {ds : List DocT} {d : DocT} (hd : d ∈ ds) :
    (allSecsL d.secs).length ≤ (docSecs ds).length := by
  obtain ⟨l1, l2, rfl⟩ := append_of_mem hd
  unfold docSecs
  simp only [flatMap_append, flatMap_cons, allSecsL_append, length_append]
  omega

theorem ownSec_length_pos (cfg : Cfg) (s : SecT) : 1 ≤ (ownSec cfg s).length := by
  obtain ⟨id, a, ps, ss⟩ := s
  unfold ownSec
  rw [length_append]
  have : 1 ≤ (sectionTypeTriples cfg (node id) a).length := by
    unfold sectionTypeTriples; split <;> simp
  omega

theorem length_flatMap_ge {α β} (l : List α) (f : α → List β) (h : ∀ a ∈ l, 1 ≤ (f a).length) :
    l.length ≤ (l.flatMap f).length := by
  induction l with
  | nil => simp
  | cons a l ih =>
    simp only [flatMap_cons, length_cons, length_append]
    have := h a (by simp)
    have := ih (fun b hb => h b (by simp [hb]))
    omega

theorem secs_le_flat (cfg : Cfg) (ds : List DocT) : (docSecs ds).length ≤ (flatGraph cfg ds).length := by
  rw [flatGraph_eq]
  simp only [length_append]
  have := length_flatMap_ge (docSecs ds) (ownSec cfg) (fun s _ => ownSec_length_pos cfg s)
  omega

theorem parseDocument_ok (ok : TablesOK) {g : Graph} {ds : List DocT} (f : Facts g ds)
    (r : RdfRepr ds) {d : DocT} (hd : d ∈ ds) (fuel : Nat) (hf : (docSecs ds).length ≤ fuel) :
    ∃ e, parseDocument g fuel (node d.id) = .ok e ∧ docEquiv false d e := by
  obtain ⟨p1, h1⟩ := ok.docSecs
  have hattr : attrsEq false d.attrs (readAttrs g (node d.id) Gen.Format.documentRdfMap) := by
    apply readAttrs_equiv ok.doc.keys PyVal.truthy docConv g _ d.attrs
    · exact fun kp m h1 h2 _ _ => f.docAttr d hd kp m h1 h2
    · exact r.docs d hd
    · intro k v hmem hk hr
      rw [docConv, ne_repository hk]
      exact ⟨(importAttr_repr hr).2.1 fun e => ok.docNoUnc (e ▸ hmem), (importAttr_repr hr).2.2⟩
  obtain ⟨ts, hts, ets⟩ := parseSections_ok ok f d.secs
    (fun x hx => good_of_repr r (mem_docSecs_of_doc hd hx)) fuel
    (by have := depthL_le_count d.secs; have := count_doc_le hd; omega)
  obtain ⟨r1, er1, pr1⟩ := mapE_perm (f.docKids d hd p1 h1) ts hts
  rw [parseDocument, readId_node _ ok.docId]
  simp only [childObjects, lookup_of_mem ok.doc.keys.keysNodup h1, er1]
  exact ⟨_, rfl, rfl, hattr, ts, pr1, ets⟩

-- `hlen`: the reader's fuel `|g| + 1` suffices (depth ≤ number of Sections ≤ number of triples)
theorem importRdf_ok (ok : TablesOK) {g : Graph} {ds : List DocT} (f : Facts g ds)
    (r : RdfRepr ds) (hlen : (docSecs ds).length ≤ g.length) :
    ∃ es, importRdf g = .ok es ∧ docsEquiv false ds es := by
  obtain ⟨es, h1, h2⟩ := mapE_map_ok (f := parseDocument g (g.length + 1))
    (k := fun d : DocT => node d.id) (R := docEquiv false) ds
    (fun d hd => parseDocument_ok ok f r hd _ (by omega))
  obtain ⟨r1, er1, pr1⟩ := mapE_perm f.hubDocs es h1
  exact ⟨r1, er1, es, pr1, h2⟩

theorem roundtrip_lax (ok : TablesOK) (cfg : Cfg) {ds : List DocT} (wf : WFDocs ds) (r : RdfRepr ds)
    {g : Graph} (h : g.Perm (exportRdf cfg ds)) :
    ∃ es, importRdf g = .ok es ∧ docsEquiv false ds es := by
  apply importRdf_ok ok (facts_export cfg wf ok h) r
  have := secs_le_flat cfg ds
  have e := (h.trans (export_flat cfg ok.secOK ok.docOK ds)).length_eq
  omega

theorem mem_of_lookup {β} {k : String} {v : β} {a : List (String × β)} (h : a.lookup k = some v) : (k, v) ∈ a := by
  obtain ⟨l₁, l₂, rfl, _⟩ := lookup_eq_some_iff.mp h
  simp

/-- The reader builds every attribute value with `importAttr`: a date or a string, never a float. -/
theorem readAttrs_ne_float {g : Graph} {u : Term} {tbl : List (String × String)} {k : String} {r : Str} :
    (readAttrs g u tbl).lookup k ≠ some (.float r) := by
  intro h
  have hm := mem_of_lookup h
  simp only [readAttrs, mem_filterMap] at hm
  obtain ⟨kp, _, hm⟩ := hm
  split at hm
  · cases hm
  · simp only [Option.some.injEq, Prod.mk.injEq, importAttr] at hm
    split at hm <;> cases hm.2

theorem parseProperty_attrs {g : Graph} {u : Term} {q : PropT} (h : parseProperty g u = .ok q) :
    q.attrs = readAttrs g u Gen.Format.propertyRdfMap := by
  unfold parseProperty at h
  split at h
  · cases h
  · simp only at h
    split at h
    · split at h <;> cases h; rfl
    · split at h
      · cases h
      · split at h <;> cases h; rfl

theorem parseSection_props {g : Graph} {fuel : Nat} {u : Term} {t : SecT} (h : parseSection g fuel u = .ok t) :
    ∀ q ∈ t.props, ∃ u', parseProperty g u' = .ok q := by
  cases fuel with
  | zero => cases h
  | succ fuel =>
    unfold parseSection at h
    split at h
    · cases h
    · simp only at h
      split at h
      · cases h
      · split at h
        · cases h
        · rename_i props hprops
          split at h <;> cases h
          exact mapE_mem hprops

theorem parseDocument_secs {g : Graph} {fuel : Nat} {u : Term} {e : DocT} (h : parseDocument g fuel u = .ok e) :
    ∀ t ∈ e.secs, ∃ u', parseSection g fuel u' = .ok t := by
  unfold parseDocument at h
  split at h
  · cases h
  · simp only at h
    split at h
    · cases h
    · rename_i secs hsecs
      cases h
      exact mapE_mem hsecs

theorem import_ne_float {g : Graph} {es : List DocT} (h : importRdf g = .ok es) {e : DocT} (he : e ∈ es)
    {t : SecT} (ht : t ∈ e.secs) {q : PropT} (hq : q ∈ t.props) {k : String} {r : Str} :
    q.attrs.lookup k ≠ some (.float r) := by
  obtain ⟨_, h1⟩ := mapE_mem h e he
  obtain ⟨_, h2⟩ := parseDocument_secs h1 t ht
  obtain ⟨_, h3⟩ := parseSection_props h2 q hq
  rw [parseProperty_attrs h3]
  exact readAttrs_ne_float
theorem attrsEq_strict {a b : Attrs} (h : attrsEq false a b) (hu : a.lookup "uncertainty" = none) :
    attrsEq true a b := by
  intro k hk
  have h := h k hk
  unfold valEq at h ⊢
  by_cases e : k = "uncertainty"
  · subst e
    rw [hu] at h ⊢
    cases hb : b.lookup "uncertainty" <;> simp_all
  · simpa [e] using h

/-- No uncertainty on the Section (it has no such attribute anyway) nor on its Properties. -/
def NoUnc (x : SecT) : Prop :=
  x.attrs.lookup "uncertainty" = none ∧ ∀ p ∈ x.props, p.attrs.lookup "uncertainty" = none

mutual
theorem secEquiv_strict : ∀ (s t : SecT), (∀ x ∈ allSecs s, NoUnc x) →
    secEquiv false s t → secEquiv true s t
  | .mk id a ps ss, t, hu, h => by
    simp only [secEquiv] at h ⊢
    obtain ⟨h1, h2, ⟨m1, p1, e1⟩, ⟨m2, p2, e2⟩⟩ := h
    have hself := hu _ (mem_allSecs_self _)
    simp only [NoUnc, SecT.props, SecT.attrs] at hself
    exact ⟨h1, attrsEq_strict h2 hself.1,
      ⟨m1, p1, e1.imp_mem fun p hp _ hq => ⟨hq.1, attrsEq_strict hq.2.1 (hself.2 p hp), hq.2.2⟩⟩,
      ⟨m2, p2, secsEquiv_strict ss m2 (fun x hx => hu x (allSecs_sub id a ps ss x hx)) e2⟩⟩
theorem secsEquiv_strict : ∀ (ss ts : List SecT), (∀ x ∈ allSecsL ss, NoUnc x) →
    secsEquiv false ss ts → secsEquiv true ss ts
  | [], [], _, _ => by simp [secsEquiv]
  | s :: r, t :: u, hu, h => by
    simp only [secsEquiv] at h ⊢
    exact ⟨secEquiv_strict s t (fun x hx => hu x (by rw [allSecsL_cons]; simp [hx])) h.1,
      secsEquiv_strict r u (fun x hx => hu x (by rw [allSecsL_cons]; simp [hx])) h.2⟩
  | [], _ :: _, _, h => by simp [secsEquiv] at h
  | _ :: _, [], _, h => by simp [secsEquiv] at h
end

theorem docsEquiv_strict {ds es : List DocT} (h : docsEquiv false ds es)
    (hd : ∀ d ∈ ds, d.attrs.lookup "uncertainty" = none) (hs : ∀ x ∈ docSecs ds, NoUnc x) :
    docsEquiv true ds es := by
  obtain ⟨mid, p, e⟩ := h
  exact ⟨mid, p, e.imp_mem fun d hd' _ ⟨e1, e2, mid', p', e3⟩ => ⟨e1, attrsEq_strict e2 (hd d hd'),
    mid', p', secsEquiv_strict _ _ (fun x hx => hs x (mem_docSecs_of_doc hd' hx)) e3⟩⟩

theorem attrsRepr_of_B {tbl : List (String × String)} {a : Attrs} (h : attrsReprB tbl a = true) :
    AttrsRepr tbl a := by
  intro k v hl
  have hm := mem_of_lookup hl
  simp only [attrsReprB, all_eq_true, Bool.and_eq_true, Bool.or_eq_true, Bool.not_eq_true',
    contains_iff_mem] at h
  obtain ⟨h1, h2⟩ := h (k, v) hm
  refine ⟨by simpa using h1, ?_⟩
  intro hk
  rcases h2 with h2 | h2
  · simp only at h2
    have : cmpKeys.contains k = true := by simpa using hk
    rw [this] at h2; cases h2
  · exact h2

theorem rdfRepr_of_B {ds : List DocT} (h : rdfReprB ds = true) : RdfRepr ds := by
  simp only [rdfReprB, Bool.and_eq_true, all_eq_true] at h
  refine ⟨fun d hd => attrsRepr_of_B (h.1.1 d hd), fun s hs => ?_, fun p hp => ?_⟩
  · have := h.1.2 s hs
    simp only [secReprB, Bool.and_eq_true] at this
    exact ⟨attrsRepr_of_B this.1.1, this.1.2, this.2⟩
  · have := h.2 p hp
    simp only [propReprB, Bool.and_eq_true] at this
    exact ⟨attrsRepr_of_B this.1, this.2⟩

theorem wfDocs_of_B {ds : List DocT} (h : wfDocsB ds = true) : WFDocs ds := by
  simpa [wfDocsB, WFDocs] using h

end Rdf
