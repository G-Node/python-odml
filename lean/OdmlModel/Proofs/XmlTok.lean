/-
Helper lemmas for the temporal value objects of C01 (`Model/XmlTok.lean`).
The `strptime` round trips of `Proofs/DTypes.lean` (C05) are reused.
-/
import OdmlModel.Model.XmlTok
import OdmlModel.Model.XmlRepr
import OdmlModel.Proofs.DTypes
import OdmlModel.Proofs.Xml

namespace Xml
open Py DT

theorem hms_ne_nil (t : Time) : t.hms ≠ [] := by simp [Time.hms, pad2]

theorem strip_hms (t : Time) : strip t.hms = t.hms := by
  simp [strip, rstrip, Time.hms, pad2, lstrip, dc_not_space]

theorem iso_of_us0 {t : Time} (h : t.us = 0) : t.iso = t.hms := by simp [Time.iso, h]

theorem strip_dateIso (d : Date) : strip d.iso = d.iso := by
  simp [strip, rstrip, Date.iso, pad2, pad4, lstrip, dc_not_space]

theorem dateIso_ne_nil (d : Date) : d.iso ≠ [] := by simp [Date.iso, pad4]

theorem strip_dtStr {x : DateTime} (hus : x.time.us = 0) : strip x.str = x.str := by
  have e : x.str = digitChar (x.date.y / 1000) ::
      (([digitChar (x.date.y / 100), digitChar (x.date.y / 10), digitChar x.date.y] ++ ['-'] ++
        pad2 x.date.m ++ ['-'] ++ pad2 x.date.d ++ [' '] ++
        [digitChar (x.time.h / 10), digitChar x.time.h, ':', digitChar (x.time.mi / 10),
         digitChar x.time.mi, ':', digitChar (x.time.s / 10)]) ++ [digitChar x.time.s]) := by
    simp [DateTime.str, Date.iso, Time.iso, Time.hms, hus, pad2, pad4]
  rw [e]
  exact strip_ends _ (dc_not_space _) (dc_not_space _)

theorem dtStr_ne_nil (x : DateTime) : x.str ≠ [] := by simp [DateTime.str, Date.iso, pad4]

theorem valid_us0 {t : Time} (h : t.valid = true) : ({ t with us := 0 } : Time).valid = true := by
  simp only [Time.valid, Bool.and_eq_true, decide_eq_true_eq] at h ⊢
  omega

/-- what `xml_roundtrip` asks of a stored token (`valOk`), from the library's own converter -/
theorem valOk_std {kind : String} {s : Str} (hk : kind ∈ tokKinds) (hne : s ≠ [])
    (hst : strip s = s) (h : stdTok kind s = some s) : valOk stdLib kind.toList (.tok s) = true := by
  cases s with
  | nil => exact absurd rfl hne
  | cons _ _ => simp [valOk, hk, tokOk, stdLib, h, hst]

theorem valOk_time {s : Time} (h : s.valid = true) (hus : s.us = 0) :
    valOk stdLib "time".toList (.tok s.iso) = true := by
  have hp : parseTime s.hms = some s := by
    rw [parseTime_hms h]; cases s; simp at hus; simp [hus]
  exact valOk_std (by decide) (iso_of_us0 hus ▸ hms_ne_nil s) (iso_of_us0 hus ▸ strip_hms s)
    (by simp [stdTok, iso_of_us0 hus, hp])

theorem valOk_date {d : Date} (h : d.valid = true) :
    valOk stdLib "date".toList (.tok d.iso) = true :=
  valOk_std (by decide) (dateIso_ne_nil d) (strip_dateIso d) (by simp [stdTok, parseDate_iso h])

theorem valOk_datetime {x : DateTime} (h : x.valid = true) (hus : x.time.us = 0) :
    valOk stdLib "datetime".toList (.tok x.str) = true :=
  valOk_std (by decide) (dtStr_ne_nil x) (strip_dtStr hus)
    (by simp [stdTok, parseDateTime_str h hus])

end Xml
