/-
C15, lemmas about the model of the version converter: the csv text of the values, the sibling
names of stage 1 (`_change_entity_name` against the counting specification `names10`), and
`_handle_value` as a fold of one step (`liftOne`).
-/
import OdmlModel.Model.Conv
import OdmlModel.Proofs.Str
import OdmlModel.Proofs.Csv

namespace Conv
open Conv.Xml

@[simp] theorem tag_elem (t a x k) : (Xml.elem t a x k).tag = t := rfl
@[simp] theorem attrs_elem (t a x k) : (Xml.elem t a x k).attrs = a := rfl
@[simp] theorem text_elem (t a x k) : (Xml.elem t a x k).text = x := rfl
@[simp] theorem kids_elem (t a x k) : (Xml.elem t a x k).kids = k := rfl

theorem collect_eq (vals : List (List Char)) (t : List Char) :
    collect vals t = if Py.strip t ≠ [] then vals ++ [t] else vals := by
  unfold collect
  by_cases ht : t = []
  · subst ht; simp [Py.strip_nil]
  · simp [ht]

theorem valueLoop_vals (pid : PropId) (vals : List Xml) (s : VState) :
    (valueLoop pid vals s).vals =
      s.vals ++ (vals.map Xml.text).filter (fun t => decide (Py.strip t ≠ [])) := by
  induction vals generalizing s with
  | nil => simp [valueLoop]
  | cons v vs ih =>
    simp only [valueLoop, List.map_cons, List.filter_cons]
    rw [ih]
    simp only [collect_eq]
    by_cases h : Py.strip v.text = [] <;> simp [h]

/-- The values among the texts `ts`: stripped, blank ones left out (`vals10` on texts). -/
def stripped (ts : List (List Char)) : List (List Char) :=
  ts.filterMap (fun t => if Py.strip t = [] then none else some (Py.strip t))

theorem map_strip_filter (ts : List (List Char)) :
    (ts.filter (fun t => decide (Py.strip t ≠ []))).map Py.strip = stripped ts := by
  induction ts with
  | nil => rfl
  | cons t ts ih =>
    by_cases h : Py.strip t = []
    · simp [stripped, h] at ih ⊢; exact ih
    · simp [stripped, h] at ih ⊢; exact ih

theorem fromCsv_mainText (ws : List (List Char)) :
    fromCsv (mainText false ws) = some (ws.map Py.strip) := by
  simp [fromCsv, mainText, _root_.Xml.fromCsv_toCsv]

/-- The text written for a non-empty list of non-blank values is not blank (so the reader
    does not skip the element). -/
theorem strip_mainText_ne_nil (ws : List (List Char)) (hne : ws ≠ [])
    (hv : ∀ w ∈ ws, Py.strip w ≠ []) : Py.strip (mainText false ws) ≠ [] := by
  have h := _root_.Xml.fromCsv_toCsv ws
  simp only [mainText, Bool.false_eq_true, ↓reduceIte]
  generalize _root_.Xml.toCsv ws = t at h
  unfold _root_.Xml.fromCsv at h
  split at h
  · -- empty text: read as no value
    cases ws with
    | nil => exact absurd rfl hne
    | cons w ws => simp at h
  · split at h
    · -- bracketed: starts with '['
      rename_i hb
      cases t with
      | nil => simp [_root_.Xml.bracketed] at hb
      | cons c cs =>
        have hc : c = '[' := by
          simp only [_root_.Xml.bracketed, List.head?_cons, Bool.and_eq_true, beq_iff_eq,
            Option.some.injEq] at hb
          exact hb.1
        subst hc
        have := Py.strip_ne_nil_of_part [] ['['] cs (by decide)
        simpa using this
    · -- a single value, written as it is (stripped)
      cases ws with
      | nil => exact absurd rfl hne
      | cons w ws =>
        simp only [List.map_cons, Except.ok.injEq, List.cons.injEq] at h
        have hw := hv w (by simp)
        rw [h.1]
        have := Py.strip_ne_nil_of_part [] (Py.strip w) [] (Py.strip_not_all_space w hw)
        simpa using this

theorem propCleanup_append (pid : PropId) (a b : List Xml) :
    (propCleanup pid (a ++ b)).1 = (propCleanup pid a).1 ++ (propCleanup pid b).1 := by
  induction a with
  | nil => simp [propCleanup]
  | cons k ks ih =>
    simp only [List.cons_append, propCleanup]
    split <;> simp [ih]

theorem value_in_propKeys : "value" ∈ propKeys := by decide

theorem propCleanup_value (pid : PropId) (x : List Char) :
    (propCleanup pid [leaf "value" x]).1 = [leaf "value" x] := by
  have h2 : respell "value" = "value" := by decide
  simp [propCleanup, leaf, value_in_propKeys, h2]

theorem findLast_concat (t : String) (ks : List Xml) (k : Xml) (h : k.tag = t) :
    findLast t (ks ++ [k]) = some k := by
  simp [findLast, find, h]

theorem sep_split_inj (x y p q : List Char) (hx : '-' ∉ x) (hy : '-' ∉ y)
    (h : x ++ '-' :: p = y ++ '-' :: q) : x = y ∧ p = q := by
  induction x generalizing y with
  | nil =>
    cases y with
    | nil => simpa using h
    | cons c y' =>
      simp only [List.nil_append, List.cons_append, List.cons.injEq] at h
      exact absurd h.1.symm (by intro hc; apply hy; simp [hc])
  | cons c x' ih =>
    cases y with
    | nil =>
      simp only [List.nil_append, List.cons_append, List.cons.injEq] at h
      exact absurd h.1 (by intro hc; apply hx; simp [hc])
    | cons c' y' =>
      simp only [List.cons_append, List.cons.injEq] at h
      have := ih y' (by intro hm; apply hx; simp [hm]) (by intro hm; apply hy; simp [hm]) h.2
      exact ⟨by rw [h.1, this.1], this.2⟩

theorem dash_not_in_digits (k : Nat) : '-' ∉ Py.natToDigits k := by
  intro h
  have hall := Py.natToDigits_all_digit k
  simp only [List.all_eq_true] at hall
  have := Py.isDigit_bounds (hall _ h)
  simp at this

theorem natToDigits_inj {j k : Nat} (h : Py.natToDigits j = Py.natToDigits k) : j = k :=
  Function.LeftInverse.injective Py.natOfDigits_natToDigits h

theorem suffix_inj {a b : List Char} {j k : Nat} (h : suffix a j = suffix b k) : a = b ∧ j = k := by
  unfold suffix at h
  have h' := congrArg List.reverse h
  simp only [List.reverse_append, List.reverse_cons, List.append_assoc, List.singleton_append] at h'
  have := sep_split_inj _ _ _ _ (by simpa using dash_not_in_digits j)
    (by simpa using dash_not_in_digits k) h'
  exact ⟨by simpa using this.2, natToDigits_inj (by simpa using this.1)⟩

theorem nextFree_ge (n : List Char) (used : List (List Char)) (fuel k : Nat) :
    k ≤ nextFree n used fuel k := by
  induction fuel generalizing k with
  | zero => simp [nextFree]
  | succ f ih =>
    simp only [nextFree]
    split
    · have := ih (k + 1); omega
    · exact Nat.le_refl k

/-- With the first candidate free, it is taken (the behaviour before the repair). -/
theorem nextFree_of_free (n : List Char) (used : List (List Char)) (fuel k : Nat)
    (h : suffix n k ∉ used) : nextFree n used fuel k = k := by
  cases fuel with
  | zero => rfl
  | succ f => simp [nextFree, h]

/-- `used'`: what is left of `used` after erasing one found name per round; it agrees with `used`
    on the candidates from `k` on, and its length bounds the rounds still needed. -/
theorem nextFree_free_aux (n : List Char) (used : List (List Char)) (fuel : Nat) :
    ∀ (used' : List (List Char)) (k : Nat), used'.length ≤ fuel →
      (∀ j, k ≤ j → (suffix n j ∈ used ↔ suffix n j ∈ used')) →
      suffix n (nextFree n used fuel k) ∉ used := by
  induction fuel with
  | zero =>
    intro used' k hl hiff
    have : used' = [] := List.eq_nil_of_length_eq_zero (by omega)
    subst this
    simp only [nextFree]
    intro hm
    have := (hiff k (Nat.le_refl k)).1 hm
    simp at this
  | succ f ih =>
    intro used' k hl hiff
    simp only [nextFree]
    split
    · rename_i hm
      have hm' : suffix n k ∈ used' := (hiff k (Nat.le_refl k)).1 hm
      apply ih (used'.erase (suffix n k)) (k + 1)
      · rw [List.length_erase_of_mem hm']
        have : 0 < used'.length := List.length_pos_of_mem hm'
        omega
      · intro j hj
        have hne : suffix n j ≠ suffix n k := by
          intro e
          have := (suffix_inj e).2
          omega
        rw [hiff j (by omega), List.mem_erase_of_ne hne]
    · assumption

/-- The loop of `_change_entity_name` ends with a name no other sibling has. -/
theorem nextFree_free (n : List Char) (used : List (List Char)) (k : Nat) :
    suffix n (nextFree n used used.length k) ∉ used :=
  nextFree_free_aux n used used.length used k (Nat.le_refl _) (fun _ _ => Iff.rfl)

/-- The names a group of siblings gets (specification): `prev` are the source names of the
    earlier siblings, `done` the names they got. -/
def names10 (done prev : List (List Char)) : List (List Char) → List (List Char)
  | [] => []
  | n :: rest =>
    name10 (done ++ rest) prev n :: names10 (done ++ [name10 (done ++ rest) prev n]) (n :: prev) rest

theorem name10_not_in_done (done rest prev : List (List Char)) (n : List Char)
    (hb : n ∈ done → prev.count n ≠ 0) : name10 (done ++ rest) prev n ∉ done := by
  unfold name10
  split
  · rename_i hc; exact fun h => hb h hc
  · intro h
    exact nextFree_free n (done ++ rest) _ (List.mem_append_left _ h)

theorem name10_not_in_rest (done rest prev : List (List Char)) (n : List Char)
    (hc : prev.count n ≠ 0) : name10 (done ++ rest) prev n ∉ rest := by
  unfold name10
  rw [if_neg hc]
  intro h
  exact nextFree_free n (done ++ rest) _ (List.mem_append_right _ h)

/-- **Sibling names are unique after suffixing**, for any names and any number of clashes.
    Invariant: the names handed out so far are pairwise different, and a later sibling whose
    source name is among them is not the first with that name. -/
theorem names10_nodup (ns done prev : List (List Char)) (ha : done.Nodup)
    (hb : ∀ x ∈ ns, x ∈ done → prev.count x ≠ 0) : (done ++ names10 done prev ns).Nodup := by
  induction ns generalizing done prev with
  | nil => simpa [names10] using ha
  | cons n rest ih =>
    simp only [names10]
    have hy : name10 (done ++ rest) prev n ∉ done :=
      name10_not_in_done done rest prev n (hb n (by simp))
    have ha' : (done ++ [name10 (done ++ rest) prev n]).Nodup := by
      rw [List.nodup_append]
      refine ⟨ha, by simp, ?_⟩
      intro a ha1 b hb1
      simp only [List.mem_singleton] at hb1
      subst hb1
      intro e; subst e; exact hy ha1
    have hb' : ∀ x ∈ rest, x ∈ done ++ [name10 (done ++ rest) prev n] → (n :: prev).count x ≠ 0 := by
      intro x hx hmem
      simp only [List.mem_append, List.mem_singleton] at hmem
      rcases hmem with hd | he
      · have := hb x (by simp [hx]) hd
        rw [List.count_cons]; split <;> omega
      · by_cases hc : prev.count n = 0
        · have : x = n := by rw [he]; simp [name10, hc]
          subst this
          simp
        · exact absurd (he ▸ hx) (name10_not_in_rest done rest prev n hc)
    have := ih (done ++ [name10 (done ++ rest) prev n]) (n :: prev) ha' hb'
    simpa [List.append_assoc] using this

/-- The names before the repair: the k-th sibling with a name already used gets `-k`. -/
def name10Legacy (prev : List (List Char)) (n : List Char) : List Char :=
  if prev.count n = 0 then n else suffix n (prev.count n + 1)

def names10Legacy (prev : List (List Char)) : List (List Char) → List (List Char)
  | [] => []
  | n :: rest => name10Legacy prev n :: names10Legacy (n :: prev) rest

/-! ## `_change_entity_name` (occurrence map) against the specification (counting) -/

/-- The map records, per name, the number of earlier siblings with that name. -/
def Rep (m : Counter) (prev : List (List Char)) : Prop :=
  ∀ a, m.lookup a = if prev.count a = 0 then none else some (prev.count a)

theorem lookup_setCount (m : Counter) (n a : List Char) (v : Nat) :
    (setCount n v m).lookup a = if a = n then some v else m.lookup a := by
  induction m with
  | nil =>
    by_cases h : a = n
    · simp [setCount, h]
    · have hb : (a == n) = false := by simpa using h
      simp [setCount, List.lookup, h, hb]
  | cons e rest ih =>
    obtain ⟨n', c'⟩ := e
    by_cases hn : n' = n
    · subst hn
      by_cases h : a = n'
      · simp [setCount, h]
      · have hb : (a == n') = false := by simpa using h
        simp [setCount, List.lookup, h, hb]
    · by_cases h : a = n
      · subst h
        have hne : (a == n') = false := by simp; exact fun h => hn h.symm
        simp [setCount, hn, List.lookup, hne, ih]
      · by_cases h2 : a = n'
        · subst h2; simp [setCount, hn, List.lookup]
        · have hne : (a == n') = false := by simp [h2]
          simp [setCount, hn, List.lookup, hne, ih, h]

theorem bump_spec (m : Counter) (used prev : List (List Char)) (n : List Char) (h : Rep m prev) :
    (bump m used n).2 = name10 used prev n ∧ Rep (bump m used n).1 (n :: prev) := by
  have hn := h n
  by_cases hc : prev.count n = 0
  · simp only [hc, ↓reduceIte] at hn
    refine ⟨by simp [bump, hn, name10, hc], ?_⟩
    intro a
    simp only [bump, hn]
    by_cases ha : a = n
    · subst ha; simp [List.lookup, hc]
    · have hne : (a == n) = false := by simp [ha]
      have hne' : (n == a) = false := by simp; exact fun h => ha h.symm
      simp [List.lookup, hne, h a, List.count_cons, hne']
  · simp only [hc, ↓reduceIte] at hn
    refine ⟨by simp [bump, hn, name10, hc], ?_⟩
    intro a
    simp only [bump, hn, lookup_setCount]
    by_cases ha : a = n
    · subst ha; simp
    · have hne' : (n == a) = false := by simp; exact fun h => ha h.symm
      simp [ha, h a, List.count_cons, hne']

theorem rep_nil : Rep [] [] := by intro a; simp [List.lookup]

theorem p1_tag (k : Xml) : (p1 k).tag = k.tag := by cases k; simp [p1, Xml.tag]
theorem p1_kids (k : Xml) : (p1 k).kids = p1Kids (k.tag == "section") [] [] [] [] k.kids := by
  cases k; simp [p1, Xml.kids, Xml.tag]
theorem p1_attrs (k : Xml) : (p1 k).attrs = k.attrs := by cases k; simp [p1]
theorem rename_attrs (n : List Char) (k : Xml) : (rename n k).attrs = k.attrs := by
  cases k; simp [rename]
theorem rename_tag (n : List Char) (k : Xml) : (rename n k).tag = k.tag := by
  cases k; simp [rename, Xml.tag]
theorem rename_kids (n : List Char) (k : Xml) :
    (rename n k).kids = setFirstText "name" n k.kids := by cases k; simp [rename, Xml.kids]

/-- One step of stage 1 on a list of siblings: a Section child goes through `p1` and, if named,
    gets its name; a Property child is renamed at most; any other child stays. -/
theorem p1Kids_cons (b : Bool) (sm pm : Counter) (sd pd : List (List Char)) (k : Xml) (ks : List Xml) :
    ∃ c sm' pm' sd' pd', p1Kids b sm pm sd pd (k :: ks) = c :: p1Kids b sm' pm' sd' pd' ks ∧
      c.tag = k.tag ∧ (k.tag ≠ "section" → sm' = sm ∧ sd' = sd) ∧
      (k.tag ≠ "property" → pm' = pm ∧ pd' = pd) ∧
      if k.tag = "section" then (c = p1 k ∧ find "name" k.kids = none) ∨ ∃ n, c = rename n (p1 k)
      else c = k ∨ (k.tag = "property" ∧ ∃ n, c = rename n k) := by
  simp only [p1Kids]
  split
  · rename_i hs
    split
    · exact ⟨_, _, _, _, _, rfl, by rw [rename_tag, p1_tag], fun h => absurd hs h, fun _ => ⟨rfl, rfl⟩, Or.inr ⟨_, rfl⟩⟩
    · rename_i hfn
      exact ⟨_, _, _, _, _, rfl, p1_tag k, fun h => absurd hs h, fun _ => ⟨rfl, rfl⟩, Or.inl ⟨rfl, hfn⟩⟩
  · split
    · rename_i hp
      simp only [Bool.and_eq_true, decide_eq_true_eq] at hp
      split
      · exact ⟨_, _, _, _, _, rfl, rename_tag _ k, fun _ => ⟨rfl, rfl⟩, fun h => absurd hp.1 h, Or.inr ⟨hp.1, _, rfl⟩⟩
      · exact ⟨_, _, _, _, _, rfl, rfl, fun _ => ⟨rfl, rfl⟩, fun _ => ⟨rfl, rfl⟩, Or.inl rfl⟩
    · exact ⟨_, _, _, _, _, rfl, rfl, fun _ => ⟨rfl, rfl⟩, fun _ => ⟨rfl, rfl⟩, Or.inl rfl⟩

/-- A child that is no Section leaves the names and the occurrence map of the Sections alone. -/
theorem p1Kids_cons_not_section (b : Bool) (sm pm : Counter) (sd pd : List (List Char)) {k : Xml}
    (ks : List Xml) (hs : k.tag ≠ "section") :
    ∃ c pm' pd', p1Kids b sm pm sd pd (k :: ks) = c :: p1Kids b sm pm' sd pd' ks ∧ c.tag = k.tag := by
  obtain ⟨c, _, pm', _, pd', heq, ht, hfr, _⟩ := p1Kids_cons b sm pm sd pd k ks
  obtain ⟨rfl, rfl⟩ := hfr hs
  exact ⟨c, pm', pd', heq, ht⟩

/-- The same for a child that is no Property, and the Properties. -/
theorem p1Kids_cons_not_property (b : Bool) (sm pm : Counter) (sd pd : List (List Char)) {k : Xml}
    (ks : List Xml) (hp : k.tag ≠ "property") :
    ∃ c sm' sd', p1Kids b sm pm sd pd (k :: ks) = c :: p1Kids b sm' pm sd' pd ks ∧ c.tag = k.tag := by
  obtain ⟨c, sm', _, sd', _, heq, ht, _, hfr, _⟩ := p1Kids_cons b sm pm sd pd k ks
  obtain ⟨rfl, rfl⟩ := hfr hp
  exact ⟨c, sm', sd', heq, ht⟩

theorem find_isSome_p1Kids (t : String) (b : Bool) (sm pm : Counter) (sd pd : List (List Char))
    (ks : List Xml) : (find t (p1Kids b sm pm sd pd ks)).isSome = (find t ks).isSome := by
  induction ks generalizing sm pm sd pd with
  | nil => simp [p1Kids]
  | cons k ks ih =>
    obtain ⟨c, _, _, _, _, heq, ht, _⟩ := p1Kids_cons b sm pm sd pd k ks
    rw [heq, find, find, ht]
    split
    · rfl
    · exact ih _ _ _ _

theorem findText_setFirstText (t : String) (n : List Char) (ks : List Xml)
    (h : (find t ks).isSome = true) : findText t (setFirstText t n ks) = n := by
  induction ks with
  | nil => simp [find] at h
  | cons k ks ih =>
    by_cases hk : k.tag = t
    · simp [setFirstText, hk, findText, find]
    · simp only [find, hk, ↓reduceIte] at h
      have := ih h
      simp only [findText] at this
      simp [setFirstText, hk, findText, find, this]

theorem find_isSome_setFirstText (t : String) (n : List Char) (ks : List Xml) :
    (find t (setFirstText t n ks)).isSome = (find t ks).isSome := by
  induction ks with
  | nil => simp [setFirstText]
  | cons k ks ih =>
    by_cases hk : k.tag = t
    · simp [setFirstText, hk, find]
    · simp [setFirstText, hk, find, ih]

theorem find_name_rename (n : List Char) (k : Xml) :
    (find "name" (rename n k).kids).isSome = (find "name" k.kids).isSome := by
  rw [rename_kids, find_isSome_setFirstText]

theorem secNames_cons (k : Xml) (ks : List Xml) :
    secNames (k :: ks) =
      if k.tag = "section" ∧ (find "name" k.kids).isSome = true
      then findText "name" k.kids :: secNames ks else secNames ks := by
  by_cases h : k.tag = "section" <;> by_cases h2 : (find "name" k.kids).isSome = true <;>
    simp [secNames, h, h2]

theorem secNames_p1Kids (b : Bool) (sm pm : Counter) (sd pd prev : List (List Char)) (ks : List Xml)
    (hrep : Rep sm prev) :
    secNames (p1Kids b sm pm sd pd ks) = names10 sd prev (secNames ks) := by
  induction ks generalizing sm pm sd pd prev with
  | nil => simp [p1Kids, secNames, names10]
  | cons k ks ih =>
    by_cases hs : k.tag = "section"
    · cases hf : find "name" k.kids with
      | none =>
        simp only [p1Kids, hs, ↓reduceIte, hf]
        rw [secNames_cons, secNames_cons]
        have h1 : (find "name" (p1 k).kids).isSome = false := by
          rw [p1_kids, find_isSome_p1Kids]; simp [hf]
        simp only [p1_tag, hs, h1, hf, Option.isSome_none, Bool.false_eq_true, and_false, ↓reduceIte]
        exact ih _ _ _ _ _ hrep
      | some nm =>
        have hft : findText "name" k.kids = nm.text := by simp [findText, hf]
        have h1 : (find "name" (p1 k).kids).isSome = true := by
          rw [p1_kids, find_isSome_p1Kids]; simp [hf]
        obtain ⟨e1, e2⟩ := bump_spec sm (sd ++ secNames ks) prev nm.text hrep
        simp only [p1Kids, hs, ↓reduceIte, hf]
        rw [secNames_cons, secNames_cons]
        simp only [rename_tag, p1_tag, hs, rename_kids, find_isSome_setFirstText, h1, hf,
          Option.isSome_some, and_self, ↓reduceIte, names10, hft]
        rw [findText_setFirstText _ _ _ h1, ih _ _ _ _ _ e2, e1]
    · obtain ⟨c, _, _, heq, ht⟩ := p1Kids_cons_not_section b sm pm sd pd ks hs
      rw [heq, secNames_cons, secNames_cons, if_neg (fun h => hs (ht ▸ h.1)),
        if_neg (fun h => hs h.1)]
      exact ih _ _ _ _ _ hrep

theorem propNames_cons (k : Xml) (ks : List Xml) :
    propNames (k :: ks) =
      if k.tag = "property" ∧ (find "name" k.kids).isSome = true
      then findText "name" k.kids :: propNames ks else propNames ks := by
  by_cases h : k.tag = "property" <;> by_cases h2 : (find "name" k.kids).isSome = true <;>
    simp [propNames, h, h2]

theorem propNames_p1Kids (sm pm : Counter) (sd pd prev : List (List Char)) (ks : List Xml)
    (hrep : Rep pm prev) :
    propNames (p1Kids true sm pm sd pd ks) = names10 pd prev (propNames ks) := by
  induction ks generalizing sm pm sd pd prev with
  | nil => simp [p1Kids, propNames, names10]
  | cons k ks ih =>
    by_cases hp : k.tag = "property"
    · have hs : ¬ k.tag = "section" := by rw [hp]; simp
      simp only [p1Kids, hs, ↓reduceIte]
      simp only [hp, Bool.and_true, decide_true, ↓reduceIte]
      cases hf : find "name" k.kids with
      | none =>
        simp only
        rw [propNames_cons, propNames_cons]
        simp [hf, ih _ _ _ _ _ hrep]
      | some nm =>
        have hft : findText "name" k.kids = nm.text := by simp [findText, hf]
        simp only
        rw [propNames_cons, propNames_cons]
        obtain ⟨e1, e2⟩ := bump_spec pm (pd ++ propNames ks) prev nm.text hrep
        simp only [rename_tag, hp, rename_kids, find_isSome_setFirstText, hf, Option.isSome_some,
          and_self, ↓reduceIte, names10, hft]
        rw [findText_setFirstText _ _ _ (by simp [hf]), ih _ _ _ _ _ e2, e1]
    · obtain ⟨c, _, _, heq, ht⟩ := p1Kids_cons_not_property true sm pm sd pd ks hp
      rw [heq, propNames_cons, propNames_cons, if_neg (fun h => hp (ht ▸ h.1)),
        if_neg (fun h => hp h.1)]
      exact ih _ _ _ _ _ hrep

/-- The 1.1 tag under which `_handle_value` would export a value attribute, if at all. -/
def target (d : Xml) : Option String :=
  if d.tag ∈ propKeys then some d.tag else versionMap.lookup d.tag

/-- The text `_handle_value` exports: `binary` under `type` / `dtype` becomes `text`. -/
def fixText (d : Xml) : List Char := if isBinary d.tag d.text then "text".toList else d.text

/-- First element of `ds` exported under tag `t`. -/
def firstLift (t : String) : List Xml → Option Xml
  | [] => none
  | d :: ds => if target d = some t then some (leaf t (fixText d)) else firstLift t ds

theorem lookup_versionMap (s : String) : versionMap.lookup s =
    if s = "filename" then some "value_origin" else if s = "dtype" then some "type" else none := by
  simp only [versionMap, List.lookup]
  split
  · rename_i h; rw [if_pos (beq_iff_eq.1 h)]
  · rename_i h
    rw [if_neg (beq_eq_false_iff_ne.1 h)]
    split
    · rename_i h2; rw [if_pos (beq_iff_eq.1 h2)]
    · rename_i h2; rw [if_neg (beq_eq_false_iff_ne.1 h2)]

theorem getD_versionMap (s : String) : (versionMap.lookup s).getD s = map11 s := by
  rw [lookup_versionMap, map11]
  split
  · rfl
  · split <;> rfl

theorem versionMap_propKeys : "filename" ∉ propKeys ∧ "dtype" ∉ propKeys ∧
    "value_origin" ∈ propKeys ∧ "type" ∈ propKeys := by decide +kernel

theorem depValue_propKeys : "dependencyvalue" ∈ propKeys ∧ "dependency_value" ∉ propKeys := by
  decide +kernel

theorem target_eq_some (d : Xml) (t : String) :
    target d = some t ↔ map11 d.tag = t ∧ t ∈ propKeys := by
  obtain ⟨hf, hd, hvo, hty⟩ := versionMap_propKeys
  unfold target map11
  rw [lookup_versionMap]
  by_cases hp : d.tag ∈ propKeys
  · have h1 : d.tag ≠ "filename" := fun e => hf (e ▸ hp)
    have h2 : d.tag ≠ "dtype" := fun e => hd (e ▸ hp)
    rw [if_pos hp, if_neg h1, if_neg h2, Option.some.injEq]
    exact ⟨fun e => ⟨e, e ▸ hp⟩, fun e => e.1⟩
  · rw [if_neg hp]
    split
    · rw [Option.some.injEq]; exact ⟨fun e => ⟨e, e ▸ hvo⟩, fun e => e.1⟩
    · split
      · rw [Option.some.injEq]; exact ⟨fun e => ⟨e, e ▸ hty⟩, fun e => e.1⟩
      · exact ⟨nofun, fun e => absurd (e.1 ▸ e.2) hp⟩

theorem map11_eq_self {s t : String} (h : map11 s = t) (h1 : t ≠ "value_origin") (h2 : t ≠ "type") :
    s = t := by
  unfold map11 at h
  split at h
  · exact absurd h.symm h1
  · split at h
    · exact absurd h.symm h2
    · exact h

/-- What one sub-element `d` of a value element does to the children of the Property: it is
    appended under its 1.1 name, unless it has none or a child of that name is there already. -/
def liftOne (cur : List Xml) (d : Xml) : List Xml :=
  if find (map11 d.tag) cur = none then
    match target d with
    | some m => cur ++ [leaf m (fixText d)]
    | none => cur
  else cur

theorem handleValueElems_cur (pid : PropId) (ds cur : List Xml) (log : Log) :
    (handleValueElems pid ds cur log).1 = ds.foldl liftOne cur := by
  induction ds generalizing cur log with
  | nil => rfl
  | cons d ds ih =>
    simp only [handleValueElems, List.foldl_cons, liftOne, target, fixText, getD_versionMap]
    cases hce : find (map11 d.tag) cur with
    | some ce => simp only [reduceCtorEq, ↓reduceIte]; exact ih _ _
    | none =>
      simp only [↓reduceIte]
      by_cases hp : d.tag ∈ propKeys
      · simp only [hp, ↓reduceIte]; split <;> exact ih _ _
      · simp only [hp, ↓reduceIte]
        cases hvm : versionMap.lookup d.tag with
        | some m => simp only; split <;> exact ih _ _
        | none => exact ih _ _

theorem elem_eta (k : Xml) : Xml.elem k.tag k.attrs k.text k.kids = k := by cases k; rfl

theorem respell_ne (s : String) (h : s ≠ "dependency_value") : respell s = s := by
  simp [respell, h]

theorem find_none_iff (t : String) (ks : List Xml) : find t ks = none ↔ ∀ k ∈ ks, k.tag ≠ t := by
  induction ks with
  | nil => simp [find]
  | cons k ks ih =>
    by_cases hk : k.tag = t
    · simp [find, hk]
    · simp [find, hk, ih]

theorem findLast_none_of_find (t : String) (ks : List Xml) (h : find t ks = none) :
    findLast t ks = none := by
  unfold findLast
  rw [find_none_iff] at h ⊢
  intro k hk
  exact h k (List.mem_reverse.1 hk)

theorem vals10_eq_stripped (p : Xml) : vals10 p = stripped ((valuesOf p).map Xml.text) := by
  simp [vals10, stripped, List.filterMap_map, Function.comp_def]

theorem mem_stripped {w : List Char} {ts : List (List Char)} (h : w ∈ stripped ts) :
    ∃ t, w = Py.strip t ∧ w ≠ [] := by
  simp only [stripped, List.mem_filterMap] at h
  obtain ⟨t, _, ht⟩ := h
  by_cases hs : Py.strip t = []
  · simp [hs] at ht
  · simp only [hs, ↓reduceIte, Option.some.injEq] at ht
    exact ⟨t, ht.symm, ht ▸ hs⟩

end Conv
