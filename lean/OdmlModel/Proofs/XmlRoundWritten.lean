/-
Whole-document XML round trip: the tree the writer builds is conformant odML-XML in the
sense of `denote` and denotes the trimmed document (`write_denotes`): what the child elements
denote (`Den`) is built up key by key over the regenerated key tables, each key putting its
elements in front of any conformant rest, and by mutual structural induction over the Section tree.
-/
import OdmlModel.Proofs.XmlRoundDenote

namespace Xml
open Py Py.Csv

theorem Den.keys (lib : TokLib) (κ : Kind) (S : KeySpec) (emit : String → List X) :
    ∀ L : List String,
      (∀ k ∈ L, ∀ rest a ss ps, Den lib κ rest a ss ps →
        Den lib κ (emit k ++ rest) ((S.entry (fmtOf κ) k).toList ++ a) (S.secs k ++ ss)
          (S.props k ++ ps)) →
      Den lib κ (L.flatMap emit) (L.filterMap (S.entry (fmtOf κ))) (L.flatMap S.secs)
        (L.flatMap S.props)
  | [], _ => ⟨rfl, rfl, rfl, rfl⟩
  | k :: ks, h => by
    have := h k (List.mem_cons_self ..) _ _ _ _
      (Den.keys lib κ S emit ks fun k' hk' => h k' (List.mem_cons_of_mem _ hk'))
    cases he : S.entry (fmtOf κ) k <;> simpa [List.filterMap_cons, he] using this

theorem Den.cons_leafKey {lib : TokLib} {κ : Kind} {k : String} {s : Str} {v : ArgV}
    {rest : List X} {a : Args} {ss : List SecT} {ps : List PropT} (hok : leafKeyOK κ k = true)
    (hv : leafArg ((fmtOf κ).pyName k) (if s.isEmpty then none else some s) = some v)
    (hr : Den lib κ rest a ss ps) :
    Den lib κ (leaf k s :: rest) (((fmtOf κ).pyName k, v) :: a) ss ps := by
  simp only [leafKeyOK, Bool.and_eq_true, beq_iff_eq, Bool.not_eq_true'] at hok
  have hlt : ltag (leaf k s) = k := hok.1.1
  have := (Den.leaf_iff (x := leaf k s) (by rw [hlt]; exact hok.2)).mpr
    ⟨by rw [hlt]; exact hok.1.2, v, a, by rw [argName, hlt]; exact hv, rfl, hr⟩
  simpa [argName, hlt] using this

theorem Den.leafKey {lib : TokLib} {κ : Kind} (S : KeySpec) {emitk : List X} {k : String}
    {rest : List X} {a : Args} {ss : List SecT} {ps : List PropT}
    (h : LeafKey κ k emitk (S.arg k)) (hs : S.secs k = []) (hp : S.props k = [])
    (hr : Den lib κ rest a ss ps) :
    Den lib κ (emitk ++ rest) ((S.entry (fmtOf κ) k).toList ++ a) (S.secs k ++ ss)
      (S.props k ++ ps) := by
  rw [hs, hp, KeySpec.entry]
  generalize S.arg k = o at h
  cases h with
  | absent => exact hr
  | text h s =>
    simp only [textKeyOK, Bool.and_eq_true, Bool.not_eq_true'] at h
    refine Den.cons_leafKey h.1.1 ?_ hr
    by_cases he : s.isEmpty = true
    · simp [leafArg, he, textArg, normText]
    -- with `String.reduceToList` simp would spell `"_cardinality".toList` out and miss `h.2`
    · simp [leafArg, he, h.1.2, h.2, textArg, normText, -String.reduceToList]
  | card h c =>
    simp only [cardKeyOK, Bool.and_eq_true, Bool.not_eq_true'] at h
    have hs := renderCardText_strip c
    refine Den.cons_leafKey h.1.1 ?_ hr
    simp [leafArg, ne_nil_of_strip hs, h.1.2, hs, h.2, cardArg, -String.reduceToList]
  | vals h s vs hv =>
    simp only [valsKeyOK, Bool.and_eq_true, beq_iff_eq] at h
    refine Den.cons_leafKey h.1 ?_ hr
    rcases hv with he | ⟨hs, hc⟩
    · simp [leafArg, he, valsArg]
    · simp [leafArg, h.2, ne_nil_of_strip hs, hs, hc, valsArg]
theorem lookup_entries (S : KeySpec) (f : Fmt) (L : List String)
    (hn : (L.map f.pyName).Nodup) (k : String) (hk : k ∈ L) :
    (L.filterMap (S.entry f)).lookup (f.pyName k) = S.arg k := by
  induction L with
  | nil => cases hk
  | cons k' ks ih =>
    simp only [List.map_cons, List.nodup_cons] at hn
    rcases List.mem_cons.mp hk with rfl | hk
    · cases ha : S.arg k with
      | some v => simp [KeySpec.entry, ha]
      | none =>
        simp only [List.filterMap_cons, KeySpec.entry, ha, Option.map_none]
        exact lookup_none_of_not_mem _ _ fun hm => hn.1 ((entries_keys_sublist S f ks).subset hm)
    · have hne : (f.pyName k == f.pyName k') = false :=
        beq_false_of_ne fun e => hn.1 (e ▸ List.mem_map_of_mem hk)
      cases ha : S.arg k' <;> simp [KeySpec.entry, ha, List.lookup, hne, ih hn.2 hk]

theorem entries_argsOK (κ : Kind) (S : KeySpec) (kids : List X)
    (hn : ((fmtOf κ).keys.map (fmtOf κ).pyName).Nodup)
    (hreq : ∀ kr ∈ (fmtOf κ).args, kr.2 ≠ 0 → (S.arg kr.1).isSome = true) :
    argsOK κ ((fmtOf κ).keys.filterMap (S.entry (fmtOf κ))) kids = true := by
  simp only [argsOK, Bool.and_eq_true, decide_eq_true_eq]
  refine ⟨(entries_keys_sublist S _ _).nodup hn, ?_⟩
  simp only [mandOK, List.all_eq_true]
  intro kr hkr
  by_cases h0 : kr.2 = 0
  · simp [h0]
  · have hl := lookup_entries S (fmtOf κ) _ hn kr.1 (List.mem_map.mpr ⟨kr, hkr, rfl⟩)
    simp [mem_keys_of_lookup _ _ (by rw [hl]; exact hreq kr hkr h0)]

theorem namesFree_trimSecs (lib : TokLib) (secs : List SecT) (hwf : secsWf lib secs = true)
    (hd : distinctTrimmed (secNames secs) = true) :
    namesFree ((trimSecs secs).map SecT.effName) = true := by
  simp only [namesFree, decide_eq_true_eq, effNames_trimSecs secs lib hwf]
  exact (nodup_of_distinctTrimmed hd).sublist List.filter_sublist

/-- a renamed, dropped or newly mandatory key of the regenerated Property tables breaks this -/
theorem propKeys_ok :
    ((fmtOf .prop).keys.map (fmtOf .prop).pyName).Nodup ∧
    (∀ kr ∈ (fmtOf .prop).args, kr.2 ≠ 0 → kr.1 = "name") := by decide +kernel

/-- **The element written for a Property is conformant and denotes the trimmed Property.** -/
theorem writeProp_denotes (lib : TokLib) (p : PropT)
    (hwf : propWf lib p = true) (hrepr : propRepr p = true) (hlow : propLower p = true) :
    denoteProp lib (writeProp p) = some (trimProp p) := by
  obtain ⟨vs, hv⟩ := value_elem lib p hwf hrepr hlow
  have hv1 : (valueText p).isEmpty = true ∨
      ((strip (valueText p)).isEmpty = false ∧ fromCsv (valueText p) = .ok vs) :=
    hv.imp (fun h => by rw [h.1]; rfl) fun h => ⟨h.1, h.2.1⟩
  obtain ⟨hnd, hmand⟩ := propKeys_ok
  have hden := Den.keys lib .prop (propSpec vs p) (propKey p) (fmtOf .prop).keys
    (fun k hk _ _ _ _ hr => Den.leafKey _ (prop_leafKey hv1 hk) rfl rfl hr)
  have hok := entries_argsOK .prop (propSpec vs p) ((fmtOf .prop).keys.flatMap (propKey p)) hnd
    (fun kr hkr h0 => by rw [hmand kr hkr h0]; rfl)
  have hcr := createProp_of lib _ p vs hwf hrepr hlow hv
    (fun k hk => lookup_entries (propSpec vs p) (fmtOf .prop) _ hnd k hk)
  rw [writeProp, denoteProp, flatMap_keys]
  have e : (Gen.Format.propertyArgs.map (·.1)) = (fmtOf .prop).keys := rfl
  rw [e]
  simp only [List.isEmpty_nil, hden.known, Bool.and_self, if_true, hden.args, hok, hcr]

theorem child_facts (κ : Kind) (t : String) (hl : lowerS t = t) (h : childOK κ t = true) :
    (fmtOf κ).keys.contains t = true ∧ isChild κ t = true := by
  simp only [childOK, hl, Bool.and_eq_true] at h
  exact ⟨h.1.1, by simp only [isChild, h.1.2, h.2, Bool.and_self]⟩

theorem ltag_writeProp (p : PropT) : ltag (writeProp p) = Gen.Format.propertyName := by
  show lowerS Gen.Format.propertyName = _; decide

theorem ltag_writeSec (s : SecT) : ltag (writeSec s) = Gen.Format.sectionName := by
  obtain ⟨kids, hk⟩ := writeSec_elem s
  rw [hk]; show lowerS Gen.Format.sectionName = _; decide

theorem Den.of_props {lib : TokLib} {κ : Kind} {rest : List X} {a : Args} {ss : List SecT}
    {qs : List PropT} (hκ : childOK κ Gen.Format.propertyName = true)
    (h : Den lib κ rest a ss qs) :
    ∀ ps : List PropT, (∀ p ∈ ps, denoteProp lib (writeProp p) = some (trimProp p)) →
      Den lib κ (ps.map writeProp ++ rest) a ss (ps.map trimProp ++ qs)
  | [], _ => h
  | p :: ps, hp => by
    obtain ⟨hkey, hch⟩ := child_facts κ _ (by decide) hκ
    rw [← ltag_writeProp p] at hkey hch
    exact (Den.prop_iff hch (ltag_writeProp p)).mpr ⟨hkey, _, _, hp p (List.mem_cons_self ..), rfl,
      Den.of_props hκ h ps fun q hq => hp q (List.mem_cons_of_mem _ hq)⟩

theorem Den.of_secs {lib : TokLib} {κ : Kind} {rest : List X} {a : Args} {qs : List SecT}
    {ps : List PropT} (hκ : childOK κ Gen.Format.sectionName = true)
    (h : Den lib κ rest a qs ps) :
    ∀ ss : List SecT, (∀ s ∈ ss, denoteSec lib (writeSec s) = some (trimSec s)) →
      Den lib κ (writeSecs ss ++ rest) a (trimSecs ss ++ qs) ps
  | [], _ => h
  | s :: ss, hs => by
    obtain ⟨hkey, hch⟩ := child_facts κ _ (by decide) hκ
    rw [← ltag_writeSec s] at hkey hch
    exact (Den.sec_iff hch (ltag_writeSec s)).mpr ⟨hkey, _, _, hs s (List.mem_cons_self ..), rfl,
      Den.of_secs hκ h ss fun q hq => hs q (List.mem_cons_of_mem _ hq)⟩

/-- the same for the Section tables -/
theorem secKeys_ok :
    childOK .sec Gen.Format.sectionName = true ∧ childOK .sec Gen.Format.propertyName = true ∧
    ((fmtOf .sec).keys.map (fmtOf .sec).pyName).Nodup ∧
    "section" ∈ (fmtOf .sec).keys ∧ "property" ∈ (fmtOf .sec).keys ∧
    (∀ kr ∈ (fmtOf .sec).args, kr.2 ≠ 0 → kr.1 = "type" ∨ kr.1 = "name") := by decide +kernel

theorem sec_key (lib : TokLib) (id name type defn ref link repo incl : Option Str)
    (secs : List SecT) (props : List PropT) (sc pc : Card.Card)
    (hsecs : ∀ s ∈ secs, denoteSec lib (writeSec s) = some (trimSec s))
    (hprops : ∀ p ∈ props, denoteProp lib (writeProp p) = some (trimProp p))
    (k : String) (hk : k ∈ (fmtOf .sec).keys) (rest : List X) (a : Args) (ss : List SecT)
    (ps : List PropT) (hr : Den lib .sec rest a ss ps) :
    Den lib .sec
      (secKey id name type defn ref link repo incl (writeSecs secs) (props.map writeProp) sc pc k
        ++ rest)
      (((secSpec id name type defn ref link repo incl secs props sc pc).entry (fmtOf .sec) k).toList
        ++ a)
      (kidsSecs secs k ++ ss) (kidsProps props k ++ ps) := by
  by_cases hs : k = "section"
  · subst hs; exact Den.of_secs secKeys_ok.1 hr secs hsecs
  by_cases hp : k = "property"
  · subst hp; exact Den.of_props secKeys_ok.2.1 hr props hprops
  exact Den.leafKey _ (sec_leafKey hk hs hp)
    (kidsSecs_other secs k hs) (kidsProps_other props k hp) hr

theorem writeSec_denotes_core (lib : TokLib) (id name type defn ref link repo incl : Option Str)
    (secs : List SecT) (props : List PropT) (sc pc : Card.Card)
    (hsecs : ∀ s ∈ secs, denoteSec lib (writeSec s) = some (trimSec s))
    (hwf : secWf lib (.mk id name type defn ref link repo incl secs props sc pc) = true)
    (hrepr : secRepr (.mk id name type defn ref link repo incl secs props sc pc) = true)
    (hlow : props.all propLower = true) :
    denoteSec lib (writeSec (.mk id name type defn ref link repo incl secs props sc pc)) =
      some (trimSec (.mk id name type defn ref link repo incl secs props sc pc)) := by
  obtain ⟨hid, hname, htype, hsc, hpc, hpwf, hswf⟩ := secWf_mk.mp hwf
  obtain ⟨hnr, hprepr, hpd, hsd, _⟩ := secRepr_mk.mp hrepr
  obtain ⟨_, _, hnd, hms, hmp, hmand⟩ := secKeys_ok
  have hnk := Fmt.keys_nodup hnd
  let S := secSpec id name type defn ref link repo incl secs props sc pc
  have hreq : ∀ kr ∈ (fmtOf .sec).args, kr.2 ≠ 0 → (S.arg kr.1).isSome = true := by
    intro kr hkr h0
    rcases hmand kr hkr h0 with h | h <;> rw [h]
    · cases type with
      | none => simp at htype
      | some s => rfl
    · rfl
  have hden := Den.keys lib .sec S _ (fmtOf .sec).keys
    (sec_key lib id name type defn ref link repo incl secs props sc pc hsecs
      fun p hp => writeProp_denotes lib p (hpwf p hp) (hprepr p hp) (List.all_eq_true.mp hlow p hp))
  have hok := entries_argsOK .sec S ((fmtOf .sec).keys.flatMap
    (secKey id name type defn ref link repo incl (writeSecs secs) (props.map writeProp) sc pc)) hnd hreq
  have hcr := createSec_of _ id name type defn ref link repo incl sc pc hid hname htype hsc hpc hnr
    (fun k hk => lookup_entries S (fmtOf .sec) _ hnd k hk)
  have hS : (fmtOf .sec).keys.flatMap S.secs = trimSecs secs :=
    flatMap_single _ "section" _ hnk hms (kidsSecs_other secs)
  have hP : (fmtOf .sec).keys.flatMap S.props = props.map trimProp :=
    flatMap_single _ "property" _ hnk hmp (kidsProps_other props)
  have hfs := namesFree_trimSecs lib secs hswf hsd
  have hfp : namesFree ((props.map trimProp).map PropT.effName) = true := by
    simp only [namesFree, decide_eq_true_eq, effNames_trimProps lib props hpwf]
    exact (nodup_of_distinctTrimmed hpd).sublist List.filter_sublist
  rw [writeSec, denoteSec, flatMap_keys]
  have e : (Gen.Format.sectionArgs.map (·.1)) = (fmtOf .sec).keys := rfl
  rw [e]
  simp only [List.isEmpty_nil, hden.known, Bool.and_self, if_true, hden.args, hden.secs, hden.props,
    hS, hP, hok, hfs, hfp, hcr, trimSec]

mutual
/-- **The element written for a Section at any depth is conformant and denotes the trimmed
    Section.** -/
theorem writeSec_denotes (lib : TokLib) : (s : SecT) → secWf lib s = true → secRepr s = true →
    secLower s = true → denoteSec lib (writeSec s) = some (trimSec s)
  | .mk id name type defn ref link repo incl secs props sc pc => by
    intro hwf hrepr hlow
    obtain ⟨_, _, _, _, _, _, hswf⟩ := secWf_mk.mp hwf
    obtain ⟨_, _, _, _, hsrepr⟩ := secRepr_mk.mp hrepr
    simp only [secLower, Bool.and_eq_true] at hlow
    exact writeSec_denotes_core lib id name type defn ref link repo incl secs props sc pc
      (writeSecs_denotes lib secs hswf hsrepr hlow.2) hwf hrepr hlow.1
theorem writeSecs_denotes (lib : TokLib) : (ss : List SecT) → secsWf lib ss = true →
    secsRepr ss = true → secsLower ss = true →
    ∀ s ∈ ss, denoteSec lib (writeSec s) = some (trimSec s)
  | [] => by intro _ _ _ s hs; cases hs
  | x :: xs => by
    intro hwf hrepr hlow s hs
    simp only [secsWf, Bool.and_eq_true] at hwf
    simp only [secsRepr, Bool.and_eq_true] at hrepr
    simp only [secsLower, Bool.and_eq_true] at hlow
    rcases List.mem_cons.mp hs with h | h
    · rw [h]; exact writeSec_denotes lib x hwf.1 hrepr.1 hlow.1
    · exact writeSecs_denotes lib xs hwf.2 hrepr.2 hlow.2 s h
end

/-- the same for the Document tables -/
theorem docKeys_ok :
    childOK .doc Gen.Format.sectionName = true ∧
    ((fmtOf .doc).keys.map (fmtOf .doc).pyName).Nodup ∧
    "section" ∈ (fmtOf .doc).keys ∧ (∀ kr ∈ (fmtOf .doc).args, kr.2 = 0) ∧
    Gen.Format.documentName = "odML" ∧ (lowerS "version" == "version") = true := by
  decide +kernel

theorem doc_key (lib : TokLib) (d : DocT)
    (hsecs : ∀ s ∈ d.secs, denoteSec lib (writeSec s) = some (trimSec s))
    (k : String) (hk : k ∈ (fmtOf .doc).keys) (rest : List X) (a : Args) (ss : List SecT)
    (ps : List PropT) (hr : Den lib .doc rest a ss ps) :
    Den lib .doc (docKey d k ++ rest) (((docSpec d).entry (fmtOf .doc) k).toList ++ a)
      (kidsSecs d.secs k ++ ss) ps := by
  by_cases hs : k = "section"
  · subst hs; exact Den.of_secs docKeys_ok.1 hr d.secs hsecs
  exact Den.leafKey (docSpec d) (doc_leafKey hk hs) (kidsSecs_other d.secs k hs) rfl hr

/-- **The tree the writer builds is conformant odML-XML and denotes the trimmed document**
    (any size, any depth). -/
theorem write_denotes (lib : TokLib) (d : DocT) (hwf : wfDoc lib d = true)
    (hrepr : xmlRepr d = true) (hlow : docLower d = true) :
    denote lib (writeTree d) = some (trimDoc d) := by
  obtain ⟨hid, hdate, hswf⟩ := wfDoc_iff.mp hwf
  obtain ⟨hsd, hsrepr⟩ := xmlRepr_iff.mp hrepr
  obtain ⟨_, hnd, hms, hmand, hname, hv⟩ := docKeys_ok
  have hnk := Fmt.keys_nodup hnd
  have hden := Den.keys lib .doc (docSpec d) (docKey d) (fmtOf .doc).keys
    (doc_key lib d (writeSecs_denotes lib d.secs hswf hsrepr hlow))
  have hok := entries_argsOK .doc (docSpec d) ((fmtOf .doc).keys.flatMap (docKey d)) hnd
    (fun kr hkr h0 => absurd (hmand kr hkr) h0)
  have hcr := createDoc_of lib _ d hid hdate
    (fun k hk => lookup_entries (docSpec d) (fmtOf .doc) _ hnd k hk)
  have hS : (fmtOf .doc).keys.flatMap (docSpec d).secs = trimSecs d.secs :=
    flatMap_single _ "section" _ hnk hms (kidsSecs_other d.secs)
  have hfs := namesFree_trimSecs lib d.secs hswf hsd
  rw [writeTree, hname, flatMap_keys]
  have e : (Gen.Format.documentArgs.map (·.1)) = (fmtOf .doc).keys := rfl
  rw [e]
  simp only [denote, beq_self_eq_true, List.lookup, List.all_cons, List.all_nil, hv, hden.known,
    Bool.and_self, if_true, hden.args, hden.secs, hS, hok, hfs, hcr]
  rfl

end Xml
