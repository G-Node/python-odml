/-
Well-formedness of the heap (the C03/C04 invariant) and its preservation by the primitive
transformations every editing operation is made of: allocate, detach, attach, update one object
in place (permute a child list, rename, new id).
-/
import OdmlModel.Model.Heap
import OdmlModel.Proofs.HeapList

namespace Heap

/-- The invariant of C03 and of the uniqueness part of C04. -/
structure WF (h : H) : Prop where
  /-- handles that are not allocated are blank -/
  blank : ∀ i, h.size ≤ i → h.node i = default
  /-- a Section is listed in a container's `sections` exactly when it reports it as parent -/
  memS : ∀ p c, c ∈ (h.node p).secs ↔ (h.node c).parent = some p ∧ (h.node c).kind = .sec
  /-- a Property is listed in a Section's `properties` exactly when it reports it as parent -/
  memP : ∀ p c, c ∈ (h.node p).props ↔ (h.node c).parent = some p ∧ (h.node c).kind = .prop
  nodupS : ∀ p, (h.node p).secs.Nodup
  nodupP : ∀ p, (h.node p).props.Nodup
  /-- a Document has no parent; parents are containers of the right kind -/
  docRoot : ∀ c, (h.node c).kind = .doc → (h.node c).parent = none
  parS : ∀ c p, (h.node c).parent = some p → (h.node c).kind = .sec → (h.node p).kind ≠ .prop
  parP : ∀ c p, (h.node c).parent = some p → (h.node c).kind = .prop → (h.node p).kind = .sec
  /-- sibling names are unique (C04) -/
  namesS : ∀ p a b, a ∈ (h.node p).secs → b ∈ (h.node p).secs →
    (h.node a).name = (h.node b).name → a = b
  namesP : ∀ p a b, a ∈ (h.node p).props → b ∈ (h.node p).props →
    (h.node a).name = (h.node b).name → a = b
  /-- no object is its own ancestor: parents have a strictly smaller rank -/
  rank : ∃ d : Nat → Nat, ∀ c p, (h.node c).parent = some p → d p < d c

/-- The child list that holds the children of kind `k` (a Document is nobody's child). -/
def kids : Kind → Node → List Nat
  | .sec, n => n.secs
  | .prop, n => n.props
  | .doc, _ => []

theorem Kind.eq_sec {k : Kind} (hp : k ≠ .prop) (hd : k ≠ .doc) : k = .sec := by
  cases k
  · exact absurd rfl hd
  · rfl
  · exact absurd rfl hp

theorem default_node : (default : Node) = ⟨.doc, "", "", none, [], []⟩ := rfl

namespace WF
variable {h : H}

theorem parent_ne (w : WF h) {c p : Nat} (hp : (h.node c).parent = some p) : p ≠ c := by
  obtain ⟨d, hd⟩ := w.rank
  have := hd c p hp
  intro e; subst e; omega

theorem child_lt (w : WF h) {c p : Nat} (hp : (h.node c).parent = some p) : c < h.size := by
  rcases Nat.lt_or_ge c h.size with h1 | h1
  · exact h1
  · have := w.blank c h1
    rw [this] at hp; simp [default_node] at hp

theorem kind_of_parent (w : WF h) {c p : Nat} (hp : (h.node c).parent = some p) :
    (h.node c).kind = .sec ∨ (h.node c).kind = .prop := by
  cases hk : (h.node c).kind with
  | doc => have := w.docRoot c hk; rw [this] at hp; cases hp
  | sec => exact Or.inl rfl
  | prop => exact Or.inr rfl

theorem parent_lt (w : WF h) {c p : Nat} (hp : (h.node c).parent = some p) : p < h.size := by
  rcases Nat.lt_or_ge p h.size with h1 | h1
  · exact h1
  · have hb := w.blank p h1
    rcases w.kind_of_parent hp with hk | hk
    · have := (w.memS p c).mpr ⟨hp, hk⟩
      rw [hb] at this; simp [default_node] at this
    · have := (w.memP p c).mpr ⟨hp, hk⟩
      rw [hb] at this; simp [default_node] at this

theorem listed (w : WF h) {q x : Nat} (hx : (h.node x).parent = some q) :
    ((h.node x).kind = .sec → x ∈ (h.node q).secs ∧ x ∉ (h.node q).props) ∧
    ((h.node x).kind = .prop →
      x ∈ (h.node q).props ∧ x ∉ (h.node q).secs ∧ (h.node q).kind ≠ .doc) ∧
    (h.node x).kind ≠ .doc := by
  refine ⟨fun hk => ⟨(w.memS q x).mpr ⟨hx, hk⟩, fun hm => ?_⟩,
    fun hk => ⟨(w.memP q x).mpr ⟨hx, hk⟩, fun hm => ?_, ?_⟩, fun hk => ?_⟩
  · have := ((w.memP q x).mp hm).2; rw [hk] at this; cases this
  · have := ((w.memS q x).mp hm).2; rw [hk] at this; cases this
  · rw [w.parP x q hx hk]; decide
  · have := w.docRoot x hk; rw [hx] at this; cases this

theorem mem_kids (w : WF h) {k : Kind} {p c : Nat} (hm : c ∈ kids k (h.node p)) :
    (h.node c).parent = some p ∧ (h.node c).kind = k := by
  cases k
  · cases hm
  · exact (w.memS p c).mp hm
  · exact (w.memP p c).mp hm

theorem mem_kids_iff (w : WF h) {k : Kind} (hk : k ≠ .doc) {p c : Nat} :
    c ∈ kids k (h.node p) ↔ (h.node c).parent = some p ∧ (h.node c).kind = k := by
  cases k
  · exact absurd rfl hk
  · exact w.memS p c
  · exact w.memP p c

theorem kid_mem (w : WF h) {p c : Nat} (hp : (h.node c).parent = some p) :
    c ∈ kids (h.node c).kind (h.node p) := by
  rcases w.kind_of_parent hp with hk | hk <;> rw [hk]
  · exact (w.memS p c).mpr ⟨hp, hk⟩
  · exact (w.memP p c).mpr ⟨hp, hk⟩

theorem nodup_kids (w : WF h) (k : Kind) (p : Nat) : (kids k (h.node p)).Nodup := by
  cases k
  · exact .nil
  · exact w.nodupS p
  · exact w.nodupP p

theorem sib (w : WF h) {a b p : Nat} (ha : (h.node a).parent = some p)
    (hb : (h.node b).parent = some p) (hk : (h.node a).kind = (h.node b).kind)
    (hn : (h.node a).name = (h.node b).name) : a = b := by
  rcases w.kind_of_parent ha with k | k
  · exact w.namesS p a b ((w.memS p a).mpr ⟨ha, k⟩) ((w.memS p b).mpr ⟨hb, hk ▸ k⟩) hn
  · exact w.namesP p a b ((w.memP p a).mpr ⟨ha, k⟩) ((w.memP p b).mpr ⟨hb, hk ▸ k⟩) hn

theorem leaf (w : WF h) {x : Nat} (hk : (h.node x).kind = .prop) (c : Nat) :
    (h.node c).parent ≠ some x := by
  intro hc
  rcases w.kind_of_parent hc with hkc | hkc
  · exact w.parS c x hc hkc hk
  · have := w.parP c x hc hkc; rw [hk] at this; cases this

end WF

/-- `WF` from per-kind statements over `kids` and sibling uniqueness through `parent` (`sib`). -/
theorem WF.of_sib {h : H} (blank : ∀ i, h.size ≤ i → h.node i = default)
    (mem : ∀ k, k ≠ .doc → ∀ p c,
      c ∈ kids k (h.node p) ↔ (h.node c).parent = some p ∧ (h.node c).kind = k)
    (nodup : ∀ k, k ≠ .doc → ∀ p, (kids k (h.node p)).Nodup)
    (docRoot : ∀ c, (h.node c).kind = .doc → (h.node c).parent = none)
    (parS : ∀ c p, (h.node c).parent = some p → (h.node c).kind = .sec → (h.node p).kind ≠ .prop)
    (parP : ∀ c p, (h.node c).parent = some p → (h.node c).kind = .prop → (h.node p).kind = .sec)
    (rank : ∃ d : Nat → Nat, ∀ c p, (h.node c).parent = some p → d p < d c)
    (sib : ∀ a b p, (h.node a).parent = some p → (h.node b).parent = some p →
      (h.node a).kind = (h.node b).kind → (h.node a).name = (h.node b).name → a = b) : WF h :=
  have names : ∀ k, k ≠ .doc → ∀ p a b, a ∈ kids k (h.node p) → b ∈ kids k (h.node p) →
      (h.node a).name = (h.node b).name → a = b := fun k hk p a b ha hb =>
    have ha := (mem k hk p a).mp ha
    have hb := (mem k hk p b).mp hb
    sib a b p ha.1 hb.1 (ha.2.trans hb.2.symm)
  ⟨blank, mem .sec nofun, mem .prop nofun, nodup .sec nofun, nodup .prop nofun, docRoot, parS, parP,
    names .sec nofun, names .prop nofun, rank⟩

/-- `refine ite_ind P ?_ ?_` peels one test off an operation's body (`Safe.ite`, `FrameNI.ite`). -/
theorem ite_ind {α : Sort _} (P : α → Prop) {c : Prop} [Decidable c] {a b : α} (ha : c → P a)
    (hb : ¬ c → P b) : P (if c then a else b) := by
  split
  · exact ha ‹_›
  · exact hb ‹_›

theorem upd_node (h : H) (i j : Nat) (f : Node → Node) :
    (upd h i f).node j = if j = i then f (h.node j) else h.node j := rfl

theorem upd_proj {α : Type} (π : Node → α) {f : Node → Node} (hf : ∀ n, π (f n) = π n) (h : H)
    (i c : Nat) : π ((upd h i f).node c) = π (h.node c) := by
  rw [upd_node]; split
  · exact hf _
  · rfl

theorem wf_empty : WF empty := by
  refine ⟨fun _ _ => rfl, ?_, ?_, ?_, ?_, ?_, ?_, ?_, ?_, ?_, ⟨fun _ => 0, ?_⟩⟩ <;>
    simp [empty, default_node]

/-- Allocation changes kind, name and id of a blank handle only. -/
theorem wf_alloc {h : H} (w : WF h) (k : Kind) (name id : String) : WF (alloc h k name id).1 := by
  have hnode : ∀ j, (alloc h k name id).1.node j =
      if j = h.size then ⟨k, if name = "" then id else name, id, none, [], []⟩ else h.node j :=
    fun _ => rfl
  have hb := w.blank h.size (Nat.le_refl _)
  have par : ∀ c, ((alloc h k name id).1.node c).parent = (h.node c).parent := fun c => by
    rw [hnode]; split
    · rename_i e; rw [e, hb]; rfl
    · rfl
  have kidsE : ∀ k' c, kids k' ((alloc h k name id).1.node c) = kids k' (h.node c) := fun k' c => by
    rw [hnode]; split
    · rename_i e; rw [e, hb]; cases k' <;> rfl
    · rfl
  have old : ∀ c, c ≠ h.size → (alloc h k name id).1.node c = h.node c := fun c hc => by
    rw [hnode, if_neg hc]
  have ne : ∀ c p, (h.node c).parent = some p → c ≠ h.size ∧ p ≠ h.size := fun c p hc =>
    ⟨Nat.ne_of_lt (w.child_lt hc), Nat.ne_of_lt (w.parent_lt hc)⟩
  obtain ⟨d, hd⟩ := w.rank
  refine WF.of_sib ?_ ?_ ?_ ?_ ?_ ?_ ⟨d, fun c p => by rw [par]; exact hd c p⟩ ?_
  · intro i hi
    have hi : h.size + 1 ≤ i := hi
    rw [old i (by omega)]; exact w.blank i (by omega)
  · intro k' hk p c
    rw [kidsE, par, w.mem_kids_iff hk]
    exact and_congr_right fun hc => by rw [old c (ne c p hc).1]
  · intro k' _ p; rw [kidsE]; exact w.nodup_kids k' p
  · intro c; rw [par]
    by_cases hc : c = h.size
    · intro _; rw [hc, hb]; rfl
    · rw [old c hc]; exact w.docRoot c
  · intro c p; rw [par]; intro hc
    rw [old c (ne c p hc).1, old p (ne c p hc).2]; exact w.parS c p hc
  · intro c p; rw [par]; intro hc
    rw [old c (ne c p hc).1, old p (ne c p hc).2]; exact w.parP c p hc
  · intro a b p; rw [par, par]; intro ha hb'
    rw [old a (ne a p ha).1, old b (ne b p hb').1]; exact w.sib ha hb'

def detach (h : H) (q x : Nat) : H :=
  upd (upd h q (fun n => { n with secs := n.secs.erase x, props := n.props.erase x })) x
    (fun n => { n with parent := none })

section detach
variable {h : H} {q x : Nat}

theorem detach_size : (detach h q x).size = h.size := rfl

theorem detach_parent (c : Nat) :
    ((detach h q x).node c).parent = if c = x then none else (h.node c).parent := by
  unfold detach; rw [upd_node]; split
  · rfl
  · exact upd_proj Node.parent (by intro; rfl) h q c

theorem detach_kind (c : Nat) : ((detach h q x).node c).kind = (h.node c).kind :=
  (upd_proj Node.kind (by intro; rfl) _ x c).trans (upd_proj Node.kind (by intro; rfl) h q c)

theorem detach_name (c : Nat) : ((detach h q x).node c).name = (h.node c).name :=
  (upd_proj Node.name (by intro; rfl) _ x c).trans (upd_proj Node.name (by intro; rfl) h q c)

theorem detach_id (c : Nat) : ((detach h q x).node c).id = (h.node c).id :=
  (upd_proj Node.id (by intro; rfl) _ x c).trans (upd_proj Node.id (by intro; rfl) h q c)

theorem detach_kids (k : Kind) (p : Nat) :
    kids k ((detach h q x).node p) =
      if p = q then (kids k (h.node p)).erase x else kids k (h.node p) :=
  (upd_proj (kids k) (by intro; cases k <;> rfl) _ x p).trans
    (by rw [upd_node]; split <;> cases k <;> rfl)

theorem detach_secs (p : Nat) :
    ((detach h q x).node p).secs = if p = q then (h.node p).secs.erase x else (h.node p).secs :=
  detach_kids .sec p

theorem detach_props (p : Nat) :
    ((detach h q x).node p).props = if p = q then (h.node p).props.erase x else (h.node p).props :=
  detach_kids .prop p

theorem wf_detach (w : WF h) (hx : (h.node x).parent = some q) : WF (detach h q x) := by
  obtain ⟨d, hd⟩ := w.rank
  refine WF.of_sib ?_ ?_ ?_ ?_ ?_ ?_ ⟨d, fun c p => ?_⟩ ?_
  · intro i hi
    have hi : h.size ≤ i := hi
    have h1 := w.child_lt hx
    have h2 := w.parent_lt hx
    simp only [detach, upd_node]
    rw [if_neg (by omega), if_neg (by omega)]; exact w.blank i hi
  · intro k hk p c
    rw [detach_kids, detach_parent, detach_kind]
    by_cases hc : c = x
    · subst hc
      simp only [if_true, reduceCtorEq, false_and, iff_false]
      split
      · exact fun hm => ((w.nodup_kids k p).mem_erase_iff.mp hm).1 rfl
      · -- `x` is listed in `q` only
        rename_i hp
        exact fun hm => hp (Option.some.inj ((w.mem_kids hm).1.symm.trans hx))
    · rw [if_neg hc, ← w.mem_kids_iff hk]; split
      · exact List.mem_erase_of_ne hc
      · exact Iff.rfl
  · intro k _ p; rw [detach_kids]; split
    · exact (w.nodup_kids k p).erase x
    · exact w.nodup_kids k p
  · intro c; rw [detach_kind, detach_parent]; intro hk; split
    · rfl
    · exact w.docRoot c hk
  · intro c p; rw [detach_parent, detach_kind, detach_kind]; split
    · exact nofun
    · exact w.parS c p
  · intro c p; rw [detach_parent, detach_kind, detach_kind]; split
    · exact nofun
    · exact w.parP c p
  · rw [detach_parent]; split
    · exact nofun
    · exact hd c p
  · intro a b p
    rw [detach_parent, detach_parent, detach_kind, detach_kind, detach_name, detach_name]
    split
    · exact nofun
    · split
      · exact fun _ => nofun
      · exact w.sib

end detach

/-- `Anc h a c`: `a` is `c` or one of its ancestors. -/
inductive Anc (h : H) : Nat → Nat → Prop
  | refl (c : Nat) : Anc h c c
  | step {a p c : Nat} : (h.node c).parent = some p → Anc h a p → Anc h a c

theorem Anc.of_parent {h : H} {a c p : Nat} (hp : (h.node c).parent = some p) (ha : Anc h a c)
    (hne : a ≠ c) : Anc h a p := by
  cases ha with
  | refl => exact absurd rfl hne
  | step hp' ha' => rw [hp] at hp'; cases hp'; exact ha'

theorem Anc.trans {h : H} {a b c : Nat} (h1 : Anc h a b) (h2 : Anc h b c) : Anc h a c := by
  induction h2 with
  | refl => exact h1
  | step hp _ ih => exact Anc.step hp ih

theorem WF.desc_lt {h : H} (w : WF h) {a j : Nat} (ha : Anc h a j) (hlt : a < h.size) :
    j < h.size := by
  cases ha with
  | refl => exact hlt
  | step hp _ => exact w.child_lt hp

theorem WF.anc_lt {h : H} (w : WF h) {a c : Nat} (ha : Anc h a c) (hc : c < h.size) :
    a < h.size := by
  induction ha with
  | refl => exact hc
  | step hp _ ih => exact ih (w.parent_lt hp)

theorem WF.lt_of_kind_sec {h : H} (w : WF h) {i : Nat} (hk : (h.node i).kind = .sec) :
    i < h.size :=
  Nat.lt_of_not_le fun hi => by rw [w.blank i hi] at hk; cases hk

theorem Anc.rank_le {h : H} {d : Nat → Nat} (hd : ∀ c p, (h.node c).parent = some p → d p < d c)
    {a c : Nat} (ha : Anc h a c) : d a ≤ d c := by
  induction ha with
  | refl => exact Nat.le_refl _
  | step hp _ ih => have := hd _ _ hp; omega

/-- The cycle check answers "not met" only if `obj` really is not `cur` or above it. -/
theorem meetsUp_false {h : H} (w : WF h) {fuel : Nat} {cur obj : Nat}
    (hm : meetsUp h fuel (some cur) obj = false) : ¬ Anc h obj cur := by
  induction fuel generalizing cur with
  | zero => simp [meetsUp] at hm
  | succ fuel ih =>
    simp only [meetsUp] at hm
    split at hm
    · cases hm
    · rename_i hne
      intro ha
      cases ha with
      | refl => exact hne rfl
      | step hp ha' =>
        by_cases hk : (h.node cur).kind = .doc
        · have := w.docRoot cur hk; rw [this] at hp; cases hp
        · simp only [hk, if_false, hp] at hm
          exact ih hm ha'

theorem anc_of_leaf {h : H} {x : Nat} (hleaf : ∀ c, (h.node c).parent ≠ some x) {c : Nat}
    (hac : Anc h x c) : c = x := by
  induction hac with
  | refl => rfl
  | step hp _ ih =>
    rw [ih] at hp
    exact absurd hp (hleaf _)

theorem WF.not_anc_of_prop {h : H} (w : WF h) {x p : Nat} (hk : (h.node x).kind = .prop)
    (hp : (h.node p).kind ≠ .prop) : ¬ Anc h x p := fun ha =>
  hp (anc_of_leaf (w.leaf hk) ha ▸ hk)

def attach (h : H) (p x : Nat) (ls lp : List Nat) : H :=
  upd (upd h p (fun n => { n with secs := ls, props := lp })) x
    (fun n => { n with parent := some p })

section attach
variable {h : H} {p x : Nat} {ls lp : List Nat}

theorem attach_size : (attach h p x ls lp).size = h.size := rfl

theorem attach_parent (c : Nat) :
    ((attach h p x ls lp).node c).parent = if c = x then some p else (h.node c).parent := by
  unfold attach; rw [upd_node]; split
  · rfl
  · exact upd_proj Node.parent (by intro; rfl) h p c

theorem attach_kind (c : Nat) : ((attach h p x ls lp).node c).kind = (h.node c).kind :=
  (upd_proj Node.kind (by intro; rfl) _ x c).trans (upd_proj Node.kind (by intro; rfl) h p c)

theorem attach_name (c : Nat) : ((attach h p x ls lp).node c).name = (h.node c).name :=
  (upd_proj Node.name (by intro; rfl) _ x c).trans (upd_proj Node.name (by intro; rfl) h p c)

theorem attach_id (c : Nat) : ((attach h p x ls lp).node c).id = (h.node c).id :=
  (upd_proj Node.id (by intro; rfl) _ x c).trans (upd_proj Node.id (by intro; rfl) h p c)

theorem attach_kids (k : Kind) (q : Nat) :
    kids k ((attach h p x ls lp).node q) =
      if q = p then kids k { h.node q with secs := ls, props := lp } else kids k (h.node q) :=
  (upd_proj (kids k) (by intro; cases k <;> rfl) _ x q).trans (by rw [upd_node]; split <;> rfl)

theorem attach_secs (q : Nat) :
    ((attach h p x ls lp).node q).secs = if q = p then ls else (h.node q).secs :=
  attach_kids .sec q

theorem attach_props (q : Nat) :
    ((attach h p x ls lp).node q).props = if q = p then lp else (h.node q).props :=
  attach_kids .prop q

/-- New rank: what is at or below `x` is lifted by `d p + 1`. -/
theorem attach_rank (w : WF h) (hanc : ¬ Anc h x p) :
    ∃ d' : Nat → Nat, ∀ c q, ((attach h p x ls lp).node c).parent = some q → d' q < d' c := by
  obtain ⟨d, hd⟩ := w.rank
  classical
  refine ⟨fun y => if Anc h x y then d y + d p + 1 else d y, ?_⟩
  intro c q
  rw [attach_parent]
  by_cases hc : c = x
  · subst hc
    simp only [if_true]
    intro hq; cases hq
    simp only [hanc, if_false, Anc.refl, if_true]
    omega
  · simp only [hc, if_false]
    intro hq
    have hlt := hd c q hq
    by_cases ha : Anc h x c
    · have haq : Anc h x q := Anc.of_parent hq ha (fun e => hc e.symm)
      simp only [ha, haq, if_true]; omega
    · have haq : ¬ Anc h x q := fun haq => ha (Anc.step hq haq)
      simp only [ha, haq, if_false]; exact hlt

theorem wf_attach (w : WF h) (hx : (h.node x).parent = none) (hkx : (h.node x).kind ≠ .doc)
    (hparS : (h.node x).kind = .sec → (h.node p).kind ≠ .prop)
    (hparP : (h.node x).kind = .prop → (h.node p).kind = .sec)
    (hanc : ¬ Anc h x p) (hxs : x < h.size) (hps : p < h.size)
    (hnames : ∀ c, (h.node c).parent = some p → (h.node c).kind = (h.node x).kind →
      (h.node c).name ≠ (h.node x).name)
    (hS : ls.Perm (if (h.node x).kind = .sec then x :: (h.node p).secs else (h.node p).secs))
    (hP : lp.Perm (if (h.node x).kind = .prop then x :: (h.node p).props else (h.node p).props)) :
    WF (attach h p x ls lp) := by
  have hxK : ∀ k q, x ∉ kids k (h.node q) := fun k q hm => by
    have := (w.mem_kids hm).1; rw [hx] at this; cases this
  have hK : ∀ k q, k ≠ .doc → (kids k { h.node q with secs := ls, props := lp }).Perm
      (if (h.node x).kind = k then x :: kids k (h.node p) else kids k (h.node p)) := by
    intro k q hk
    cases k
    · exact absurd rfl hk
    · exact hS
    · exact hP
  refine WF.of_sib ?_ ?_ ?_ ?_ ?_ ?_ (attach_rank w hanc) ?_
  · intro i hi
    have hi : h.size ≤ i := hi
    simp only [attach, upd_node]
    rw [if_neg (by omega), if_neg (by omega)]; exact w.blank i hi
  · intro k hk q c
    rw [attach_kids, attach_parent, attach_kind]
    by_cases hc : c = x
    · subst hc
      by_cases hq : q = p
      · subst hq; rw [if_pos rfl, (hK k _ hk).mem_iff]; split <;> simp [*]
      · simp [hq, hxK k q, Ne.symm hq]
    · rw [if_neg hc, ← w.mem_kids_iff hk]; split
      · rename_i hq; subst hq; rw [(hK k _ hk).mem_iff]; split <;> simp [hc]
      · exact Iff.rfl
  · intro k hk q; rw [attach_kids]; split
    · rw [(hK k _ hk).nodup_iff]; split
      · exact List.nodup_cons.mpr ⟨hxK k p, w.nodup_kids k p⟩
      · exact w.nodup_kids k p
    · exact w.nodup_kids k q
  · intro c; rw [attach_kind, attach_parent]; intro hkc; split
    · rename_i hc; subst hc; exact absurd hkc hkx
    · exact w.docRoot c hkc
  · intro c q; rw [attach_parent, attach_kind, attach_kind]; split
    · rename_i hc; subst hc; intro h1 hk; cases h1; exact hparS hk
    · exact w.parS c q
  · intro c q; rw [attach_parent, attach_kind, attach_kind]; split
    · rename_i hc; subst hc; intro h1 hk; cases h1; exact hparP hk
    · exact w.parP c q
  · intro a b q
    simp only [attach_parent, attach_kind, attach_name]
    by_cases ha : a = x <;> by_cases hb : b = x
    · intro _ _ _ _; rw [ha, hb]
    · subst ha; rw [if_pos rfl, if_neg hb]
      intro h1 hb' hk hn; cases h1
      exact absurd hn.symm (hnames b hb' hk.symm)
    · subst hb; rw [if_neg ha, if_pos rfl]
      intro ha' h1 hk hn; cases h1
      exact absurd hn (hnames a ha' hk)
    · rw [if_neg ha, if_neg hb]; exact w.sib

end attach

/-- `hname`: the name `i` ends up with differs from its siblings' names. -/
theorem wf_upd {h : H} (w : WF h) {i : Nat} {f : Node → Node} (hi : i < h.size)
    (hpar : ∀ n, (f n).parent = n.parent) (hkind : ∀ n, (f n).kind = n.kind)
    (hS : (f (h.node i)).secs.Perm (h.node i).secs)
    (hP : (f (h.node i)).props.Perm (h.node i).props)
    (hname : ∀ p c, (h.node i).parent = some p → (h.node c).parent = some p →
      (h.node c).kind = (h.node i).kind → c ≠ i → (h.node c).name ≠ (f (h.node i)).name) :
    WF (upd h i f) := by
  have par : ∀ c, ((upd h i f).node c).parent = (h.node c).parent := fun c => by
    rw [upd_node]; split
    · exact hpar _
    · rfl
  have kind : ∀ c, ((upd h i f).node c).kind = (h.node c).kind := fun c => by
    rw [upd_node]; split
    · exact hkind _
    · rfl
  have kidsP : ∀ k p, (kids k ((upd h i f).node p)).Perm (kids k (h.node p)) := fun k p => by
    rw [upd_node]; split
    · rename_i e; subst e
      cases k
      · exact .refl _
      · exact hS
      · exact hP
    · exact .refl _
  obtain ⟨d, hd⟩ := w.rank
  refine WF.of_sib ?_ ?_ ?_ ?_ ?_ ?_ ⟨d, fun c p => by rw [par]; exact hd c p⟩ ?_
  · intro j hj
    have hj : h.size ≤ j := hj
    rw [upd_node, if_neg (by omega)]; exact w.blank j hj
  · intro k hk p c; rw [(kidsP k p).mem_iff, par, kind]; exact w.mem_kids_iff hk
  · intro k _ p; rw [(kidsP k p).nodup_iff]; exact w.nodup_kids k p
  · intro c; rw [kind, par]; exact w.docRoot c
  · intro c p; rw [par, kind, kind]; exact w.parS c p
  · intro c p; rw [par, kind, kind]; exact w.parP c p
  · intro a b p
    rw [par, par, kind, kind, upd_node, upd_node]
    intro ha hb hk
    by_cases ha' : a = i <;> by_cases hb' : b = i
    · intro _; rw [ha', hb']
    · subst ha'; rw [if_pos rfl, if_neg hb']
      exact fun hn => absurd hn.symm (hname p b ha hb hk.symm hb')
    · subst hb'; rw [if_neg ha', if_pos rfl]
      exact fun hn => absurd hn (hname p a hb ha hk ha')
    · rw [if_neg ha', if_neg hb']; exact w.sib ha hb hk

theorem wf_upd_lists {h : H} (w : WF h) {i : Nat} {f : Node → Node} (hi : i < h.size)
    (hpar : ∀ n, (f n).parent = n.parent) (hkind : ∀ n, (f n).kind = n.kind)
    (hname : ∀ n, (f n).name = n.name)
    (hS : (f (h.node i)).secs.Perm (h.node i).secs)
    (hP : (f (h.node i)).props.Perm (h.node i).props) : WF (upd h i f) :=
  wf_upd w hi hpar hkind hS hP fun _ _ hi' hc hk hne e =>
    hne (w.sib hc hi' hk (e.trans (hname _)))

end Heap
