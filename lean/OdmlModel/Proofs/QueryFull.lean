/-
C20, all searchable attributes: the direct specification `directEval'` (an object also carries its
`id`, a Property its values, a repository is an attribute like the others), and soundness and
completeness of the generated query on any graph `g` that answers what the queries look at
(`GFacts g ds`): one pair at the node of an object (`pairSat_*`), the three parts of a query
(`satD'_iff`, `satS'_iff`, `satP'_iff`), `sound_complete_gen` (from `mem_solutions`; `?v` is chosen: the value node of the
Property when some pair asks for values, unbound otherwise).  `GFacts` is proved of the export in `Proofs/QueryRepo.lean`;
property theorems: `Props/C20.lean`.
-/
import OdmlModel.Model.QuerySpec
import OdmlModel.Proofs.Query



namespace Query
open Rdf List

def fullPair (k : Kind) (x : Pair) : Prop := x.kind = k ∧ String.ofList x.attr ∈ fullAttrs k

/-- **QueryFull**: every pair sits under its own key and asks for a searchable attribute of that
    kind of object (`fullAttrs`), `id`, `value` and `repository` included. -/
def QueryFull (q : QParams) : Prop :=
  (∀ x ∈ q.doc, fullPair .doc x) ∧ (∀ x ∈ q.sec, fullPair .sec x) ∧ (∀ x ∈ q.prop, fullPair .prop x)

theorem queryFull_of_B {q : QParams} (h : queryFullB q = true) : QueryFull q := by
  simp only [queryFullB, Bool.and_eq_true, all_eq_true, fullPairB, beq_iff_eq, contains_iff_mem] at h
  exact ⟨fun x hx => h.1.1 x hx, fun x hx => h.1.2 x hx, fun x hx => h.2 x hx⟩

/-- The order of evaluation the driver uses gives the specification itself. -/
theorem directEvalU'_eq (ds : List DocT) (q : QParams) : directEvalU' ds q = directEval' ds q := by
  unfold directEvalU' directEval'
  apply List.filter_congr
  intro r _
  unfold rowOK'
  cases unboundOK q r.1 r.2.1 r.2.2 <;> simp

theorem directEvalU_eq (ds : List DocT) (q : QParams) : directEvalU ds q = directEval ds q := by
  unfold directEvalU directEval
  apply List.filter_congr
  intro r _
  unfold rowOK
  cases unboundOK q r.1 r.2.1 r.2.2 <;> simp

theorem attr_eq_of {a : Str} {k : String} (h : String.ofList a = k) : a = k.toList := by
  rw [← h, String.toList_ofList]

theorem objCarries_safe {K : Kind} {y : Pair} (hs : safePair K y) (id : Str) (a : Attrs) :
    objCarries id a y = carries a y := by
  have := (safeAttrs_facts K _ hs.2).2.2.2.2.2.1
  simp only [objCarries, attr_ne_of this, Bool.false_eq_true, if_false]

theorem propCarries_safe {y : Pair} (hs : safePair .prop y) (p : PropT) :
    propCarries p y = carries p.attrs y := by
  have := (safeAttrs_facts .prop _ hs.2).2.2.2.2.2.2.2.2
  simp only [propCarries, attr_ne_of this, objCarries_safe hs, Bool.false_eq_true, if_false]

/-- On the queries of `QuerySafe` the extended specification is the one of `query_sound_complete`. -/
theorem directEval'_eq_of_safe (ds : List DocT) (q : QParams) (safe : QuerySafe q) :
    directEval' ds q = directEval ds q := by
  unfold directEval' directEval
  congr 1
  funext row
  have e1 : ∀ d : DocT, q.doc.all (objCarries d.id d.attrs) = carriesAll d.attrs q.doc := by
    intro d
    unfold carriesAll
    exact all_congr_mem (fun y hy => objCarries_safe (safe.1 y hy) _ _)
  have e2 : ∀ s : SecT, q.sec.all (objCarries s.id s.attrs) = carriesAll s.attrs q.sec := by
    intro s
    unfold carriesAll
    exact all_congr_mem (fun y hy => objCarries_safe (safe.2.1 y hy) _ _)
  have e3 : ∀ p : PropT, q.prop.all (propCarries p) = propCarriesAll p q.prop := by
    intro p
    unfold propCarriesAll
    refine all_congr_mem (fun y hy => ?_)
    have := (safeAttrs_facts .prop _ (safe.2.2 y hy).2).2.2.2.2.2.2.2.2
    rw [propCarries_safe (safe.2.2 y hy)]
    simp only [attr_ne_of this, Bool.false_eq_true, if_false]
  simp only [rowOK', rowOK, partD', partD, partS', partS, partP', partP, e1, e2, e3]

def hvS : String := "https://g-node.org/odml-rdf#hasValue"
def htS : String := "https://g-node.org/odml-rdf#hasTerminology"

/-- Table facts for the value and repository pairs (decidable; discharged in `Props/C20`). -/
structure QTablesOK2 : Prop where
  base : QTablesOK
  propValue : ("value", hvS) ∈ Gen.Format.propertyRdfMap
  docRepo : ("repository", htS) ∈ Gen.Format.documentRdfMap
  secRepo : ("repository", htS) ∈ Gen.Format.sectionRdfMap
  hvIri : odmlIri "hasValue" = .iri hvS.toList
  htIri : hasTerminology = .iri htS.toList

/-- The attribute's Python value, as text, is `s`. -/
def carriesKey (a : Attrs) (k : String) (s : Str) : Bool :=
  match a.lookup k with
  | some v => v.lex == s
  | none => false

theorem carries_eq_key (a : Attrs) (x : Pair) : carries a x = carriesKey a (String.ofList x.attr) x.val := rfl

/-- The triples of the graph `g`, read against the documents `ds`: exactly what the queries look at. -/
structure GFacts (g : Graph) (ds : List DocT) : Prop where
  docType : ∀ x, (⟨x, rdfType, docT⟩ : Triple) ∈ g ↔ ∃ d ∈ ds, x = node d.id
  secType : ∀ x, (⟨x, rdfType, secT⟩ : Triple) ∈ g ↔ ∃ s ∈ docSecs ds, x = node s.id
  propType : ∀ x, (⟨x, rdfType, propT⟩ : Triple) ∈ g ↔ ∃ p ∈ docProps ds, x = node p.id
  hasSec : ∀ x s, s ∈ docSecs ds →
    ((⟨x, .iri hsS.toList, node s.id⟩ : Triple) ∈ g ↔ (x, s) ∈ allSecsWithParent ds)
  hasProp : ∀ x p, p ∈ docProps ds →
    ((⟨x, .iri hpS.toList, node p.id⟩ : Triple) ∈ g ↔ ∃ s ∈ docSecs ds, x = node s.id ∧ p ∈ s.props)
  docAttrs : ∀ d ∈ ds, ∀ l, (∀ y ∈ l, safePair .doc y) →
    (AttrTriples g .doc (node d.id) l ↔ carriesAll d.attrs l = true)
  secAttrs : ∀ s ∈ docSecs ds, ∀ l, (∀ y ∈ l, safePair .sec y) →
    (AttrTriples g .sec (node s.id) l ↔ carriesAll s.attrs l = true)
  propAttrs : ∀ p ∈ docProps ds, ∀ l, (∀ y ∈ l, safePair .prop y) →
    (AttrTriples g .prop (node p.id) l ↔ propCarriesAll p l = true)
  hasValue : ∀ p ∈ docProps ds, ∀ y,
    ((⟨node p.id, .iri hvS.toList, y⟩ : Triple) ∈ g ↔ (y = .seqn p.id ∧ p.values ≠ []))
  member : ∀ p ∈ docProps ds, ∀ s,
    ((∃ t ∈ g, t.s = .seqn p.id ∧ isMemberPred t.p = true ∧ strOf t.o = some s) ↔
      ∃ l ∈ p.values, l.lex = s)
  docRepo : ∀ d ∈ ds, ∀ s,
    ((∃ m u, (⟨node d.id, .iri htS.toList, m⟩ : Triple) ∈ g ∧ (⟨m, rdfType, u⟩ : Triple) ∈ g ∧
        strOf u = some s) ↔ carriesKey d.attrs "repository" s = true)
  secRepo : ∀ c ∈ docSecs ds, ∀ s,
    ((∃ m u, (⟨node c.id, .iri htS.toList, m⟩ : Triple) ∈ g ∧ (⟨m, rdfType, u⟩ : Triple) ∈ g ∧
        strOf u = some s) ↔ carriesKey c.attrs "repository" s = true)

theorem holds_member (g : Graph) (b : Binding) (x : Var) (s : Str) (n : Term)
    (hx : b.get x = some n) :
    (Flt.member x s).holds g b = true ↔
      ∃ t ∈ g, t.s = n ∧ isMemberPred t.p = true ∧ strOf t.o = some s := by
  simp only [Flt.holds, boundTo, hx, any_eq_true, Bool.and_eq_true, beq_iff_eq]
  constructor
  · rintro ⟨t, ht, ⟨e1, e2⟩, e3⟩; exact ⟨t, ht, e1.symm, e2, e3⟩
  · rintro ⟨t, ht, e1, e2, e3⟩; exact ⟨t, ht, ⟨e1.symm, e2⟩, e3⟩

theorem holds_typedBy (g : Graph) (b : Binding) (x : Var) (pred : Term) (s : Str) (n : Term)
    (hx : b.get x = some n) :
    (Flt.typedBy x pred s).holds g b = true ↔
      ∃ m u, (⟨n, pred, m⟩ : Triple) ∈ g ∧ (⟨m, rdfType, u⟩ : Triple) ∈ g ∧ strOf u = some s := by
  simp only [Flt.holds, boundTo, hx, any_eq_true, Bool.and_eq_true, beq_iff_eq]
  constructor
  · rintro ⟨⟨ts, tp, to⟩, ht, ⟨e1, e2⟩, ⟨us, up, uo⟩, hu, ⟨e3, e4⟩, e5⟩
    simp only at e1 e2 e3 e4 e5
    subst e1 e2 e3 e4
    exact ⟨_, _, ht, hu, e5⟩
  · rintro ⟨m, u, ht, hu, e⟩
    exact ⟨_, ht, ⟨rfl, rfl⟩, _, hu, ⟨rfl, rfl⟩, e⟩

theorem holds_strEq_node (g : Graph) (b : Binding) (x : Var) (i v : Str)
    (hx : b.get x = some (node i)) : (Flt.strEq x (ns ++ v)).holds g b = true ↔ i = v := by
  simp only [Flt.holds, hx, node, strOf, beq_iff_eq, Option.some.injEq, append_cancel_left_eq]

/-- The patterns of the pair are satisfied and its FILTERs hold. -/
def PairSat (g : Graph) (b : Binding) (y : Pair) : Prop :=
  (∀ pl, attrPat y = .ok pl → Sat g pl b) ∧ ∀ f ∈ attrFlt y, f.holds g b = true

theorem attrPats_mem : ∀ {l : List Pair} {ps : List Pat}, attrPats l = .ok ps →
    ∀ pat, pat ∈ ps ↔ ∃ y ∈ l, ∃ pl, attrPat y = .ok pl ∧ pat ∈ pl
  | [], ps, h, pat => by
    simp only [attrPats, Except.ok.injEq] at h
    subst h
    simp
  | y :: r, ps, h, pat => by
    cases h1 : attrPat y with
    | error e => simp [attrPats, h1] at h
    | ok a =>
      cases h2 : attrPats r with
      | error e => simp [attrPats, h1, h2] at h
      | ok b =>
        simp only [attrPats, h1, h2, Except.ok.injEq] at h
        subst h
        have ih := attrPats_mem h2 pat
        simp only [mem_append, mem_cons, ih]
        constructor
        · rintro (h | ⟨z, hz, pl, e, hm⟩)
          · exact ⟨y, .inl rfl, a, h1, h⟩
          · exact ⟨z, .inr hz, pl, e, hm⟩
        · rintro ⟨z, rfl | hz, pl, e, hm⟩
          · rw [h1] at e; cases e; exact .inl hm
          · exact .inr ⟨z, hz, pl, e, hm⟩

theorem sat_attrPats {g : Graph} {l : List Pair} {ps : List Pat} {b : Binding}
    (h : attrPats l = .ok ps) :
    (Sat g ps b ∧ ∀ f ∈ l.flatMap attrFlt, f.holds g b = true) ↔ ∀ y ∈ l, PairSat g b y := by
  constructor
  · rintro ⟨h1, h2⟩ y hy
    exact ⟨fun pl e pat hp => h1 pat ((attrPats_mem h pat).mpr ⟨y, hy, pl, e, hp⟩),
      fun f hf => h2 f (mem_flatMap.mpr ⟨y, hy, hf⟩)⟩
  · intro H
    refine ⟨fun pat hp => ?_, fun f hf => ?_⟩
    · obtain ⟨y, hy, pl, e, hm⟩ := (attrPats_mem h pat).mp hp
      exact (H y hy).1 pl e pat hm
    · obtain ⟨y, hy, hm⟩ := mem_flatMap.mp hf
      exact (H y hy).2 f hm

theorem pairSat_safe {g : Graph} {b : Binding} {K : Kind} {y : Pair} (hs : safePair K y) {x : Term}
    (hx : b.get (varOf K) = some x) : PairSat g b y ↔ AttrTriples g K x [y] := by
  obtain ⟨pred, hl, hp, hf⟩ := attrPat_safe hs
  have hm : ∀ pat, pat ∈ [patOf y pred] ↔ ∃ y' ∈ [y], ∃ pred',
      (tableOf K).lookup (String.ofList y'.attr) = some pred' ∧ pat = patOf y' pred' := by
    intro pat
    constructor
    · intro h
      simp only [mem_cons, mem_nil_iff, or_false] at h
      subst h
      exact ⟨y, by simp, pred, hl, rfl⟩
    · rintro ⟨y', hy', pred', h1, rfl⟩
      simp only [mem_cons, mem_nil_iff, or_false] at hy'
      subst hy'
      rw [hl] at h1; cases h1; simp
  rw [← sat_attrs hm (fun z hz => by
    simp only [mem_cons, mem_nil_iff, or_false] at hz; subst hz; exact hs.1) hx]
  unfold PairSat
  rw [hf, hp]
  simp


theorem fullAttrs_eq (K : Kind) :
    fullAttrs K = safeAttrs K ++ ["id", if K = .prop then "value" else "repository"] := by
  cases K <;> rfl

theorem attr_id (k : Kind) (v : Str) (vs : List Str) :
    attrPat ⟨k, "id".toList, v, vs⟩ = .ok [] ∧
    attrFlt ⟨k, "id".toList, v, vs⟩ = [.strEq (varOf k) (ns ++ v)] := by
  cases k <;> exact ⟨rfl, rfl⟩

theorem pairSat_id {g : Graph} {b : Binding} (k : Kind) (v : Str) (vs : List Str) {id : Str}
    (hb : b.get (varOf k) = some (node id)) : PairSat g b ⟨k, "id".toList, v, vs⟩ ↔ id = v := by
  unfold PairSat
  rw [(attr_id k v vs).2]
  simp only [(attr_id k v vs).1, Except.ok.injEq, forall_eq', mem_cons, mem_nil_iff, or_false,
    forall_eq, holds_strEq_node g b _ id v hb]
  simp [Sat]

theorem pairSat_obj {g : Graph} {K : Kind} (hK : K ≠ .prop) {id : Str} {a : Attrs} {b : Binding}
    (hb : b.get (varOf K) = some (node id))
    (hattrs : ∀ l, (∀ y ∈ l, safePair K y) → (AttrTriples g K (node id) l ↔ carriesAll a l = true))
    (hrepo : ∀ s, (∃ m u, (⟨node id, .iri htS.toList, m⟩ : Triple) ∈ g ∧
        (⟨m, rdfType, u⟩ : Triple) ∈ g ∧ strOf u = some s) ↔ carriesKey a "repository" s = true)
    {y : Pair} (hy : fullPair K y) : PairSat g b y ↔ objCarries id a y = true := by
  obtain ⟨hk, ha⟩ := hy
  rw [fullAttrs_eq, if_neg hK, mem_append] at ha
  rcases ha with hs | ha
  · have hs : safePair K y := ⟨hk, hs⟩
    rw [pairSat_safe hs hb, hattrs [y] (by simpa using hs), objCarries_safe hs]
    simp [carriesAll]
  · obtain ⟨k, a', v, vs⟩ := y
    simp only [mem_cons, mem_nil_iff, or_false] at ha
    simp only at hk
    subst hk
    rcases ha with h | h <;> have ea := attr_eq_of h <;> subst ea
    · exact (pairSat_id k v vs hb).trans (by simp [objCarries])
    · have e1 : attrPat ⟨k, "repository".toList, v, vs⟩ = .ok [] := by
        cases k <;> first | rfl | exact absurd rfl hK
      have e2 : attrFlt ⟨k, "repository".toList, v, vs⟩ =
          [.typedBy (varOf k) (.iri htS.toList) v] := by
        cases k <;> first | rfl | exact absurd rfl hK
      have e3 : objCarries id a ⟨k, "repository".toList, v, vs⟩ = carriesKey a "repository" v := rfl
      unfold PairSat
      rw [e2, e3]
      simp only [e1, Except.ok.injEq, forall_eq', mem_cons, mem_nil_iff, or_false, forall_eq]
      rw [holds_typedBy g b _ _ v _ hb, hrepo v]
      simp [Sat]

/-- The pair asks for values (and so binds `?v`). -/
def needsVP (y : Pair) : Prop := y.attr = "value".toList ∧ y.vals ≠ []

section pairs
variable {g : Graph} {ds : List DocT} (gf : GFacts g ds)
include gf

theorem pairSat_prop (ok2 : QTablesOK2) {p : PropT} (hp : p ∈ docProps ds) {b : Binding}
    (hb : b.p = some (node p.id)) {y : Pair} (hy : fullPair .prop y) :
    PairSat g b y ↔ (propCarries p y = true ∧ (needsVP y → b.v = some (.seqn p.id))) := by
  obtain ⟨hk, ha⟩ := hy
  have hx : b.get (varOf .prop) = some (node p.id) := hb
  -- a pair that is no `value` pair puts no condition on `?v`
  have noV : y.attr ≠ "value".toList → (PairSat g b y ↔ propCarries p y = true) →
      (PairSat g b y ↔ (propCarries p y = true ∧ (needsVP y → b.v = some (.seqn p.id)))) :=
    fun hne h => h.trans (and_iff_left_of_imp fun _ hn => absurd hn.1 hne).symm
  rw [fullAttrs_eq, if_pos rfl, mem_append] at ha
  simp only [mem_cons, mem_nil_iff, or_false] at ha
  rcases ha with h | h | h
  · have hs : safePair .prop y := ⟨hk, h⟩
    have hv := attr_ne_of (safeAttrs_facts .prop _ h).2.2.2.2.2.2.2.2
    refine noV (by simpa using hv) ?_
    rw [pairSat_safe hs hx, gf.propAttrs p hp [y] (by simpa using hs), propCarries_safe hs]
    simp only [propCarriesAll, all_cons, all_nil, Bool.and_true, hv, Bool.false_eq_true, if_false]
  · have ea := attr_eq_of h
    obtain ⟨k, a, v, vs⟩ := y
    simp only at hk ea
    subst hk ea
    exact noV (show "id".toList ≠ "value".toList by decide) ((pairSat_id .prop v vs hx).trans (by simp [propCarries, objCarries]))
  · have ea := attr_eq_of h
    obtain ⟨k, a, v, vs⟩ := y
    simp only at hk ea
    subst hk ea
    unfold PairSat
    cases vs with
    | nil =>
      have e1 : attrPat ⟨.prop, "value".toList, v, []⟩ = .ok [] := rfl
      have e2 : attrFlt ⟨.prop, "value".toList, v, []⟩ = [] := rfl
      have e3 : propCarries p ⟨.prop, "value".toList, v, []⟩ = true := rfl
      simp only [e1, e2, e3, Except.ok.injEq, forall_eq', needsVP]
      simp [Sat]
    | cons a r =>
      have e1 : attrPat ⟨.prop, "value".toList, v, a :: r⟩ =
          .ok [⟨.var .p, .const (odmlIri "hasValue"), .var .v⟩] := rfl
      have e2 : attrFlt ⟨.prop, "value".toList, v, a :: r⟩ = (a :: r).map (Flt.member .v) := rfl
      have e3 : propCarries p ⟨.prop, "value".toList, v, a :: r⟩ =
          (a :: r).all fun s => p.values.any fun l => l.lex == s := rfl
      rw [e2, e3]
      simp only [e1, Except.ok.injEq, forall_eq', mem_map, forall_exists_index, and_imp,
        forall_apply_eq_imp_iff₂, all_eq_true, any_eq_true, beq_iff_eq, needsVP, true_and, ne_eq,
        reduceCtorEq, not_false_eq_true, forall_const]
      rw [sat_cons, sat_vcv, ok2.hvIri]
      constructor
      · rintro ⟨⟨⟨x, y, h1, h2, ht⟩, _⟩, hf⟩
        obtain rfl : x = node p.id := Option.some.inj (h1.symm.trans hb)
        obtain ⟨rfl, _⟩ := (gf.hasValue p hp y).mp ht
        exact ⟨fun s hs => (gf.member p hp s).mp ((holds_member g b .v s _ h2).mp (hf s hs)), h2⟩
      · rintro ⟨hc, hv⟩
        obtain ⟨l, hl, _⟩ := hc a (mem_cons_self ..)
        exact ⟨⟨⟨_, _, hb, hv, (gf.hasValue p hp _).mpr ⟨rfl, ne_nil_of_mem hl⟩⟩,
          fun _ h => by simp at h⟩,
          fun s hs => (holds_member g b .v s _ hv).mpr ((gf.member p hp s).mpr (hc s hs))⟩

end pairs


/-- Some Property pair asks for values: the query binds `?v`. -/
def needsV (q : QParams) : Prop := ∃ y ∈ q.prop, needsVP y

/-- `partD'`, `partS'`, `partP'` as propositions about a binding (`PP'` also says what `?v` is). -/
def PD' (ds : List DocT) (q : QParams) (b : Binding) : Prop :=
  q.doc = [] ∨ ∃ d ∈ ds, b.d = some (node d.id) ∧ q.doc.all (objCarries d.id d.attrs) = true
def PS' (ds : List DocT) (q : QParams) (b : Binding) : Prop :=
  q.sec = [] ∨ ∃ ps ∈ allSecsWithParent ds, b.d = some ps.1 ∧ b.s = some (node ps.2.id) ∧
    q.sec.all (objCarries ps.2.id ps.2.attrs) = true
def PP' (ds : List DocT) (q : QParams) (b : Binding) : Prop :=
  q.prop = [] ∨ ∃ ps ∈ allSecsWithParent ds, b.s = some (node ps.2.id) ∧
    ∃ p ∈ ps.2.props, b.p = some (node p.id) ∧ q.prop.all (propCarries p) = true ∧
      (needsV q → b.v = some (.seqn p.id))
/-- `PP'` without the clause on `?v` (the rows do not show `?v`). -/
def PP0 (ds : List DocT) (q : QParams) (os op : Option Term) : Prop :=
  q.prop = [] ∨ ∃ ps ∈ allSecsWithParent ds, os = some (node ps.2.id) ∧
    ∃ p ∈ ps.2.props, op = some (node p.id) ∧ q.prop.all (propCarries p) = true

section parts'
variable (ok2 : QTablesOK2) {g : Graph} {ds : List DocT} (gf : GFacts g ds) {q : QParams}
  (full : QueryFull q)
include ok2 gf full

theorem satD'_iff {dp : List Pat} (h : attrPats q.doc = .ok dp) (b : Binding) :
    (Sat g (docPats q dp) b ∧ ∀ f ∈ q.doc.flatMap attrFlt, f.holds g b = true) ↔ PD' ds q b := by
  unfold docPats PD'
  by_cases he : q.doc = []
  · simp [he, Sat]
  · have he' : q.doc.isEmpty = false := by simpa using he
    simp only [he', Bool.false_eq_true, if_false, he, false_or]
    rw [sat_cons, sat_vcc, ok2.base.docIri, and_assoc, sat_attrPats h]
    simp only [gf.docType, all_eq_true]
    have pair := fun {d} (hd : d ∈ ds) (hb : b.d = some (node d.id)) y hy =>
      pairSat_obj (K := .doc) (by decide) hb (gf.docAttrs d hd) (gf.docRepo d hd) (full.1 y hy)
    constructor
    · rintro ⟨⟨x, hx, d, hd, rfl⟩, H⟩
      exact ⟨d, hd, hx, fun y hy => (pair hd hx y hy).mp (H y hy)⟩
    · rintro ⟨d, hd, hb, hc⟩
      exact ⟨⟨_, hb, d, hd, rfl⟩, fun y hy => (pair hd hb y hy).mpr (hc y hy)⟩

theorem satS'_iff {sp : List Pat} (h : attrPats q.sec = .ok sp) (b : Binding) :
    (Sat g (secPats q sp) b ∧ ∀ f ∈ q.sec.flatMap attrFlt, f.holds g b = true) ↔ PS' ds q b := by
  unfold secPats PS'
  by_cases he : q.sec = []
  · simp [he, Sat]
  · have he' : q.sec.isEmpty = false := by simpa using he
    simp only [he', Bool.false_eq_true, if_false, he, false_or]
    rw [sat_cons, sat_cons, sat_vcv, sat_vcc, ok2.base.secIri, ok2.base.hsIri, and_assoc, and_assoc,
      sat_attrPats h]
    simp only [gf.secType, all_eq_true]
    have pair := fun {s} (hs : s ∈ docSecs ds) (hb : b.s = some (node s.id)) y hy =>
      pairSat_obj (K := .sec) (by decide) hb (gf.secAttrs s hs) (gf.secRepo s hs) (full.2.1 y hy)
    constructor
    · rintro ⟨⟨x, y, hx, hy, ht⟩, ⟨y', hy', s, hsm, rfl⟩, H⟩
      obtain rfl : y = node s.id := Option.some.inj (hy.symm.trans hy')
      exact ⟨(x, s), (gf.hasSec x s hsm).mp ht, hx, hy, fun z hz => (pair hsm hy z hz).mp (H z hz)⟩
    · rintro ⟨⟨x, s⟩, hpar, hx, hy, hc⟩
      have hsm : s ∈ docSecs ds := child_mem_docSecs hpar
      exact ⟨⟨x, _, hx, hy, (gf.hasSec x s hsm).mpr hpar⟩, ⟨_, hy, s, hsm, rfl⟩,
        fun z hz => (pair hsm hy z hz).mpr (hc z hz)⟩

theorem satP'_iff {pp : List Pat} (h : attrPats q.prop = .ok pp) (b : Binding) :
    (Sat g (propPats q pp) b ∧ ∀ f ∈ q.prop.flatMap attrFlt, f.holds g b = true) ↔ PP' ds q b := by
  unfold propPats PP'
  by_cases he : q.prop = []
  · simp [he, Sat]
  · have he' : q.prop.isEmpty = false := by simpa using he
    simp only [he', Bool.false_eq_true, if_false, he, false_or]
    rw [sat_cons, sat_cons, sat_vcv, sat_vcc, ok2.base.propIri, ok2.base.hpIri, and_assoc, and_assoc,
      sat_attrPats h]
    simp only [gf.propType, all_eq_true]
    have pair := fun {p} (hp : p ∈ docProps ds) (hb : b.p = some (node p.id)) y hy =>
      pairSat_prop gf ok2 hp hb (full.2.2 y hy)
    constructor
    · rintro ⟨⟨x, y, hx, hy, ht⟩, ⟨y', hy', p, hpm, rfl⟩, H⟩
      obtain rfl : y = node p.id := Option.some.inj (hy.symm.trans hy')
      obtain ⟨s, hsm, rfl, hps⟩ := (gf.hasProp x p hpm).mp ht
      obtain ⟨par, hpar⟩ := exists_parent hsm
      exact ⟨(par, s), hpar, hx, p, hps, hy, fun z hz => ((pair hpm hy z hz).mp (H z hz)).1,
        fun ⟨z, hz, hn⟩ => ((pair hpm hy z hz).mp (H z hz)).2 hn⟩
    · rintro ⟨⟨par, s⟩, hpar, hx, p, hps, hy, hc, hv⟩
      have hsm : s ∈ docSecs ds := child_mem_docSecs hpar
      have hpm : p ∈ docProps ds := mem_flatMap.mpr ⟨s, hsm, hps⟩
      exact ⟨⟨_, _, hx, hy, (gf.hasProp _ p hpm).mpr ⟨s, hsm, rfl, hps⟩⟩, ⟨_, hy, p, hpm, rfl⟩,
        fun z hz => (pair hpm hy z hz).mpr ⟨hc z hz, fun hn => hv ⟨z, hz, hn⟩⟩⟩

end parts'

theorem partD'_iff (ds : List DocT) (q : QParams) (b : Binding) :
    partD' ds q b.d = true ↔ PD' ds q b := by
  simp only [partD', PD', Bool.or_eq_true, isEmpty_iff, any_eq_true, Bool.and_eq_true, beq_iff_eq]

theorem partS'_iff (ds : List DocT) (q : QParams) (b : Binding) :
    partS' ds q b.d b.s = true ↔ PS' ds q b := by
  simp only [partS', PS', Bool.or_eq_true, isEmpty_iff, any_eq_true, Bool.and_eq_true, beq_iff_eq,
    and_assoc]

theorem partP'_iff (ds : List DocT) (q : QParams) (os op : Option Term) :
    partP' ds q os op = true ↔ PP0 ds q os op := by
  simp only [partP', PP0, Bool.or_eq_true, isEmpty_iff, any_eq_true, Bool.and_eq_true, beq_iff_eq]

theorem fullAttrs_keys : ∀ (K : Kind), ∀ k ∈ fullAttrs K, k ∈ (tableOf K).map (·.1) := by
  intro K
  cases K <;> decide +kernel

theorem fullPair_key {K : Kind} {x : Pair} (h : fullPair K x) :
    ∃ k : String, x.attr = k.toList ∧ k ∈ (tableOf x.kind).map (·.1) :=
  ⟨String.ofList x.attr, String.toList_ofList.symm, by rw [h.1]; exact fullAttrs_keys K _ h.2⟩

theorem attrPat_mentions {y : Pair} {pl : List Pat} (h : attrPat y = .ok pl) {pat : Pat}
    (hp : pat ∈ pl) {w : Var} (hm : mentions pat w) :
    w = varOf y.kind ∨ (w = .v ∧ y.kind = .prop ∧ needsVP y) := by
  unfold attrPat at h
  split at h
  · rename_i hc
    simp only [Bool.and_eq_true, beq_iff_eq] at hc
    split at h
    · cases h; simp at hp
    · rename_i hv
      cases h
      simp only [mem_cons, mem_nil_iff, or_false] at hp
      subst hp
      rcases hm with e | e | e <;> cases e
      · left; rw [hc.1]; rfl
      · exact .inr ⟨rfl, hc.1, hc.2, by simpa using hv⟩
  · split at h
    · split at h <;> cases h <;> simp only [mem_cons, or_false, not_mem_nil] at hp <;>
        subst hp <;> rcases hm with e | e | e <;> cases e <;> exact .inl rfl
    · split at h <;> cases h
      simp at hp

/-- The variables the generated patterns mention: `?d` with a Document or a Section part, `?s` with
    a Section or a Property part, `?p` with a Property part, `?v` when a pair asks for values. -/
def usedVar (q : QParams) : Var → Prop
  | .d => q.doc ≠ [] ∨ q.sec ≠ []
  | .s => q.sec ≠ [] ∨ q.prop ≠ []
  | .p => q.prop ≠ []
  | .v => needsV q

theorem mentioned_attrPats {l : List Pair} {ps : List Pat} {K : Kind} (h : attrPats l = .ok ps)
    (hk : ∀ x ∈ l, x.kind = K) {w : Var} (hm : Mentioned ps w) :
    w = varOf K ∨ (w = .v ∧ K = .prop ∧ ∃ x ∈ l, needsVP x) := by
  obtain ⟨pat, hp, hm⟩ := hm
  obtain ⟨x, hx, pl, e, hpl⟩ := (attrPats_mem h pat).mp hp
  rw [← hk x hx]
  exact (attrPat_mentions e hpl hm).imp_right fun ⟨e1, e2, e3⟩ => ⟨e1, e2, x, hx, e3⟩

theorem mentioned_v {l : List Pair} {ps : List Pat} (h : attrPats l = .ok ps)
    (hk : ∀ x ∈ l, x.kind = .prop) (hn : ∃ x ∈ l, needsVP x) : Mentioned ps .v := by
  obtain ⟨x, hx, ha, hv⟩ := hn
  have e : attrPat x = .ok [⟨.var .p, .const (odmlIri "hasValue"), .var .v⟩] := by
    have : x.vals.isEmpty = false := by simpa using hv
    simp [attrPat, hk x hx, ha, this]
  exact ⟨_, (attrPats_mem h _).mpr ⟨x, hx, _, e, mem_singleton.mpr rfl⟩, .inr (.inr rfl)⟩

theorem mentioned_ite {l : List Pair} {ps : List Pat} {y : Var} :
    Mentioned (if l.isEmpty then [] else ps) y ↔ l ≠ [] ∧ Mentioned ps y := by
  cases l <;> simp [Mentioned]

theorem mentioned_prepared {q : QParams} {dp sp pp : List Pat} (full : QueryFull q)
    (hdp : attrPats q.doc = .ok dp) (hsp : attrPats q.sec = .ok sp) (hpp : attrPats q.prop = .ok pp)
    (y : Var) : Mentioned (docPats q dp ++ secPats q sp ++ propPats q pp) y ↔ usedVar q y := by
  have mD := mentioned_attrPats (w := y) hdp (fun x hx => (full.1 x hx).1)
  have mS := mentioned_attrPats (w := y) hsp (fun x hx => (full.2.1 x hx).1)
  have mP := mentioned_attrPats (w := y) hpp (fun x hx => (full.2.2 x hx).1)
  have mV := mentioned_v hpp (fun x hx => (full.2.2 x hx).1)
  have nV : needsV q → q.prop ≠ [] := fun ⟨x, hx, _⟩ e => by rw [e] at hx; cases hx
  simp only [docPats, secPats, propPats, mentioned_append, mentioned_ite, mentioned_cons, mentions,
    PT.var.injEq, reduceCtorEq, or_false, false_or]
  -- variable by variable: the attribute patterns of a kind mention its variable (and `?v`)
  cases y <;> simp [usedVar, varOf] at mD mS mP ⊢ <;>
    simp only [mD, mS, mP, and_false, or_false, false_or, false_imp_iff, imp_true_iff]
  exact ⟨fun h => mP h.2, fun h => ⟨nV h, mV h⟩⟩

theorem unboundOK_iff (q : QParams) (od os op : Option Term) :
    unboundOK q od os op = true ↔
      (usedVar q .d ∨ od = none) ∧ (usedVar q .s ∨ os = none) ∧ (usedVar q .p ∨ op = none) := by
  simp only [unboundOK, usedVar, Bool.and_eq_true, Bool.or_eq_true, Bool.not_eq_true',
    isEmpty_eq_false_iff, beq_iff_eq, and_assoc]

theorem mem_directEval' {ds : List DocT} {q : QParams} {row : Row} :
    row ∈ directEval' ds q ↔ rowOK' ds q row = true := by
  unfold directEval'
  rw [mem_filter, and_iff_right_iff_imp]
  obtain ⟨od, os, op⟩ := row
  simp only [rowOK', Bool.and_eq_true, unboundOK_iff, usedVar]
  rintro ⟨⟨⟨h1, h2⟩, h3⟩, u1, u2, u3⟩
  have hD := (partD'_iff ds q ⟨od, os, op, none⟩).mp h1
  have hS := (partS'_iff ds q ⟨od, os, op, none⟩).mp h2
  have hP := (partP'_iff ds q os op).mp h3
  refine (mem_candidates ds _).mpr ⟨?_, ?_, ?_⟩
  · rcases hD with h1 | ⟨d, hd, e, _⟩
    · rcases hS with h2 | ⟨ps, hps, e, _⟩
      · exact .inl (u1.resolve_left (fun h => h.elim (· h1) (· h2)))
      · exact .inr (.inr ⟨ps, hps, e⟩)
    · exact .inr (.inl ⟨d, hd, e⟩)
  · rcases hS with h1 | ⟨ps, hps, _, e, _⟩
    · rcases hP with h2 | ⟨ps, hps, e, _⟩
      · exact .inl (u2.resolve_left (fun h => h.elim (· h1) (· h2)))
      · exact .inr ⟨ps, hps, e⟩
    · exact .inr ⟨ps, hps, e⟩
  · rcases hP with h1 | ⟨ps, hps, _, p, hp, e, _⟩
    · exact .inl (u3.resolve_left (· h1))
    · exact .inr ⟨ps, hps, p, hp, e⟩

/-- **Sound and complete, from the facts about the graph**: for a query over any searchable
    attributes a row is returned by the generated query (basic graph pattern and FILTERs) iff it is
    a row of the direct evaluation on the documents. -/
theorem sound_complete_gen (ok2 : QTablesOK2) {g : Graph} {ds : List DocT} (gf : GFacts g ds)
    (q : QParams) (full : QueryFull q) (row : Row) :
    ∃ rows, queryRows g q = .ok rows ∧ (row ∈ rows ↔ row ∈ directEval' ds q) := by
  obtain ⟨dp, hdp⟩ := attrPats_ok q.doc (fun x hx => fullPair_key (full.1 x hx))
  obtain ⟨sp, hsp⟩ := attrPats_ok q.sec (fun x hx => fullPair_key (full.2.1 x hx))
  obtain ⟨pp, hpp⟩ := attrPats_ok q.prop (fun x hx => fullPair_key (full.2.2 x hx))
  have hsat : ∀ b, (Sat g (docPats q dp ++ secPats q sp ++ propPats q pp) b ∧
      ∀ f ∈ prepareFilters q, f.holds g b = true) ↔ PD' ds q b ∧ PS' ds q b ∧ PP' ds q b := by
    intro b
    rw [← satD'_iff ok2 gf full hdp b, ← satS'_iff ok2 gf full hsp b, ← satP'_iff ok2 gf full hpp b]
    unfold prepareFilters
    simp only [sat_append, forall_mem_append]
    exact ⟨fun ⟨⟨⟨a1, a2⟩, a3⟩, ⟨f1, f2⟩, f3⟩ => ⟨⟨a1, f1⟩, ⟨a2, f2⟩, a3, f3⟩,
      fun ⟨⟨a1, f1⟩, ⟨a2, f2⟩, a3, f3⟩ => ⟨⟨⟨a1, a2⟩, a3⟩, ⟨f1, f2⟩, f3⟩⟩
  have hmen := mentioned_prepared full hdp hsp hpp
  refine ⟨(filtered g (docPats q dp ++ secPats q sp ++ propPats q pp) (prepareFilters q)).map
    (fun b => (b.d, b.s, b.p)), by simp only [queryRows, prepareQuery_eq hdp hsp hpp], ?_⟩
  obtain ⟨od, os, op⟩ := row
  simp only [mem_map, filtered, mem_filter, all_eq_true, mem_solutions, hmen, mem_directEval',
    rowOK', Bool.and_eq_true, unboundOK_iff, partD'_iff ds q ⟨od, os, op, none⟩,
    partS'_iff ds q ⟨od, os, op, none⟩, partP'_iff, Prod.mk.injEq]
  constructor
  · rintro ⟨b, ⟨⟨hs, hfr⟩, hflt⟩, rfl, rfl, rfl⟩
    obtain ⟨hD, hS, hP⟩ := (hsat b).mp ⟨hs, hflt⟩
    exact ⟨⟨⟨hD, hS⟩, hP.imp_right fun ⟨ps, hps, h1, p, hp, h2, hc, _⟩ => ⟨ps, hps, h1, p, hp, h2, hc⟩⟩,
      Classical.or_iff_not_imp_left.mpr (hfr .d), Classical.or_iff_not_imp_left.mpr (hfr .s),
      Classical.or_iff_not_imp_left.mpr (hfr .p)⟩
  · rintro ⟨⟨⟨hD, hS⟩, hP⟩, u1, u2, u3⟩
    -- `?v`: the value node of the Property when the query asks for values
    obtain ⟨ov, hov, hovn⟩ : ∃ ov, PP' ds q ⟨od, os, op, ov⟩ ∧ (usedVar q .v ∨ ov = none) := by
      by_cases hn : needsV q
      · rcases hP with h | ⟨ps, hps, e1, p, hp, e2, hc⟩
        · obtain ⟨y, hy, _⟩ := hn
          rw [h] at hy; cases hy
        · exact ⟨some (.seqn p.id), .inr ⟨ps, hps, e1, p, hp, e2, hc, fun _ => rfl⟩, .inl hn⟩
      · refine ⟨none, ?_, .inr rfl⟩
        rcases hP with h | ⟨ps, hps, e1, p, hp, e2, hc⟩
        · exact .inl h
        · exact .inr ⟨ps, hps, e1, p, hp, e2, hc, fun h => absurd h hn⟩
    obtain ⟨hs, hflt⟩ := (hsat ⟨od, os, op, ov⟩).mpr ⟨hD, hS, hov⟩
    refine ⟨⟨od, os, op, ov⟩, ⟨⟨hs, fun y hy => ?_⟩, hflt⟩, rfl, rfl, rfl⟩
    cases y
    · exact u1.resolve_left hy
    · exact u2.resolve_left hy
    · exact u3.resolve_left hy
    · exact hovn.resolve_left hy


def idsPairB (k : Kind) (x : Pair) : Bool :=
  x.kind == k && ((safeAttrs k).contains (String.ofList x.attr) || x.attr == "id".toList)

def queryIdsB (q : QParams) : Bool :=
  q.doc.all (idsPairB .doc) && q.sec.all (idsPairB .sec) && q.prop.all (idsPairB .prop)

/-- **QueryIds**: the pairs of `QuerySafe`, and `id` pairs of any kind of object. -/
def QueryIds (q : QParams) : Prop := queryIdsB q = true
instance (q : QParams) : Decidable (QueryIds q) := by unfold QueryIds; infer_instance

def queryValuesB (q : QParams) : Bool :=
  q.doc.all (idsPairB .doc) && q.sec.all (idsPairB .sec) &&
    q.prop.all (fun x => idsPairB .prop x || (x.kind == .prop && x.attr == "value".toList))

/-- **QueryValues**: the pairs of `QueryIds`, and `value` pairs (Property). -/
def QueryValues (q : QParams) : Prop := queryValuesB q = true
instance (q : QParams) : Decidable (QueryValues q) := by unfold QueryValues; infer_instance

theorem safe_sub_full : ∀ K : Kind, ∀ k ∈ safeAttrs K, k ∈ fullAttrs K := by
  intro K
  cases K <;> decide +kernel

theorem queryFull_of_safe {q : QParams} (h : QuerySafe q) : QueryFull q :=
  ⟨fun x hx => ⟨(h.1 x hx).1, safe_sub_full _ _ (h.1 x hx).2⟩,
   fun x hx => ⟨(h.2.1 x hx).1, safe_sub_full _ _ (h.2.1 x hx).2⟩,
   fun x hx => ⟨(h.2.2 x hx).1, safe_sub_full _ _ (h.2.2 x hx).2⟩⟩

theorem fullPair_of_idsPairB {K : Kind} {x : Pair} (h : idsPairB K x = true) : fullPair K x := by
  simp only [idsPairB, Bool.and_eq_true, Bool.or_eq_true, beq_iff_eq, contains_iff_mem] at h
  refine ⟨h.1, ?_⟩
  rcases h.2 with h2 | h2
  · exact safe_sub_full K _ h2
  · rw [h2, String.ofList_toList]
    cases K <;> decide

theorem queryValues_of_ids {q : QParams} (h : QueryIds q) : QueryValues q := by
  simp only [QueryIds, queryIdsB, Bool.and_eq_true, all_eq_true] at h
  simp only [QueryValues, queryValuesB, Bool.and_eq_true, all_eq_true, Bool.or_eq_true]
  exact ⟨⟨h.1.1, h.1.2⟩, fun x hx => .inl (h.2 x hx)⟩

theorem queryFull_of_values {q : QParams} (h : QueryValues q) : QueryFull q := by
  simp only [QueryValues, queryValuesB, Bool.and_eq_true, all_eq_true, Bool.or_eq_true] at h
  refine ⟨fun x hx => fullPair_of_idsPairB (h.1.1 x hx), fun x hx => fullPair_of_idsPairB (h.1.2 x hx),
    fun x hx => ?_⟩
  rcases h.2 x hx with h2 | h2
  · exact fullPair_of_idsPairB h2
  · simp only [beq_iff_eq] at h2
    refine ⟨h2.1, ?_⟩
    rw [h2.2, String.ofList_toList]
    decide

end Query
