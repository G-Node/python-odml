/-
C15, whole-tree composition: the converted tree passes the structural acceptance
conditions of the strict reader (`readerAccepts`: no XML attributes on Sections / Properties,
every child tag an argument of the class, `name` / `type` present, root `version` 1.1) - for every
document tree with `LoadWF`, any depth and size.
-/
import OdmlModel.Proofs.ConvWF

namespace Conv
open Conv.Xml

/-- The named Property children carry no XML attributes. -/
def propsAccOKb (ks : List Xml) : Bool :=
  (sel "property" ks).all (fun p => (find "name" p.kids).isNone || p.attrs.isEmpty)

mutual
/-- A Section element and everything below it: no XML attributes on Sections and named
    Properties, every Section has a `name` and a `type` child. -/
def accOK : Xml → Bool
  | .elem _ a _ ks =>
    a.isEmpty && (find "name" ks).isSome && (find "type" ks).isSome && propsAccOKb ks && accOKKids ks
def accOKKids : List Xml → Bool
  | [] => true
  | k :: ks => (if k.tag = "section" then accOK k else true) && accOKKids ks
end

/-- **Hypothesis of the loadability theorem** (decidable): the root is `odML` with at most the
    attribute `version`, Sections (any depth) are named and typed, Sections and named Properties
    have no XML attributes.  Nothing else - any children, texts, names, ids, values. -/
def LoadWF (x : Xml) : Bool :=
  x.tag == "odML" && x.attrs.all (fun a => a.1 == "version") && decide (x.attrs.length ≤ 1) &&
  accOKKids x.kids

theorem accOK_iff (k : Xml) : accOK k = true ↔
    k.attrs.isEmpty = true ∧ (find "name" k.kids).isSome = true ∧ (find "type" k.kids).isSome = true ∧
    propsAccOKb k.kids = true ∧ accOKKids k.kids = true := by
  cases k; simp [accOK, and_assoc]

theorem accOK_of_mem (ks : List Xml) (h : accOKKids ks = true) (k : Xml) (hk : k ∈ ks)
    (hs : k.tag = "section") : accOK k = true := by
  induction ks with
  | nil => cases hk
  | cons k' ks ih =>
    simp only [accOKKids, Bool.and_eq_true] at h
    rcases List.mem_cons.1 hk with e | hm
    · subst e; simpa [hs] using h.1
    · exact ih h.2 hm

theorem acceptsSec_eq (e : Xml) :
    acceptsSec e = (e.attrs.isEmpty && (find "name" e.kids).isSome && (find "type" e.kids).isSome &&
      acceptsSecKids e.kids) := by
  cases e; simp [acceptsSec]

theorem acceptsSecKids_of (ks : List Xml) (h1 : ∀ k ∈ ks, k.tag ∈ secKeys)
    (h2 : ∀ k ∈ sel "section" ks, acceptsSec k = true)
    (h3 : ∀ k ∈ sel "property" ks, acceptsProp k = true) : acceptsSecKids ks = true := by
  induction ks with
  | nil => simp [acceptsSecKids]
  | cons k ks ih =>
    simp only [acceptsSecKids, Bool.and_eq_true, decide_eq_true_eq]
    refine ⟨⟨h1 k (by simp), ?_⟩, ih (fun k' hm => h1 k' (List.mem_cons_of_mem _ hm))
      (fun k' hm => h2 k' (by rw [sel_cons]; split <;> simp [hm]))
      (fun k' hm => h3 k' (by rw [sel_cons]; split <;> simp [hm]))⟩
    split
    · rename_i hs; exact h2 k (mem_sel.2 ⟨by simp, hs⟩)
    · split
      · rename_i hp; exact h3 k (mem_sel.2 ⟨by simp, hp⟩)
      · rfl

theorem acceptsDocKids_of (ks : List Xml) (h1 : ∀ k ∈ ks, k.tag ∈ docKeys)
    (h2 : ∀ k ∈ sel "section" ks, acceptsSec k = true) : acceptsDocKids ks = true := by
  induction ks with
  | nil => simp [acceptsDocKids]
  | cons k ks ih =>
    simp only [acceptsDocKids, Bool.and_eq_true, decide_eq_true_eq]
    refine ⟨⟨h1 k (by simp), ?_⟩, ih (fun k' hm => h1 k' (List.mem_cons_of_mem _ hm))
      (fun k' hm => h2 k' (by rw [sel_cons]; split <;> simp [hm]))⟩
    split
    · rename_i hs; exact h2 k (mem_sel.2 ⟨by simp, hs⟩)
    · rfl

theorem mem_removeFirst {t : String} {k : Xml} {ks : List Xml} (h : k ∈ removeFirst t ks) : k ∈ ks := by
  induction ks with
  | nil => cases h
  | cons k' ks ih =>
    simp only [removeFirst] at h
    split at h
    · exact List.mem_cons_of_mem _ h
    · rcases List.mem_cons.1 h with e | hm
      · subst e; simp
      · exact List.mem_cons_of_mem _ (ih hm)

/-- `_add_id` adds an `id` child and nothing else. -/
theorem addId_kids_tags (P : String → Prop) (hid : P "id") (fresh : List Char) (e : Xml)
    (h : ∀ k ∈ e.kids, P k.tag) : ∀ k ∈ (addId fresh e).kids, P k.tag := by
  cases e with
  | elem tg a x ks =>
    simp only [kids_elem] at h
    intro k hk
    simp only [addId] at hk
    split at hk
    · simp only [kids_elem, List.mem_append, List.mem_singleton] at hk
      rcases hk with hm | e
      · exact h k (mem_removeFirst hm)
      · subst e; exact hid
    · simp only [kids_elem, List.mem_append, List.mem_singleton] at hk
      rcases hk with hm | e
      · exact h k hm
      · subst e; exact hid

theorem iter_addId_kids_tags (P : String → Prop) (hid : P "id") (fresh : List Char) (n : Nat) (e : Xml)
    (h : ∀ k ∈ e.kids, P k.tag) : ∀ k ∈ (iter (addId fresh) n e).kids, P k.tag := by
  induction n generalizing e with
  | zero => exact h
  | succ n ih => simp only [iter]; exact ih _ (addId_kids_tags P hid fresh e h)

theorem propCleanup_tags (pid : PropId) (ks : List Xml) :
    ∀ k ∈ (propCleanup pid ks).1, k.tag ∈ propKeys := by
  induction ks with
  | nil => simp [propCleanup]
  | cons k ks ih =>
    simp only [propCleanup]
    split
    · intro k' hk'
      simp only [List.mem_cons] at hk'
      rcases hk' with rfl | hk'
      · simpa using ‹respell k.tag ∈ propKeys›
      · exact ih k' hk'
    · exact ih

theorem acceptsProp_converted (enc : Bool) (fresh sn st : List Char) (n : Nat) (p : Xml)
    (hattr : p.attrs.isEmpty = true) (hn : (find "name" p.kids).isSome = true) :
    acceptsProp (iter (addId fresh) n (transformProp enc sn st p).1) = true := by
  unfold acceptsProp
  simp only [Bool.and_eq_true, List.all_eq_true, decide_eq_true_eq]
  refine ⟨⟨?_, ?_⟩, ?_⟩
  · rw [iter_addId_attrs]; exact hattr
  · apply iter_addId_kids_tags (fun t => t ∈ propKeys) (by decide)
    intro k hk
    rw [transformProp_kids] at hk
    exact propCleanup_tags _ _ k hk
  · rw [find_congr (iter_addId_sel_other "name" (by simp) fresh n _),
      transformProp_find enc sn st p "name" (by decide) (by simp) (by simp)]
    cases hf : find "name" p.kids with
    | none => rw [hf] at hn; cases hn
    | some k => rfl

theorem mem_p1Kids (e : Xml) (b : Bool) (sm pm : Counter) (sd pd : List (List Char))
    (ks : List Xml) (h : e ∈ p1Kids b sm pm sd pd ks) :
    ∃ k0 ∈ ks, e.tag = k0.tag ∧
      if k0.tag = "section" then (e = p1 k0 ∧ find "name" k0.kids = none) ∨ ∃ n, e = rename n (p1 k0)
      else e = k0 ∨ (k0.tag = "property" ∧ ∃ n, e = rename n k0) := by
  induction ks generalizing sm pm sd pd with
  | nil => cases h
  | cons k ks ih =>
    obtain ⟨c, _, _, _, _, heq, ht, _, _, hr⟩ := p1Kids_cons b sm pm sd pd k ks
    rw [heq] at h
    rcases List.mem_cons.1 h with rfl | hm
    · exact ⟨k, by simp, ht, hr⟩
    · exact (ih _ _ _ _ hm).imp fun _ r => ⟨List.mem_cons_of_mem _ r.1, r.2⟩

theorem propsAccOKb_p1Kids (sm pm : Counter) (sd pd : List (List Char)) (ks : List Xml)
    (h : propsAccOKb ks = true) : propsAccOKb (p1Kids true sm pm sd pd ks) = true := by
  simp only [propsAccOKb, List.all_eq_true, Bool.or_eq_true] at h ⊢
  intro e he
  obtain ⟨hem, het⟩ := mem_sel.1 he
  obtain ⟨k0, hk0, ht0, r⟩ := mem_p1Kids e true _ _ _ _ ks hem
  have hp0 : k0.tag = "property" := ht0 ▸ het
  rw [if_neg (by rw [hp0]; simp)] at r
  rcases r with rfl | ⟨_, n', rfl⟩
  · exact h _ (mem_sel.2 ⟨hk0, hp0⟩)
  · rw [rename_attrs, ← Option.not_isSome, find_name_rename, Option.not_isSome]
    exact h _ (mem_sel.2 ⟨hk0, hp0⟩)

def AccStmt (fresh : List Char) (enc : Bool) (k : Xml) : Prop :=
  k.tag = "section" → accOK k = true → ∀ (d : Nat) (n : List Char),
    acceptsSec (p6 fresh d (p4 (p3 enc (rename n (p1 k))).1).1) = true

theorem secs_accepted (fresh : List Char) (enc : Bool) (d : Nat) (b : Bool) (ks : List Xml)
    (ih : ∀ k ∈ ks, AccStmt fresh enc k) (hok : accOKKids ks = true) :
    ∀ q ∈ (sel "section" (p1Kids b [] [] [] [] ks)).map
        (fun k => p6 fresh d (p4 (p3 enc k).1).1), acceptsSec q = true := by
  intro q hq
  obtain ⟨e, he, rfl⟩ := List.mem_map.1 hq
  obtain ⟨hem, het⟩ := mem_sel.1 he
  obtain ⟨k0, hk0, ht0, r⟩ := mem_p1Kids e b _ _ _ _ ks hem
  have hs0 : k0.tag = "section" := ht0 ▸ het
  rw [if_pos hs0] at r
  have hacc := accOK_of_mem ks hok k0 hk0 hs0
  rcases r with ⟨_, hnone⟩ | ⟨n, rfl⟩
  · have := ((accOK_iff k0).1 hacc).2.1
    rw [hnone] at this; cases this
  · exact ih k0 hk0 hs0 hacc d n

theorem section_accepted (fresh : List Char) (enc : Bool) : ∀ k, AccStmt fresh enc k := by
  apply Xml.ind
  intro t a x ks ih hs hck d n
  obtain ⟨hattr, hnamed, htyped, hprops, hkids⟩ := (accOK_iff _).1 hck
  obtain ⟨sn, st, x', K, hK, hvoc, hplain, hname, hprop, hsec⟩ :=
    sec_converted fresh enc d n (.elem t a x ks) hs
  simp only [kids_elem, attrs_elem] at hattr hnamed htyped hprops hkids hK hplain hname hprop hsec
  have hsel : ∀ u, u ≠ "id" → sel u (addId fresh (.elem "section" a x' K)).kids = sel u K :=
    fun u hu => sel_addId_other u hu fresh _
  rw [hK, acceptsSec_eq, addId_attrs]
  simp only [attrs_elem, Bool.and_eq_true]
  refine ⟨⟨⟨hattr, ?_⟩, ?_⟩, ?_⟩
  · -- a name
    rw [find_congr ((hsel _ (by simp)).trans hname), find_isSome_setFirstText, find_isSome_p1Kids]
    exact hnamed
  · -- a type
    rw [find_congr ((hsel _ (by simp)).trans (hplain "type" (secKeys_read _ (by simp)) (by simp) (by simp) (by simp)))]
    exact htyped
  · apply acceptsSecKids_of
    · exact addId_kids_tags (fun t => t ∈ secKeys) (secKeys_read _ (by simp)) fresh _ hvoc
    · -- Sections below
      rw [hsel _ (by simp), hsec]
      exact secs_accepted fresh enc (d + 1) true ks ih hkids
    · -- Properties
      rw [hsel _ (by simp), hprop]
      have hok := propsAccOKb_p1Kids [] [] [] [] ks hprops
      simp only [propsAccOKb, List.all_eq_true, Bool.or_eq_true] at hok
      intro q hq
      obtain ⟨q0, hq0, rfl⟩ := List.mem_map.1 hq
      obtain ⟨e, he, hpe⟩ := List.mem_filterMap.1 hq0
      obtain ⟨hen, rfl⟩ := p3Prop_eq_some.1 hpe
      refine acceptsProp_converted enc fresh sn st (d + 1) e ((hok e he).resolve_left ?_) hen
      intro h
      rw [Option.isNone_iff_eq_none.1 h] at hen
      cases hen

theorem acceptsDocKids_convertTree (fresh : List Char) (x : Xml) (hkids : accOKKids x.kids = true) :
    acceptsDocKids (convertTree fresh x).kids = true := by
  unfold convertTree
  rw [p6_eq]
  apply acceptsDocKids_of
  · apply addId_kids_tags (fun t => t ∈ docKeys) docKeys_read.1
    simp only [kids_elem]
    apply p6Kids_tags
    intro k hk
    simp only [stage5] at hk
    rw [p5_kids, docCleanup_eq_filter] at hk
    simpa using (List.mem_filter.1 hk).2
  · rw [sel_addId_other _ (by simp), kids_elem, sel_p6Kids_section, stage5_sel_section, List.map_map]
    exact secs_accepted fresh (encodedValues x) _ _ x.kids
      (fun k _ => section_accepted fresh (encodedValues x) k) hkids

theorem accOKKids_of_WF10 (x : Xml) (h : WF10 x = true) : accOKKids x.kids = true := by
  simp only [WF10, Bool.and_eq_true, List.all_eq_true] at h
  obtain ⟨⟨⟨⟨_, _⟩, _⟩, hsecs⟩, hprops⟩ := h
  refine skeleton_ok accOKKids accOK rfl (fun _ _ => by simp only [accOKKids]) ?_ x ?_ ?_
  · intro k hk hp hkids
    have hkn : (find "name" k.kids).isSome = true := by
      have := secOwnOKb_of_wfSecOwn k hk
      simp only [secOwnOKb, Bool.and_eq_true] at this
      exact this.1
    simp only [wfSecOwn, Bool.and_eq_true] at hk
    refine (accOK_iff k).2 ⟨hk.1.1.1, hkn, hk.2, ?_, hkids⟩
    simp only [propsAccOKb, List.all_eq_true, Bool.or_eq_true]
    intro p hm
    have := hp p hm
    simp only [wfProp, Bool.and_eq_true] at this
    exact Or.inr this.1.1.1.1
  · rw [← allSecs_eq]; exact hsecs
  · rw [← allProps_eq]; exact hprops

end Conv
