/-
C11: the specification of `cloneBody` / `cloneF` on success: nothing that
existed is written, the block of new locations is closed, the copy is the first new object and is
detached.
-/
import OdmlModel.Proofs.CloneFields
namespace Clone

/-- Parent reference, sections and value list of an object under construction: `NodeIn` without the
    properties. -/
def NodeInS (R : Reg) (n : Node) : Prop :=
  (n.kind ≠ .doc → ∀ p, n.parent = some p → R.n p) ∧
  (n.kind ≠ .prop → ∀ c, c ∈ n.secs → R.n c) ∧
  (n.kind = .prop → ∀ c, n.vals = some c → R.v c)

def PropsIn (R : Reg) (n : Node) : Prop := n.kind = .sec → ∀ c, c ∈ n.props → R.n c

theorem nodeIn_of_parts {R n} (a : NodeInS R n) (b : PropsIn R n) : NodeIn R n :=
  ⟨a.1, a.2.1, b, a.2.2⟩

theorem NodeInS.mono {R S n} (hl : R.le S) (hn : NodeInS R n) : NodeInS S n :=
  ⟨fun k p hp => hl.1 _ (hn.1 k p hp), fun k c hc => hl.1 _ (hn.2.1 k c hc),
   fun k c hc => hl.2.1 _ (hn.2.2 k c hc)⟩

theorem PropsIn.mono {R S n} (hl : R.le S) (hn : PropsIn R n) : PropsIn S n :=
  fun k c hc => hl.1 _ (hn k c hc)

theorem NodeInS.child {R n x} (hn : NodeInS R n) (b : Bool) (hx : R.n x) :
    NodeInS R (if b = true then { n with secs := n.secs ++ [x] } else { n with props := n.props ++ [x] }) := by
  cases b with
  | true => exact ⟨hn.1, fun k => forall_mem_snoc (hn.2.1 k) hx, hn.2.2⟩
  | false => exact hn

theorem PropsIn.child {R n x} (hn : PropsIn R n) (b : Bool) (hx : R.n x) :
    PropsIn R (if b = true then { n with secs := n.secs ++ [x] } else { n with props := n.props ++ [x] }) := by
  cases b with
  | true => exact hn
  | false => exact fun k => forall_mem_snoc (hn k) hx

/-- Loop invariant of `for child in …: obj.append(child.clone(…))`: relative to the store `b` in
    which the copy `c` was allocated, nothing of `b` is written, and all finished new objects only
    refer to new locations. -/
structure LoopInv (b h : H) (c : Nat) : Prop where
  ext : Ext b h
  cex : ClosedEx h (rng b h) c
  clo : b.nN ≤ c
  chi : c < h.nN

/-- Facts about the copy `c` while it is being built (relative to the store `b` it was allocated in). -/
structure Pend (b h : H) (c : Nat) : Prop where
  inv : LoopInv b h c
  secs : NodeInS (rng b h) (h.node c)

theorem Pend.updN {b h c} (p : Pend b h c) (f : Node → Node)
    (hf : NodeInS (rng b h) (h.node c) → NodeInS (rng b h) (f (h.node c))) : Pend b (updN h c f) c :=
  ⟨⟨ext_updN p.inv.ext c f p.inv.clo, p.inv.cex.updN c f fun e => absurd rfl e, p.inv.clo, p.inv.chi⟩,
   by rw [updN_same]; exact hf p.secs⟩

theorem Pend.newId {b h c} (p : Pend b h c) : Pend b (newId h c) c :=
  ⟨⟨ext_newId p.inv.ext c p.inv.clo, p.inv.cex.updN c (fun n => { n with id := h.nextId }) fun e => absurd rfl e,
    p.inv.clo, p.inv.chi⟩,
   by rw [newId_same]; exact p.secs⟩

theorem ClosedEx.attach {h h' R c child} (hc : ClosedEx h R c) (hR : R.n c)
    (ha : attach h c child = (h', none)) : ClosedEx h' R c := by
  rw [attach_ok ha]
  exact (hc.updN c _ fun e => absurd rfl e).updN child (fun n => { n with parent := some c })
    fun _ hn => ⟨fun _ q hq => by cases hq; exact hR, hn.2.1, hn.2.2.1, hn.2.2.2⟩

theorem Loop.spec {rec b c h h'} (hrec : RecOk rec) (l : Loop rec c h h') (p : Pend b h c) :
    Pend b h' c ∧ (PropsIn (rng b h) (h.node c) → PropsIn (rng b h') (h'.node c)) := by
  induction l with
  | done h => exact ⟨p, id⟩
  | @round h h1 _ _ _ _ hr hat _ ih =>
    obtain ⟨e1, cl1, rfl, hlt, -, -⟩ := hrec _ _ _ _ hr
    have n2 := attach_self hat (Nat.ne_of_lt p.inv.chi)
    rw [e1.node c p.inv.chi] at n2
    cases attach_ok hat
    -- relative to `b` the block has grown by that of the call; it holds the copy and the new child
    have rle : (rng b h).le (rng b h1) := rng_le (Mono.refl b) e1.mono
    have cR : (rng b h1).n c := ⟨p.inv.clo, Nat.lt_trans p.inv.chi hlt⟩
    have sR : (rng b h1).n h.nN := ⟨p.inv.ext.mono.nN, hlt⟩
    obtain ⟨p', q'⟩ := ih
      ⟨⟨ext_updN (ext_updN (p.inv.ext.trans e1) _ _ p.inv.clo) _ _ p.inv.ext.mono.nN,
        (closedEx_glue p.inv.ext.mono e1 p.inv.cex cl1).attach cR hat, p.inv.clo, cR.2⟩,
       by rw [n2]; exact (p.secs.mono rle).child _ sR⟩
    exact ⟨p', fun q => q' (by rw [n2]; exact (q.mono rle).child _ sR)⟩

theorem cloneBody_spec {rec} (hrec : RecOk rec) {h : H} {x : Nat} {ch keep : Bool} {h' : H} {c : Nat}
    (hk : (h.node x).kind ≠ .prop) (hb : cloneBody rec h x ch keep = (h', .ok c)) :
    CloneOk h h' x c := by
  have root := cloneBody_fields hrec hb
  obtain ⟨rfl, h4, l4, rest⟩ := cloneBody_ok hb
  have p3 : Pend h (bodyStart h x) h.nN := by
    refine ⟨⟨ext_bodyStart h x, ⟨fun a ha _ hne => absurd (Nat.le_antisymm (Nat.le_of_lt_succ ha.2) ha.1) hne,
      fun v hv _ => absurd hv.2 (Nat.not_lt.2 hv.1)⟩, Nat.le_refl _, Nat.lt_succ_self _⟩, ?_⟩
    rw [bodyStart_node]
    exact ⟨fun _ _ => nofun, fun _ _ => nofun, fun hp => absurd hp hk⟩
  have p5 : Pend h (if keep = true then h4 else newId h4 h.nN) h.nN := by
    split
    · exact (l4.spec hrec p3).1
    · exact (l4.spec hrec p3).1.newId
  have fin : ∀ {h7}, RootEq h h7 x h.nN keep → Pend h h7 h.nN → PropsIn (rng h h7) (h7.node h.nN) →
      CloneOk h h7 x h.nN :=
    fun r p q => ⟨p.inv.ext, p.inv.cex.close fun _ _ => nodeIn_of_parts p.secs q, rfl, p.inv.chi, r.parent, r.kind⟩
  split at rest
  · next hd =>
    subst rest
    exact fin root p5 fun hs => by rw [root.kind, hd] at hs; cases hs
  · obtain ⟨p7, q7⟩ := rest.spec hrec (p5.updN _ id)
    exact fin root p7 (q7 (by rw [updN_same]; exact fun _ _ => nofun))

theorem cloneProp_ok (h : H) (x : Nat) (keep : Bool) (hk : (h.node x).kind = .prop) :
    CloneOk h (cloneProp h x keep).1 x (cloneProp h x keep).2 := by
  have s := cloneProp_spec h x keep
  refine ⟨s.ext, ⟨fun a ha hl => ?_, fun v hv hl => ?_⟩, s.c_eq, s.nN ▸ Nat.lt_succ_self _, by rw [s.node],
    by rw [s.node]⟩
  · -- the one new object is the copy: no parent, a Property, its value list the one new list
    have hlt : a < h.nN + 1 := s.nN ▸ ha.2
    have : a = (cloneProp h x keep).2 := s.c_eq ▸ Nat.le_antisymm (Nat.le_of_lt_succ hlt) ha.1
    rw [this, s.node]
    exact ⟨fun _ _ => nofun, fun hne => absurd hk hne, fun hs => absurd (hk.symm.trans hs) nofun,
      fun _ cv hcv => Option.some.inj hcv ▸ ⟨Nat.le_refl _, s.nV ▸ Nat.lt_succ_self _⟩⟩
  · have hlt : v < h.nV + 1 := s.nV ▸ hv.2
    have : v = h.nV := Nat.le_antisymm (Nat.le_of_lt_succ hlt) hv.1
    exact this ▸ s.cell

theorem cloneF_spec {f : Nat} : ∀ {h : H} {x : Nat} {ch keep : Bool} {h' : H} {c : Nat},
    cloneF f h x ch keep = (h', .ok c) → CloneOk h h' x c := by
  induction f with
  | zero => intro h x ch keep h' c hc; cases hc
  | succ f ih =>
    intro h x ch keep h' c hc
    simp only [cloneF] at hc
    split at hc
    · next hk => cases hc; exact cloneProp_ok h x keep hk
    · next hk =>
      exact cloneBody_spec (fun _ _ _ _ hr => ih hr) hk hc

theorem cloneF_recOk (f : Nat) (keep : Bool) : RecOk (fun h s => cloneF f h s true keep) :=
  fun _ _ _ _ hr => cloneF_spec hr

theorem cloneF_fields {f : Nat} {h : H} {x : Nat} {ch keep : Bool} {h' : H} {c : Nat}
    (hc : cloneF f h x ch keep = (h', .ok c)) : RootEq h h' x c keep := by
  cases f with
  | zero => cases hc
  | succ f =>
    simp only [cloneF] at hc
    split at hc
    · cases hc; exact cloneProp_fields h x keep
    · exact cloneBody_fields (cloneF_recOk f keep) hc

end Clone
