/-
Refusals of the compound operations (property C06): a merge whose pre-checks pass never raises,
so `_merge` is all-or-nothing (`mergeAux_all_or_nothing`).

`merge_check` and `_merge_name_check` are evaluated once, before the first change; the loops run
later, in states in which the destination has grown. The checks answer for those states too:
(i) what the recursion into a child `mine` of the destination changes lies below `mine`
(`mergeAux_mf`), the checks for another pair only read below that pair (`mergeCheck_congr`), and
different children have disjoint subtrees; (ii) the copies appended carry the names of earlier
children of the source, which differ from those of the later ones (`NamedBefore.fresh`). For
that, neither of source and destination may lie inside the other.
-/
import OdmlModel.Proofs.HeapExtRefuseMerge

namespace Heap.Refuse

theorem cloneAppend_ok (O : Oracle) (fuel : Nat) (t : X) (dest obj : Nat) (mm : Option Bool)
    (w : WF t.h) (hn : NoEmptyName t.h) (hd : dest < t.h.size) (ho : obj < t.h.size)
    (hcond : ((t.h.node obj).kind = .sec ∧ (t.h.node dest).kind ≠ .prop ∧
        nameIn t.h (t.h.node dest).secs (t.h.node obj).name = false) ∨
      ((t.h.node obj).kind = .prop ∧ (t.h.node dest).kind = .sec ∧
        nameIn t.h (t.h.node dest).props (t.h.node obj).name = false)) :
    -- the result is named so that `unfold … at hr` touches only the equation
    ∀ r, r = cloneAppend O fuel t dest obj mm → Calm r.2 ∧
    (r.2 = .ok →
      (r.1.h.node t.h.size).name = (t.h.node obj).name ∧
      ((t.h.node obj).kind = .sec →
        (r.1.h.node dest).secs = (t.h.node dest).secs ++ [t.h.size] ∧
        (r.1.h.node dest).props = (t.h.node dest).props) ∧
      ((t.h.node obj).kind = .prop →
        (r.1.h.node dest).secs = (t.h.node dest).secs ∧
        (r.1.h.node dest).props = (t.h.node dest).props ++ [t.h.size])) := by
  intro r hr
  unfold cloneAppend at hr
  have r0 := cloneAux_spec O fuel t obj true false w
  have r1 := cloneAux_full O fuel t obj true false w hn ho
  split at hr
  · rename_i t1 c heq
    rw [heq] at r0 r1
    obtain ⟨hck, hdet⟩ := r0.ok rfl
    have hroot : c = t.h.size := r0.root
    obtain ⟨hkk, hkn⟩ := r1.root rfl
    simp only at hck hdet hkk hkn
    subst hroot
    have hsame : ∀ j, j < t.h.size → t1.h.node j = t.h.node j := r0.same.2
    have hh : r.1.h = (step t1.h (.append dest t.h.size)).1 := by rw [hr, prim_h, markCopy_h]
    have ho2 : r.2 = XOut.ofOutcome (step t1.h (.append dest t.h.size)).2 := by
      rw [hr]
      show XOut.ofOutcome (step (t1.markCopy t.h.size obj mm).h _).2 = _
      rw [markCopy_h]
    rw [hh, ho2]
    -- the copy has the kind and name of `obj`, the destination and its children are as in `t`
    have hnameIn : ∀ l, (∀ m ∈ l, m < t.h.size) →
        nameIn t1.h l (t.h.node obj).name = nameIn t.h l (t.h.node obj).name :=
      fun l hl => nameIn_congr fun m hm => congrArg Node.name (hsame m (hl m hm))
    obtain ⟨a1, a2⟩ := step_append_ok r0.wf (Nat.lt_of_lt_of_le hd r0.same.1) hck hdet
      (fun ha => Nat.lt_irrefl _ (anc_old w r0.same ha hd)) (by
        rw [hkk, hkn, hsame dest hd]
        rcases hcond with ⟨hko, hkd, hnm⟩ | ⟨hko, hkd, hnm⟩
        · exact Or.inl ⟨hko, hkd, by
            rw [hnameIn _ fun m hm => w.child_lt ((w.memS dest m).mp hm).1]; exact hnm⟩
        · exact Or.inr ⟨hko, hkd, by
            rw [hnameIn _ fun m hm => w.child_lt ((w.memP dest m).mp hm).1]; exact hnm⟩)
    have hl := Appended.lists (step_wf r0.wf _) a2
    rw [hkk, hsame dest hd] at hl
    exact ⟨Or.inl (by rw [a1]; rfl),
      fun _ => ⟨by rw [(appended_name a2 t.h.size).1]; exact hkn, hl⟩⟩
  · rename_i t1 c o hne heq
    rw [heq] at r1
    rw [hr]
    refine ⟨?_, fun h => absurd h hne⟩
    rcases r1.out with h1 | h1
    · exact absurd h1 hne
    · exact Or.inr h1

theorem liveLoop_ok {σ : Type} (lst : σ → List Nat) (body : σ → Nat → σ × XOut)
    (Inv : Nat → σ → Prop)
    (hstep : ∀ i t obj, Inv i t → (lst t)[i]? = some obj →
      Calm (body t obj).2 ∧ ((body t obj).2 = .ok → Inv (i + 1) (body t obj).1)) :
    ∀ (fuel i : Nat) (t : σ), Inv i t →
      Calm (liveLoop lst body fuel i t).2 ∧
      ((liveLoop lst body fuel i t).2 = .ok → ∃ j, Inv j (liveLoop lst body fuel i t).1) := by
  intro fuel
  induction fuel with
  | zero => intro i t _; exact ⟨Or.inr rfl, nofun⟩
  | succ fuel ih =>
    intro i t h
    rw [liveLoop_succ]
    split
    · exact ⟨Or.inl rfl, fun _ => ⟨i, h⟩⟩
    · rename_i obj hget
      obtain ⟨h1, h2⟩ := hstep i t obj h hget
      exact andThen_cases (R := fun r => Calm r.2 ∧ (r.2 = .ok → ∃ j, Inv j r.1))
        (fun hok => ih _ _ (h2 hok)) fun hne => ⟨Or.inr (h1.resolve_left hne), (absurd · hne)⟩

/-- `_merge(dest, src)` is entered in state `s` and its two checks have passed. -/
structure MCtx (O : Oracle) (f : Nat) (s : X) (dest src : Nat) : Prop where
  wf : WF s.h
  noEmpty : NoEmptyName s.h
  destSec : (s.h.node dest).kind = .sec
  srcSec : (s.h.node src).kind = .sec
  destNotBelowSrc : ¬ Anc s.h dest src
  srcNotBelowDest : ¬ Anc s.h src dest
  checkOk : mergeCheck O f s dest src = some true
  nameCheckOk : nameCheck O f s dest src = some true

theorem MCtx.below_src {O : Oracle} {f : Nat} {s : X} {dest src : Nat} (c : MCtx O f s dest src)
    {t : X} (mf : MergeFrame s dest t) (j : Nat) (hj : Anc s.h src j) :
    j < s.h.size ∧ t.h.node j = s.h.node j ∧ t.orig j = s.orig j := by
  have hjn := c.wf.desc_lt hj (c.wf.lt_of_kind_sec c.srcSec)
  have hna : ¬ Anc s.h dest j := by
    intro hd
    rcases anc_comparable hd hj with h1 | h1
    · exact c.destNotBelowSrc h1
    · exact c.srcNotBelowDest h1
  exact ⟨hjn, mf.out j hjn hna, mf.orig j hjn⟩

/-- The members of `a` carry the names that entries of `L` before index `i` have in `s`: the
    copies a loop of `_merge` over `L` has appended before it reaches entry `i`. -/
def NamedBefore (s t : X) (L : List Nat) (i : Nat) (a : List Nat) : Prop :=
  ∀ c ∈ a, ∃ k o, k < i ∧ L[k]? = some o ∧ (t.h.node c).name = (s.h.node o).name

theorem NamedBefore.next {s t t' : X} {L : List Nat} {i obj : Nat} {a b : List Nat}
    (h : NamedBefore s t L i a) (hget : L[i]? = some obj)
    (hn : ∀ c ∈ a, (t'.h.node c).name = (t.h.node c).name)
    (hb : ∀ c ∈ b, (t'.h.node c).name = (s.h.node obj).name) :
    NamedBefore s t' L (i + 1) (a ++ b) := by
  intro c hc
  rcases List.mem_append.mp hc with h1 | h1
  · obtain ⟨k, o, hk, ho, hn'⟩ := h c h1
    exact ⟨k, o, Nat.lt_succ_of_lt hk, ho, (hn c h1).trans hn'⟩
  · exact ⟨i, obj, Nat.lt_succ_self i, hget, hb c h1⟩

theorem NamedBefore.fresh {s t : X} {L : List Nat} {i obj : Nat} {a : List Nat}
    (h : NamedBefore s t L i a) (hnd : L.Nodup)
    (hinj : ∀ o o', o ∈ L → o' ∈ L → (s.h.node o).name = (s.h.node o').name → o = o')
    (hget : L[i]? = some obj) : ∀ c ∈ a, (t.h.node c).name ≠ (s.h.node obj).name := by
  intro c hc hnm
  obtain ⟨k, o, hk, ho, hn⟩ := h c hc
  obtain ⟨hlt, _⟩ := List.getElem?_eq_some_iff.mp ho
  rw [hinj o obj (List.mem_of_getElem? ho) (List.mem_of_getElem? hget) (hn.symm.trans hnm)] at ho
  exact Nat.ne_of_lt hk ((List.getElem?_inj hlt hnd).mp (ho.trans hget.symm))

/-- The loop over the child Sections of the source, before the entry with index `i`. -/
structure SecLoopInv (O : Oracle) (s : X) (dest src : Nat) (i : Nat) (t : X) : Prop where
  mf : MergeFrame s dest t
  dsecs : ∃ a, (t.h.node dest).secs = (s.h.node dest).secs ++ a ∧
    NamedBefore s t (s.h.node src).secs i a
  dprops : (t.h.node dest).props = (s.h.node dest).props
  /-- what a later entry will recurse into is as at the start: its checks can be transported -/
  sub : ∀ k o m, i ≤ k → (s.h.node src).secs[k]? = some o → containsS O s dest o = some m →
    ∀ j, Anc s.h m j → t.h.node j = s.h.node j

/-- The loop over the child Properties of the source, before the entry with index `i`. -/
structure PropLoopInv (s : X) (dest src : Nat) (i : Nat) (t : X) : Prop where
  mf : MergeFrame s dest t
  dprops : ∃ a, (t.h.node dest).props = (s.h.node dest).props ++ a ∧
    NamedBefore s t (s.h.node src).props i a

/-- What the induction over the recursion depth provides for the recursive `_merge`. -/
def NoRaiseAt (O : Oracle) (f : Nat) : Prop :=
  ∀ (t : X) (r : Bool) (d' s' : Nat), MCtx O f t d' s' →
    Calm (mergeAux O (f + 1) t r d' s').2

theorem secBody_step (O : Oracle) (f : Nat) (s : X) (dest src : Nat) (record : Bool)
    (ctx : MCtx O (f + 1) s dest src) (IH : NoRaiseAt O f)
    (i : Nat) (t : X) (obj : Nat) (inv : SecLoopInv O s dest src i t)
    (hget : (t.h.node src).secs[i]? = some obj) :
    ∀ r, r = mergeSecBody O (f + 1) (mergeAux O (f + 1)) record dest t obj →
      Calm r.2 ∧ (r.2 = .ok → SecLoopInv O s dest src (i + 1) r.1) := by
  intro r hr
  have w := ctx.wf
  have hdn : dest < s.h.size := w.lt_of_kind_sec ctx.destSec
  have hle : s.h.size ≤ t.h.size := inv.mf.adds.1
  rw [(ctx.below_src inv.mf src (Anc.refl _)).2.1] at hget
  have hobjmem : obj ∈ (s.h.node src).secs := List.mem_of_getElem? hget
  obtain ⟨hobjpar, hobjk⟩ := (w.memS src obj).mp hobjmem
  have hsrc_obj : Anc s.h src obj := Anc.step hobjpar (Anc.refl _)
  obtain ⟨hobjn, hobj_node, hobj_orig⟩ := ctx.below_src inv.mf obj hsrc_obj
  obtain ⟨a, hl, hnamed⟩ := inv.dsecs
  have hat : ∀ c ∈ a, c < t.h.size ∧ c ≠ dest := fun c hc =>
    have hcp := ((inv.mf.wf.memS dest c).mp (hl ▸ List.mem_append_right _ hc)).1
    ⟨inv.mf.wf.child_lt hcp, Ne.symm (inv.mf.wf.parent_ne hcp)⟩
  have hlneq := hnamed.fresh (w.nodupS src) (w.namesS src) hget
  have hold : ∀ m ∈ (s.h.node dest).secs, (t.h.node m).name = (s.h.node m).name ∧
      t.orig m = s.orig m := fun m hm =>
    have hmn := w.child_lt ((w.memS dest m).mp hm).1
    ⟨inv.mf.name hmn, inv.mf.orig m hmn⟩
  unfold mergeSecBody at hr
  rw [containsS_ext hl ⟨by rw [hobj_node], hobj_orig⟩ hold hlneq] at hr
  cases hc : containsS O s dest obj with
  | some mine =>
    rw [hc] at hr
    simp only at hr
    obtain ⟨hmmem, hmname⟩ := containsS_mem hc
    obtain ⟨hmpar, hmk⟩ := (w.memS dest mine).mp hmmem
    have hmn : mine < s.h.size := w.child_lt hmpar
    have hdm : Anc s.h dest mine := Anc.step hmpar (Anc.refl _)
    have agree_mine : AgreeBelow s t mine := fun j hj =>
      ⟨inv.sub i obj mine (Nat.le_refl _) hget hc j hj, inv.mf.orig j (w.desc_lt hj hmn)⟩
    have agree_obj : AgreeBelow s t obj := fun j hj =>
      (ctx.below_src inv.mf j (Anc.trans hsrc_obj hj)).2
    have mc' : mergeCheck O f t mine obj = some true := by
      rw [mergeCheck_congr O f s t mine obj w agree_mine agree_obj]
      have := (mergeCheck_pass ctx.checkOk).1 obj hobjmem
      unfold mcSec at this
      rw [hc] at this
      exact this
    have nc' : nameCheck O f t mine obj = some true := by
      rw [nameCheck_congr O f s t mine obj w agree_mine agree_obj]
      have := nameCheck_pass ctx.nameCheckOk obj hobjmem
      unfold ncSec at this
      rw [hc] at this
      exact this
    -- what lies below `mine` in the later state lay below it at the start
    have hbelow : ∀ a j, j < s.h.size → Anc t.h a j → Anc s.h a j :=
      fun a j hj ha => anc_adds_old w inv.mf.adds ha hj
    -- `mine` and `obj` lie in different subtrees, as `dest` and `src` do
    have happart : ∀ {x y j}, Anc s.h dest x → Anc s.h x j → Anc s.h src y → Anc s.h y j →
        False := fun hx hxj hy hyj =>
      (anc_comparable (Anc.trans hx hxj) (Anc.trans hy hyj)).elim ctx.destNotBelowSrc
        ctx.srcNotBelowDest
    have hout := IH t (record && !t.resolved mine) mine obj ⟨inv.mf.wf, inv.mf.noEmpty,
      by rw [(agree_mine mine (Anc.refl _)).1]; exact hmk, by rw [hobj_node]; exact hobjk,
      fun ha => happart hdm (hbelow _ _ hobjn ha) hsrc_obj (Anc.refl _),
      fun ha => happart hdm (Anc.refl _) hsrc_obj (hbelow _ _ hmn ha), mc', nc'⟩
    have frame := mergeAux_mf O (f + 1) t (record && !t.resolved mine) mine obj
      inv.mf.wf inv.mf.noEmpty
    rw [← hr] at hout frame
    refine ⟨hout, fun _ => ?_⟩
    have hdest_same : r.1.h.node dest = t.h.node dest :=
      frame.out dest (Nat.lt_of_lt_of_le hdn hle)
        (fun ha => not_anc_parent w hmpar (hbelow _ dest hdn ha))
    refine ⟨inv.mf.child w (hl ▸ List.mem_append_left _ hmmem) frame, ?_, ?_, ?_⟩
    · exact ⟨a, by rw [hdest_same]; exact hl, List.append_nil a ▸
        hnamed.next hget (fun c hc => frame.name (hat c hc).1) (b := []) nofun⟩
    · rw [hdest_same]; exact inv.dprops
    · intro k o m hk ho hcm j hj
      obtain ⟨hm'mem, hm'name⟩ := containsS_mem hcm
      obtain ⟨hm'par, _⟩ := (w.memS dest m).mp hm'mem
      have hjn : j < s.h.size := w.desc_lt hj (w.child_lt hm'par)
      have hne : mine ≠ m := by
        intro e
        subst e
        have := w.namesS src o obj (List.mem_of_getElem? ho) hobjmem (by rw [hm'name, ← hmname])
        subst this
        exact absurd ((List.getElem?_inj (List.getElem?_eq_some_iff.mp ho).1 (w.nodupS src)).mp
          (ho.trans hget.symm)) (Nat.ne_of_gt hk)
      rw [frame.out j (Nat.lt_of_lt_of_le hjn hle)
        (fun ha => sib_disjoint w hmpar hm'par hne (hbelow _ j hjn ha) hj)]
      exact inv.sub k o m (Nat.le_of_succ_le hk) ho hcm j hj
  | none =>
    rw [hc] at hr
    simp only at hr
    have hnm : nameIn s.h (s.h.node dest).secs (s.h.node obj).name = false := by
      have := nameCheck_pass ctx.nameCheckOk obj hobjmem
      unfold ncSec at this
      rw [hc] at this
      simpa using this
    have hot : obj < t.h.size := Nat.lt_of_lt_of_le hobjn hle
    have hnmt : nameIn t.h (t.h.node dest).secs (t.h.node obj).name = false := by
      rw [nameIn_false, hl, hobj_node]
      intro c hc'
      rcases List.mem_append.mp hc' with h1 | h1
      · rw [(hold c h1).1]; exact (nameIn_false.mp hnm) c h1
      · exact hlneq c h1
    obtain ⟨hout, hfacts⟩ := cloneAppend_ok O (f + 1) t dest obj (some record) inv.mf.wf
      inv.mf.noEmpty (Nat.lt_of_lt_of_le hdn hle) hot
      (Or.inl ⟨by rw [hobj_node]; exact hobjk,
        by rw [inv.mf.kind hdn, ctx.destSec]; decide, hnmt⟩)
      r hr
    have mf' := cloneAppend_mf O (f + 1) t obj (some record) inv.mf hot
    rw [← hr] at mf'
    refine ⟨hout, fun hok => ?_⟩
    obtain ⟨f1, f3, _⟩ := hfacts hok
    have f2 := cloneAppend_frame O (f + 1) t dest obj (some record) inv.mf.wf
    rw [← hr] at f2
    obtain ⟨f3a, f3b⟩ := f3 (by rw [hobj_node]; exact hobjk)
    refine ⟨mf', ⟨a ++ [t.h.size], by rw [f3a, hl, List.append_assoc], hnamed.next hget
      (fun c hc => congrArg Node.name (f2 c (hat c hc).1 (hat c hc).2))
      (fun c hc => by rw [List.mem_singleton.mp hc, f1, hobj_node])⟩,
      by rw [f3b]; exact inv.dprops, ?_⟩
    intro k o m hk ho hcm j hj
    obtain ⟨hm'par, _⟩ := (w.memS dest m).mp (containsS_mem hcm).1
    have hjn : j < s.h.size := w.desc_lt hj (w.child_lt hm'par)
    rw [f2 j (Nat.lt_of_lt_of_le hjn hle) (fun e => not_anc_parent w hm'par (e ▸ hj))]
    exact inv.sub k o m (Nat.le_of_succ_le hk) ho hcm j hj

theorem propBody_step (O : Oracle) (f : Nat) (s : X) (dest src : Nat)
    (ctx : MCtx O (f + 1) s dest src)
    (i : Nat) (t : X) (obj : Nat) (inv : PropLoopInv s dest src i t)
    (hget : (t.h.node src).props[i]? = some obj) :
    ∀ r, r = mergePropBody O (f + 1) dest t obj →
      Calm r.2 ∧ (r.2 = .ok → PropLoopInv s dest src (i + 1) r.1) := by
  intro r hr
  have w := ctx.wf
  have hdn : dest < s.h.size := w.lt_of_kind_sec ctx.destSec
  have hle : s.h.size ≤ t.h.size := inv.mf.adds.1
  rw [(ctx.below_src inv.mf src (Anc.refl _)).2.1] at hget
  have hobjmem : obj ∈ (s.h.node src).props := List.mem_of_getElem? hget
  obtain ⟨hobjpar, hobjk⟩ := (w.memP src obj).mp hobjmem
  obtain ⟨hobjn, hobj_node, hobj_orig⟩ :=
    ctx.below_src inv.mf obj (Anc.step hobjpar (Anc.refl _))
  obtain ⟨a, hl, hnamed⟩ := inv.dprops
  have hat : ∀ c ∈ a, c < t.h.size ∧ c ≠ dest := fun c hc =>
    have hcp := ((inv.mf.wf.memP dest c).mp (hl ▸ List.mem_append_right _ hc)).1
    ⟨inv.mf.wf.child_lt hcp, Ne.symm (inv.mf.wf.parent_ne hcp)⟩
  have hlneq := hnamed.fresh (w.nodupP src) (w.namesP src) hget
  have hold : ∀ m ∈ (s.h.node dest).props, m < s.h.size ∧
      (t.h.node m).name = (s.h.node m).name := fun m hm =>
    have hmn := w.child_lt ((w.memP dest m).mp hm).1
    ⟨hmn, inv.mf.name hmn⟩
  unfold mergePropBody at hr
  rw [containsP_ext hl (by rw [hobj_node]) (fun m hm => (hold m hm).2) hlneq] at hr
  cases hc : containsP s dest obj with
  | some mine =>
    rw [hc] at hr
    simp only at hr
    have hok : O.propOk (t.orig mine) (t.orig obj) = true := by
      rw [inv.mf.orig mine (hold mine (containsP_mem hc).1).1, hobj_orig]
      have := (mergeCheck_pass ctx.checkOk).2 obj hobjmem
      unfold mcProp at this
      rw [hc] at this
      simpa using this
    rw [if_pos hok] at hr
    rw [hr]
    exact ⟨Or.inl rfl, fun _ => ⟨inv.mf, a, hl, List.append_nil a ▸
      hnamed.next hget (fun _ _ => rfl) (b := []) nofun⟩⟩
  | none =>
    rw [hc] at hr
    simp only at hr
    have hot : obj < t.h.size := Nat.lt_of_lt_of_le hobjn hle
    have hnmt : nameIn t.h (t.h.node dest).props (t.h.node obj).name = false := by
      rw [nameIn_false, hl, hobj_node]
      intro c hc'
      rcases List.mem_append.mp hc' with h1 | h1
      · rw [(hold c h1).2]
        intro e
        have := List.find?_eq_none.mp hc c h1
        rw [e] at this
        simp at this
      · exact hlneq c h1
    obtain ⟨hout, hfacts⟩ := cloneAppend_ok O (f + 1) t dest obj none inv.mf.wf inv.mf.noEmpty
      (Nat.lt_of_lt_of_le hdn hle) hot
      (Or.inr ⟨by rw [hobj_node]; exact hobjk, by rw [inv.mf.kind hdn, ctx.destSec], hnmt⟩) r hr
    have mf' := cloneAppend_mf O (f + 1) t obj none inv.mf hot
    rw [← hr] at mf'
    refine ⟨hout, fun hok => ?_⟩
    obtain ⟨f1, _, f4⟩ := hfacts hok
    have f2 := cloneAppend_frame O (f + 1) t dest obj none inv.mf.wf
    rw [← hr] at f2
    exact ⟨mf', a ++ [t.h.size],
      by rw [(f4 (by rw [hobj_node]; exact hobjk)).2, hl, List.append_assoc], hnamed.next hget
      (fun c hc => congrArg Node.name (f2 c (hat c hc).1 (hat c hc).2))
      (fun c hc => by rw [List.mem_singleton.mp hc, f1, hobj_node])⟩

theorem mergeAux_no_raise (O : Oracle) : ∀ (f : Nat), NoRaiseAt O f := by
  intro f
  induction f with
  | zero =>
    intro t r d' s' ctx
    exact nomatch ctx.checkOk
  | succ f ih =>
    intro t record dest src ctx
    rw [mergeAux_succ, ctx.checkOk]
    simp only
    rw [ctx.nameCheckOk]
    simp only
    have inv0 : SecLoopInv O t dest src 0 t :=
      ⟨MergeFrame.refl dest ctx.wf ctx.noEmpty, ⟨[], (List.append_nil _).symm, nofun⟩, rfl,
        fun _ _ _ _ _ _ _ _ => rfl⟩
    obtain ⟨o1, i1⟩ := liveLoop_ok (fun u : X => (u.h.node src).secs)
      (mergeSecBody O (f + 1) (mergeAux O (f + 1)) record dest) (SecLoopInv O t dest src)
      (fun i u obj inv hget => secBody_step O f t dest src record ctx ih i u obj inv hget _ rfl)
      (f + 1) 0 t inv0
    refine andThen_calm o1 fun hok => ?_
    obtain ⟨j, invj⟩ := i1 hok
    refine andThen_calm (liveLoop_ok (fun u : X => (u.h.node src).props)
      (mergePropBody O (f + 1) dest) (PropLoopInv t dest src)
      (fun i u obj inv hget => propBody_step O f t dest src ctx i u obj inv hget _ rfl)
      (f + 1) 0 _ ⟨invj.mf, [], by rw [invj.dprops, List.append_nil], nofun⟩).1 fun _ => Or.inl rfl

theorem mergeAux_outcomes (O : Oracle) (f : Nat) (s : X) (record : Bool) (dest src : Nat)
    (w : WF s.h) (hn : NoEmptyName s.h)
    (kd : (s.h.node dest).kind = .sec) (ks : (s.h.node src).kind = .sec)
    (hap : apart s.h dest src = true) :
    (mergeAux O (f + 1) s record dest src).2 = .ok ∨
    (mergeAux O (f + 1) s record dest src).2 = .fuel ∨
    ((mergeCheck O f s dest src = some false ∨
        mergeCheck O f s dest src = some true ∧ nameCheck O f s dest src = some false) ∧
      mergeAux O (f + 1) s record dest src = (s, .raised .valueError)) := by
  have a := apart_spec w hap (w.lt_of_kind_sec ks)
  cases hc : mergeCheck O f s dest src with
  | none => exact Or.inr (Or.inl (by simp only [mergeAux, hc]))
  | some b =>
    cases b with
    | false => exact Or.inr (Or.inr ⟨Or.inl rfl, mergeAux_refused (Or.inl hc)⟩)
    | true =>
      cases hnc : nameCheck O f s dest src with
      | none => exact Or.inr (Or.inl (by simp only [mergeAux, hc, hnc]))
      | some b =>
        cases b with
        | false => exact Or.inr (Or.inr ⟨Or.inr ⟨rfl, rfl⟩, mergeAux_refused (Or.inr ⟨hc, hnc⟩)⟩)
        | true => exact (mergeAux_no_raise O f s record dest src
            ⟨w, hn, kd, ks, a.not_below, a.not_above, hc, hnc⟩).imp_right Or.inl

theorem mergeAux_all_or_nothing (O : Oracle) (fuel : Nat) (s : X) (record : Bool) (dest src : Nat)
    (w : WF s.h) (hn : NoEmptyName s.h)
    (kd : (s.h.node dest).kind = .sec) (ks : (s.h.node src).kind = .sec)
    (hap : apart s.h dest src = true) :
    (∃ s', mergeAux O fuel s record dest src = (s', .ok)) ∨
    (∃ s', mergeAux O fuel s record dest src = (s', .fuel)) ∨
    mergeAux O fuel s record dest src = (s, .raised .valueError) := by
  cases fuel with
  | zero => exact Or.inr (Or.inl ⟨s, rfl⟩)
  | succ f =>
    rcases mergeAux_outcomes O f s record dest src w hn kd ks hap with h | h | h
    · exact Or.inl ⟨_, Prod.ext rfl h⟩
    · exact Or.inr (Or.inl ⟨_, Prod.ext rfl h⟩)
    · exact Or.inr (Or.inr h.2)

end Heap.Refuse
