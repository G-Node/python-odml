/-
C15, the Property level: what the strict reader extracts from a converted named Property with
`PropOK` (`_handle_properties`, then one or more runs of `_add_id`) is `propC10`.  `_handle_value`
is followed through `sel` exactly (`valueLoop_sel`), so every tag the reader looks at occurs at most
once in the result, and the reader's "last child wins" picks what the converter's "first
occurrence wins" has put there.
-/
import OdmlModel.Proofs.ConvSel
import OdmlModel.Proofs.ConvUuid

namespace Conv
open Conv.Xml

theorem ite_nil_self (l : List Xml) : (if l = [] then [] else l) = l :=
  ite_eq_right_iff.2 Eq.symm

theorem sel_liftOne (t : String) (cur : List Xml) (d : Xml) :
    sel t (liftOne cur d) =
      if sel t cur = [] ∧ target d = some t then [leaf t (fixText d)] else sel t cur := by
  unfold liftOne
  by_cases hce : find (map11 d.tag) cur = none
  · rw [if_pos hce]
    cases htg : target d with
    | none => simp
    | some m =>
      rw [((target_eq_some d m).1 htg).1] at hce
      simp only [sel_append, sel_single, leaf, tag_elem, Option.some.injEq]
      by_cases e : m = t
      · subst e; simp [find_none_sel_nil hce]
      · simp [e]
  · rw [if_neg hce, if_neg]
    -- exported under `t` means `t` is the 1.1 name, and a child of that name is there
    rintro ⟨hnil, htg⟩
    rw [((target_eq_some d t).1 htg).1, find_eq_head, hnil] at hce
    exact hce rfl

theorem firstLift_append (t : String) (a b : List Xml) :
    firstLift t (a ++ b) = match firstLift t a with
      | some x => some x
      | none => firstLift t b := by
  induction a with
  | nil => simp [firstLift]
  | cons d ds ih =>
    simp only [List.cons_append, firstLift]
    split
    · rfl
    · exact ih

/-- First occurrence wins: children with tag `t` stay if there are any; else the first attribute
    exported under `t` becomes the only one. -/
theorem sel_foldl_liftOne (t : String) (ds cur : List Xml) :
    sel t (ds.foldl liftOne cur) =
      if sel t cur = [] then (firstLift t ds).toList else sel t cur := by
  induction ds generalizing cur with
  | nil => exact (ite_nil_self _).symm
  | cons d ds ih =>
    rw [List.foldl_cons, ih, sel_liftOne, firstLift]
    by_cases hn : sel t cur = [] <;> by_cases htg : target d = some t <;> simp [hn, htg]

theorem valueLoop_sel (pid : PropId) (t : String) (ht : t ≠ "value") (vals : List Xml) (s : VState) :
    sel t (valueLoop pid vals s).cur =
      if sel t s.cur = [] then (firstLift t (vals.flatMap valueElems)).toList else sel t s.cur := by
  induction vals generalizing s with
  | nil => exact (ite_nil_self _).symm
  | cons v vs ih =>
    simp only [valueLoop, List.flatMap_cons]
    rw [ih]
    simp only
    rw [sel_removeFirst_other t "value" ht, handleValueElems_cur, sel_foldl_liftOne, firstLift_append]
    by_cases hn : sel t s.cur = []
    · cases hfl : firstLift t (valueElems v) <;> simp [hn]
    · simp [hn]

theorem firstLift_none {t : String} {ds : List Xml} (h : ∀ d ∈ ds, target d ≠ some t) :
    firstLift t ds = none := by
  induction ds with
  | nil => rfl
  | cons d ds ih =>
    rw [firstLift, if_neg (h d (by simp))]
    exact ih (fun d' hm => h d' (List.mem_cons_of_mem _ hm))

theorem valueLoop_sel_value (pid : PropId) (vals : List Xml) (s : VState) :
    sel "value" (valueLoop pid vals s).cur = (sel "value" s.cur).drop vals.length := by
  induction vals generalizing s with
  | nil => rfl
  | cons v vs ih =>
    have hv : ∀ d ∈ valueElems v, target d ≠ some "value" := by
      intro d hd htg
      have hne : d.tag ≠ "value" := by
        simpa [valueElems] using (List.mem_filter.1 hd).2
      exact hne (map11_eq_self ((target_eq_some d _).1 htg).1 (by simp) (by simp))
    simp only [valueLoop]
    rw [ih, sel_removeFirst_same, handleValueElems_cur, sel_foldl_liftOne, firstLift_none hv]
    simp only [Option.toList, ite_nil_self]
    rw [List.drop_drop, List.length_cons, Nat.add_comm]

theorem sel_propCleanup (pid : PropId) (t : String) (ht : t ∈ propKeys) (ht1 : t ≠ "dependencyvalue")
    (ks : List Xml) : sel t (propCleanup pid ks).1 = sel t ks := by
  have htd : t ≠ "dependency_value" := fun e => depValue_propKeys.2 (e ▸ ht)
  induction ks with
  | nil => rfl
  | cons k ks ih =>
    simp only [propCleanup]
    by_cases hk : k.tag = t
    · have hr : respell k.tag = k.tag := respell_ne _ (by rw [hk]; exact htd)
      rw [hr, hk, if_pos ht, sel_cons, sel_cons, if_pos hk, if_pos (by simp), ih, ← hk, elem_eta]
    · have hr : respell k.tag ≠ t := by
        unfold respell; split
        · exact fun e => ht1 e.symm
        · exact hk
      split
      · rw [sel_cons, sel_cons, if_neg hk, if_neg (by simpa using hr), ih]
      · rw [sel_cons, if_neg hk, ih]

/-- The children that end up under the tag `dependencyvalue`: both spellings. -/
def dvSel (ks : List Xml) : List Xml :=
  ks.filter (fun k => k.tag == "dependencyvalue" || k.tag == "dependency_value")

def respellElem (k : Xml) : Xml := .elem (respell k.tag) k.attrs k.text k.kids

theorem sel_propCleanup_dv (pid : PropId) (ks : List Xml) :
    sel "dependencyvalue" (propCleanup pid ks).1 = (dvSel ks).map respellElem := by
  have hdvk := depValue_propKeys.1
  induction ks with
  | nil => rfl
  | cons k ks ih =>
    simp only [propCleanup, dvSel, List.filter_cons]
    by_cases h : k.tag = "dependencyvalue" ∨ k.tag = "dependency_value"
    · have hr : respell k.tag = "dependencyvalue" := by
        unfold respell
        split
        · rfl
        · exact h.resolve_right ‹_›
      have hb : (k.tag == "dependencyvalue" || k.tag == "dependency_value") = true := by simpa using h
      rw [hr, if_pos hdvk, sel_cons, if_pos (by simp), hb, ih]
      simp only [↓reduceIte, List.map_cons, respellElem, hr]
      rfl
    · have hr : respell k.tag = k.tag := respell_ne _ (fun e => h (Or.inr e))
      have hb : (k.tag == "dependencyvalue" || k.tag == "dependency_value") = false := by
        simpa using h
      rw [hr, hb]
      simp only [Bool.false_eq_true, ↓reduceIte]
      split
      · rw [sel_cons, if_neg (by simpa using fun e => h (Or.inl e)), ih]; rfl
      · rw [ih]; rfl

theorem filter_tag_or {a b : String} {ks : List Xml} (h : sel b ks = []) :
    ks.filter (fun k => k.tag == a || k.tag == b) = sel a ks ∧
    ks.filter (fun k => k.tag == b || k.tag == a) = sel a ks := by
  have hb : ∀ k ∈ ks, (k.tag == b) = false := by
    intro k hk
    rw [beq_eq_false_iff_ne]
    intro e
    have : k ∈ sel b ks := mem_sel.2 ⟨hk, e⟩
    rw [h] at this; cases this
  constructor <;> (apply List.filter_congr; intro k hk; simp [hb k hk])

/-- `lastText` on the list of same-tag children: the stripped text of the last one. -/
def lastTextL (l : List Xml) : List Char :=
  match l.getLast? with
  | some k => Py.strip k.text
  | none => []

theorem lastText_eq (t : String) (ks : List Xml) : lastText t ks = lastTextL (sel t ks) := by
  unfold lastText lastTextL; rw [findLast_eq_getLast]
  cases (sel t ks).getLast? <;> rfl

theorem lastTextL_map_respell (l : List Xml) : lastTextL (l.map respellElem) = lastTextL l := by
  unfold lastTextL
  rw [List.getLast?_map]
  cases l.getLast? <;> rfl

theorem lastTextL_le_one (l : List Xml) (h : l.length ≤ 1) :
    lastTextL l = match l.head? with
      | some k => Py.strip k.text
      | none => [] := by
  match l, h with
  | [], _ => rfl
  | [a], _ => rfl
  | _ :: _ :: _, h => simp at h

/-- The state after the loop over the value elements of `p`. -/
def loopState (sn st : List Char) (p : Xml) : VState :=
  valueLoop ⟨sn, st, pyStr (findText "name" p.kids)⟩ (valuesOf p)
    { cur := p.kids, vals := [], log := [] }

theorem loopState_vals (sn st : List Char) (p : Xml) :
    (loopState sn st p).vals = ((valuesOf p).map Xml.text).filter (fun t => decide (Py.strip t ≠ [])) := by
  rw [loopState, valueLoop_vals]; rfl

theorem loopState_vals_strip (sn st : List Char) (p : Xml) :
    (loopState sn st p).vals.map Py.strip = vals10 p := by
  rw [loopState_vals, map_strip_filter, vals10_eq_stripped]

theorem transformProp_kids (enc : Bool) (sn st : List Char) (p : Xml) :
    (transformProp enc sn st p).1.kids =
      (propCleanup ⟨sn, st, pyStr (findText "name" p.kids)⟩
        (if (loopState sn st p).vals ≠ [] then
           (loopState sn st p).cur ++ [leaf "value" (mainText enc (loopState sn st p).vals)]
         else (loopState sn st p).cur)).1 := rfl

theorem sel_transformProp (enc : Bool) (sn st : List Char) (p : Xml) (t : String)
    (ht : t ∈ propKeys) (h1 : t ≠ "dependencyvalue") (h2 : t ≠ "value") :
    sel t (transformProp enc sn st p).1.kids = sel t (loopState sn st p).cur := by
  rw [transformProp_kids, sel_propCleanup _ t ht h1]
  split
  · rw [sel_append, sel_single, if_neg (fun e => h2 e.symm), List.append_nil]
  · rfl

/-- **The lifted element is the only one of its tag.**  Every tag that occurs at most once among
    the children of the 1.0 Property occurs at most once among those of the converted one. -/
theorem transformProp_le_one (enc : Bool) (sn st : List Char) (p : Xml) (t : String)
    (ht : t ∈ propKeys) (h1 : t ≠ "dependencyvalue") (h2 : t ≠ "value")
    (hu : (sel t p.kids).length ≤ 1) : (sel t (transformProp enc sn st p).1.kids).length ≤ 1 := by
  rw [sel_transformProp enc sn st p t ht h1 h2, loopState, valueLoop_sel _ t h2]
  split
  · cases firstLift t _ <;> simp
  · exact hu

theorem transformProp_find (enc : Bool) (sn st : List Char) (p : Xml) (t : String)
    (ht : t ∈ propKeys) (h1 : t ≠ "dependencyvalue") (h2 : t ≠ "value") :
    find t (transformProp enc sn st p).1.kids =
      match find t p.kids with
      | some k => some k
      | none => firstLift t ((valuesOf p).flatMap valueElems) := by
  rw [find_congr (sel_transformProp enc sn st p t ht h1 h2), find_eq_head, loopState,
    valueLoop_sel _ t h2, find_eq_head]
  simp only []
  cases sel t p.kids with
  | nil => rw [if_pos rfl]; cases firstLift t _ <;> rfl
  | cons a l => rw [if_neg (List.cons_ne_nil _ _)]; rfl

theorem firstLift_text (t : String) (ht : t ∈ propKeys) (ds : List Xml) :
    (firstLift t ds).map Xml.text =
      (ds.map (fun d => (map11 d.tag, if isBinary d.tag d.text then "text".toList else d.text))).lookup t := by
  induction ds with
  | nil => rfl
  | cons d ds ih =>
    simp only [firstLift, List.map_cons, List.lookup]
    by_cases hm : map11 d.tag = t
    · rw [if_pos ((target_eq_some d t).2 ⟨hm, ht⟩), hm, beq_self_eq_true]; rfl
    · rw [if_neg (fun h => hm ((target_eq_some d t).1 h).1),
        beq_eq_false_iff_ne.2 (fun e => hm e.symm)]
      exact ih

theorem valueAttrs10_eq (p : Xml) :
    valueAttrs10 p = ((valuesOf p).flatMap valueElems).map
      (fun d => (map11 d.tag, if isBinary d.tag d.text then "text".toList else d.text)) := by
  unfold valueAttrs10
  rw [List.map_flatMap]

/-- **Attributes kept on the values.**  The reader finds under `t` what the specification says:
    the Property's own element, else the first value attribute with that 1.1 name. -/
theorem lastText_transformProp (enc : Bool) (sn st : List Char) (p : Xml) (t : String)
    (ht : t ∈ propKeys) (h1 : t ≠ "dependencyvalue") (h2 : t ≠ "value")
    (hu : (sel t p.kids).length ≤ 1) :
    lastText t (transformProp enc sn st p).1.kids = attr10 t p := by
  rw [lastText_of_le_one t _ (transformProp_le_one enc sn st p t ht h1 h2 hu)]
  unfold findText attr10
  rw [transformProp_find enc sn st p t ht h1 h2, valueAttrs10_eq, ← firstLift_text t ht]
  cases find t p.kids with
  | some k => rfl
  | none =>
    simp only
    cases firstLift t (List.flatMap valueElems (valuesOf p)) with
    | some l => rfl
    | none => simp [Py.strip_nil]

/-- The tags the reader looks at (and the 1.0 spelling of the dependency value). -/
def uTags : List String :=
  ["name", "unit", "uncertainty", "type", "value_origin", "definition", "reference", "dependency",
   "dependencyvalue", "dependency_value", "id"]

/-- What the composition needs of a named 1.0 Property: each tag the reader looks at occurs at
    most once among its children, the dependency value is not given in both spellings, and no
    value element carries an `id` or a `dependencyvalue` of its own. -/
structure PropOK (p : Xml) : Prop where
  named : (find "name" p.kids).isSome = true
  uniq : ∀ t ∈ uTags, (sel t p.kids).length ≤ 1
  notBoth : sel "dependencyvalue" p.kids = [] ∨ sel "dependency_value" p.kids = []
  vals : ∀ v ∈ valuesOf p, ∀ d ∈ valueElems v, d.tag ≠ "id" ∧ d.tag ≠ "dependencyvalue"

theorem PropOK.no_target (p : Xml) (h : PropOK p) (t : String)
    (ht : t = "id" ∨ t = "dependencyvalue" ∨ t = "dependency_value") :
    ∀ d ∈ (valuesOf p).flatMap valueElems, target d ≠ some t := by
  intro d hd htg
  obtain ⟨v, hv, hd'⟩ := List.mem_flatMap.1 hd
  have hvd := h.vals v hv d hd'
  obtain ⟨hm, hk⟩ := (target_eq_some d t).1 htg
  rcases ht with e | e | e
  · subst e; exact hvd.1 (map11_eq_self hm (by simp) (by simp))
  · subst e; exact hvd.2 (map11_eq_self hm (by simp) (by simp))
  · subst e; exact depValue_propKeys.2 hk

theorem sel_loopState_same (sn st : List Char) (p : Xml) (h : PropOK p) (t : String)
    (ht : t = "id" ∨ t = "dependencyvalue" ∨ t = "dependency_value") :
    sel t (loopState sn st p).cur = sel t p.kids := by
  have hne : t ≠ "value" := by rcases ht with e | e | e <;> subst e <;> decide
  rw [loopState, valueLoop_sel _ t hne, firstLift_none (h.no_target p t ht)]
  exact ite_nil_self _

theorem sel_id_transformProp (enc : Bool) (sn st : List Char) (p : Xml) (h : PropOK p) :
    sel "id" (transformProp enc sn st p).1.kids = sel "id" p.kids := by
  rw [sel_transformProp enc sn st p "id" (by decide) (by simp) (by simp)]
  exact sel_loopState_same sn st p h "id" (Or.inl rfl)

theorem lastText_dv_transformProp (enc : Bool) (sn st : List Char) (p : Xml) (h : PropOK p) :
    lastText "dependencyvalue" (transformProp enc sn st p).1.kids =
      (match find "dependency_value" p.kids with
       | some k => Py.strip k.text
       | none => attr10 "dependencyvalue" p) := by
  have hdv := sel_loopState_same sn st p h "dependencyvalue" (Or.inr (Or.inl rfl))
  have hd_v := sel_loopState_same sn st p h "dependency_value" (Or.inr (Or.inr rfl))
  have hcur : dvSel (if (loopState sn st p).vals ≠ [] then
           (loopState sn st p).cur ++ [leaf "value" (mainText enc (loopState sn st p).vals)]
         else (loopState sn st p).cur) = dvSel (loopState sn st p).cur := by
    split
    · simp [dvSel, List.filter_append, leaf]
    · rfl
  rw [lastText_eq, transformProp_kids, sel_propCleanup_dv, lastTextL_map_respell, hcur]
  have hlift := firstLift_none (h.no_target p "dependencyvalue" (Or.inr (Or.inl rfl)))
  have hattr : attr10 "dependencyvalue" p = lastTextL (sel "dependencyvalue" p.kids) := by
    rw [lastTextL_le_one _ (h.uniq _ (by simp [uTags])), ← find_eq_head]
    unfold attr10
    cases find "dependencyvalue" p.kids with
    | some k => rfl
    | none =>
      simp only
      rw [valueAttrs10_eq, ← firstLift_text _ depValue_propKeys.1, hlift]
      rfl
  rcases h.notBoth with hn | hn
  · -- no `dependencyvalue` child: the 1.0 spelling, if any
    rw [dvSel, (filter_tag_or (hdv.trans hn)).2, hd_v, lastTextL_le_one _ (h.uniq _ (by simp [uTags])),
      ← find_eq_head]
    cases hf : find "dependency_value" p.kids with
    | some k => rfl
    | none =>
      simp only
      rw [hattr, hn]; rfl
  · rw [dvSel, (filter_tag_or (hd_v.trans hn)).1, hdv]
    have : find "dependency_value" p.kids = none := by rw [find_eq_head, hn]; rfl
    rw [this]
    exact hattr.symm

theorem readValues_of_vals (sn st : List Char) (p : Xml) (hne : vals10 p ≠ []) :
    readValues (transformProp false sn st p).1.kids = some (vals10 p) := by
  have hmap := loopState_vals_strip sn st p
  have hall : ∀ w ∈ (loopState sn st p).vals, Py.strip w ≠ [] := by
    intro w hw
    rw [loopState_vals] at hw
    simpa using (List.mem_filter.1 hw).2
  have hws : (loopState sn st p).vals ≠ [] := by
    intro h; rw [h] at hmap; exact hne hmap.symm
  rw [transformProp_kids, if_pos hws, propCleanup_append, propCleanup_value]
  unfold readValues
  rw [findLast_concat "value" _ _ rfl]
  simp [leaf, strip_mainText_ne_nil _ hws hall, fromCsv_mainText, hmap]

theorem find_value_of_no_vals (sn st : List Char) (p : Xml) (h : vals10 p = []) :
    find "value" (transformProp false sn st p).1.kids = none := by
  have hvals : (loopState sn st p).vals = [] := by
    have hmap := loopState_vals_strip sn st p
    rwa [h, List.map_eq_nil_iff] at hmap
  rw [transformProp_kids, hvals, if_neg (fun h => h rfl),
    find_congr (sel_propCleanup _ "value" value_in_propKeys (by simp) _), find_eq_head, loopState,
    valueLoop_sel_value, valuesOf_eq_sel, List.drop_length]
  rfl

theorem readValues_transformProp (sn st : List Char) (p : Xml) :
    readValues (transformProp false sn st p).1.kids = some (vals10 p) := by
  by_cases h : vals10 p = []
  · have := findLast_none_of_find _ _ (find_value_of_no_vals sn st p h)
    simp [readValues, this, h]
  · exact readValues_of_vals sn st p h

theorem iter_addId_sel_other (t : String) (ht : t ≠ "id") (fresh : List Char) (n : Nat) (e : Xml) :
    sel t (iter (addId fresh) n e).kids = sel t e.kids := by
  induction n generalizing e with
  | zero => rfl
  | succ n ih => simp only [iter]; rw [ih, sel_addId_other t ht]

theorem idRes_stable (fresh : List Char) (hf : idOf fresh fresh = fresh) (ks : List Xml) :
    idOf fresh (idRes fresh ks) = idRes fresh ks := by
  unfold idRes
  cases find "id" ks with
  | some k => exact idOf_idem fresh k.text hf
  | none => exact hf

theorem iter_addId_sel_id_fixed (fresh r : List Char) (hr : idOf fresh r = r) (n : Nat) (e : Xml)
    (h : sel "id" e.kids = [leaf "id" r]) : sel "id" (iter (addId fresh) n e).kids = [leaf "id" r] := by
  induction n generalizing e with
  | zero => exact h
  | succ n ih =>
    simp only [iter]
    apply ih
    rw [sel_addId_id, h]
    have : idRes fresh e.kids = r := by
      unfold idRes
      rw [find_eq_head, h]
      simpa [leaf] using hr
    rw [this]; rfl

/-- However often `_add_id` runs on an element with at most one `id` child (at least once), it
    leaves exactly one `id` child: the id of the first run. -/
theorem iter_addId_sel_id (fresh : List Char) (hf : idOf fresh fresh = fresh) (n : Nat) (e : Xml)
    (h : (sel "id" e.kids).length ≤ 1) :
    sel "id" (iter (addId fresh) (n + 1) e).kids = [leaf "id" (idRes fresh e.kids)] := by
  simp only [iter]
  apply iter_addId_sel_id_fixed fresh _ (idRes_stable fresh hf e.kids)
  rw [sel_addId_id]
  rw [List.drop_eq_nil_of_le h]; rfl

theorem id10_eq (fresh : List Char) (ks : List Xml) : id10 fresh ks = Py.strip (idRes fresh ks) := by
  unfold id10 idRes
  cases find "id" ks <;> rfl

theorem lastText_addId (fresh : List Char) (e : Xml) :
    lastText "id" (addId fresh e).kids = id10 fresh e.kids := by
  rw [lastText_eq, sel_addId_id, id10_eq]
  simp [lastTextL, leaf]

/-- The tags under which the reader finds the Property's own element, or else the first value
    attribute of that 1.1 name. -/
def plainTags : List String :=
  ["name", "unit", "uncertainty", "type", "value_origin", "definition", "reference", "dependency"]

theorem plainTags_spec : ∀ t ∈ plainTags,
    t ∈ propKeys ∧ t ≠ "dependencyvalue" ∧ t ≠ "value" ∧ t ≠ "id" ∧ t ∈ uTags := by decide +kernel

/-- **Property level.**  What the strict reader extracts from a converted named Property - after
    `_handle_properties` and any positive number of `_add_id` runs - is the content the
    specification assigns to the 1.0 Property. -/
theorem readProp_converted (fresh : List Char) (hf : idOf fresh fresh = fresh)
    (sn st : List Char) (n : Nat) (p : Xml) (h : PropOK p) :
    readProp (iter (addId fresh) (n + 1) (transformProp false sn st p).1) =
      propC10 fresh (findText "name" p.kids) p := by
  have hattr : ∀ t ∈ plainTags,
      lastText t (iter (addId fresh) (n + 1) (transformProp false sn st p).1).kids = attr10 t p := by
    intro t ht
    obtain ⟨hk, h1, h2, h3, h4⟩ := plainTags_spec t ht
    rw [lastText_congr (iter_addId_sel_other t h3 fresh (n + 1) _)]
    exact lastText_transformProp false sn st p t hk h1 h2 (h.uniq t h4)
  have hname : attr10 "name" p = Py.strip (findText "name" p.kids) := by
    unfold attr10 findText
    have := h.named
    cases hfn : find "name" p.kids with
    | some k => rfl
    | none => rw [hfn] at this; cases this
  have hid : lastText "id" (iter (addId fresh) (n + 1) (transformProp false sn st p).1).kids =
      id10 fresh p.kids := by
    have hle : (sel "id" (transformProp false sn st p).1.kids).length ≤ 1 := by
      rw [sel_id_transformProp false sn st p h]; exact h.uniq _ (by simp [uTags])
    rw [lastText_eq, iter_addId_sel_id fresh hf n _ hle, id10_eq]
    have : idRes fresh (transformProp false sn st p).1.kids = idRes fresh p.kids := by
      unfold idRes
      rw [find_congr (sel_id_transformProp false sn st p h)]
    rw [this]
    simp [lastTextL, leaf]
  unfold readProp propC10
  rw [hattr "name" (by simp [plainTags]), hname,
    readValues_congr (iter_addId_sel_other _ (by simp) fresh (n + 1) _), readValues_transformProp,
    hattr "unit" (by simp [plainTags]),
    hattr "uncertainty" (by simp [plainTags]),
    hattr "type" (by simp [plainTags]),
    hattr "value_origin" (by simp [plainTags]),
    hattr "definition" (by simp [plainTags]),
    hattr "reference" (by simp [plainTags]),
    hattr "dependency" (by simp [plainTags]),
    lastText_congr (iter_addId_sel_other _ (by simp) fresh (n + 1) _), lastText_dv_transformProp false sn st p h,
    hid]
  cases find "dependency_value" p.kids <;> rfl

theorem PropOK_rename (n : List Char) (p : Xml) (h : PropOK p) : PropOK (rename n p) := by
  obtain ⟨nm, hnm⟩ := sel_singleton h.named (h.uniq "name" (by simp [uTags]))
  refine ⟨?_, ?_, ?_, ?_⟩
  · exact (find_name_rename n p).trans h.named
  · intro t ht
    by_cases hn : t = "name"
    · subst hn
      rw [rename_kids, sel_setFirstText_name n _ nm hnm]; simp
    · rw [sel_rename_other t n p hn]; exact h.uniq t ht
  · rw [sel_rename_other _ n p (by simp), sel_rename_other _ n p (by simp)]; exact h.notBoth
  · rw [valuesOf_eq_sel, sel_rename_other "value" n p (by simp), ← valuesOf_eq_sel]; exact h.vals

theorem findText_name_rename (n : List Char) (p : Xml) (h : (find "name" p.kids).isSome = true) :
    findText "name" (rename n p).kids = n := by
  rw [rename_kids]; exact findText_setFirstText "name" n _ h

theorem propC10_rename (fresh y n : List Char) (p : Xml) :
    propC10 fresh y (rename n p) = propC10 fresh y p := by
  have hvo : valuesOf (rename n p) = valuesOf p := by
    rw [valuesOf_eq_sel, sel_rename_other "value" n p (by simp), ← valuesOf_eq_sel]
  have hva : valueAttrs10 (rename n p) = valueAttrs10 p := by unfold valueAttrs10; rw [hvo]
  have hat : ∀ t, t ≠ "name" → attr10 t (rename n p) = attr10 t p := by
    intro t ht
    unfold attr10
    rw [find_congr (sel_rename_other t n p ht), hva]
  unfold propC10
  rw [hat "unit" (by simp), hat "uncertainty" (by simp), hat "type" (by simp),
    hat "value_origin" (by simp), hat "definition" (by simp), hat "reference" (by simp),
    hat "dependency" (by simp), hat "dependencyvalue" (by simp),
    find_congr (sel_rename_other "dependency_value" n p (by simp))]
  unfold vals10 id10
  rw [hvo, find_congr (sel_rename_other "id" n p (by simp))]

end Conv
