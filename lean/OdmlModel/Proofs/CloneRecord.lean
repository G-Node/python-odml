/-
C11: the dicts `_merged_attrs` (address space `dcell`, Node field `mattrs`).

`clone()` is `copy.copy`: the copy of a Section holds the ADDRESS of the dict of the original. Two
relations describe what an operation does to the dicts:
  `DSame h h'`   no dict is allocated or written, every object's record address is the class-level
                 dict (0) or one an object of `h` holds              (all operations but three)
  `DFrame h h'`  no dict that exists in `h` is written; new ones may be allocated, and an object's record
                 address is 0, one an object of `h` holds, or a new one (newObj, merge, unmerge)
`step_dframe` / `run_dframe` is the frame lemma of the fourth address space for every operation and
every run; `DScoped` (every record address is allocated) is an invariant of every run.
-/
import OdmlModel.Proofs.CloneSep
namespace Clone

/-- No dict is allocated, no dict is written, no record address is invented. -/
structure DSame (h h' : H) : Prop where
  dcell : h'.dcell = h.dcell
  nD : h'.nD = h.nD
  addr : ∀ a, (h'.node a).mattrs = 0 ∨ ∃ b, (h'.node a).mattrs = (h.node b).mattrs

theorem DSame.refl (h : H) : DSame h h := ⟨rfl, rfl, fun a => Or.inr ⟨a, rfl⟩⟩

theorem DSame.trans {a b c : H} (h1 : DSame a b) (h2 : DSame b c) : DSame a c :=
  ⟨h2.dcell.trans h1.dcell, h2.nD.trans h1.nD, fun x => by
    rcases h2.addr x with e | ⟨y, e⟩
    · exact Or.inl e
    · rcases h1.addr y with e' | ⟨z, e'⟩
      · exact Or.inl (e.trans e')
      · exact Or.inr ⟨z, e.trans e'⟩⟩

theorem dsame_of_node {h h' : H} (hn : h'.node = h.node) (hd : h'.dcell = h.dcell) (hD : h'.nD = h.nD) :
    DSame h h' := ⟨hd, hD, fun a => Or.inr ⟨a, by rw [hn]⟩⟩

theorem dsame_updN (h : H) (i : Nat) (f : Node → Node) (hf : ∀ n : Node, (f n).mattrs = n.mattrs) :
    DSame h (updN h i f) :=
  ⟨rfl, rfl, fun a => Or.inr ⟨a, by
    rw [updN_node]; split
    · exact hf _
    · rfl⟩⟩

theorem dsame_newId (h : H) (x : Nat) : DSame h (newId h x) :=
  ⟨rfl, rfl, fun a => Or.inr ⟨a, by rw [newId_node]; split <;> rfl⟩⟩

theorem dsame_allocN (h : H) (n : Node) (hn : n.mattrs = 0 ∨ ∃ b, n.mattrs = (h.node b).mattrs) :
    DSame h (allocN h n).1 :=
  ⟨rfl, rfl, fun a => by
    rw [allocN_node]; split
    · exact hn
    · exact Or.inr ⟨a, rfl⟩⟩

theorem dsame_allocV (h : H) (l : List Item) : DSame h (allocV h l).1 := dsame_of_node rfl rfl rfl
theorem dsame_updV (h : H) (i f) : DSame h (updV h i f) := dsame_of_node rfl rfl rfl
theorem dsame_updT (h : H) (i f) : DSame h (updT h i f) := dsame_of_node rfl rfl rfl

theorem TupOnly.dsame {h h' out} (r : TupOnly h h' out) : DSame h h' := dsame_of_node r.node r.dcell r.nD

theorem dsame_bindVals (h : H) (p : Nat) (l : List Item) :
    DSame h (updN (allocV h l).1 p (fun n => { n with vals := some (allocV h l).2 })) :=
  (dsame_allocV h l).trans (dsame_updN _ _ _ (fun _ => rfl))

theorem dsame_setValuesItems (h : H) (p : Nat) (src : List Item) : DSame h (setValuesItems h p src) :=
  setValuesItems_eq h p src ▸ (convertItems_spec src h).toTupOnly.dsame.trans (dsame_bindVals _ p _)

theorem dsame_setValuesLits (h : H) (p : Nat) (src : List Lit) : DSame h (setValuesLits h p src) :=
  setValuesLits_eq h p src ▸ (litItems_tupOnly src h).dsame.trans (dsame_bindVals _ p _)

theorem dsame_litUpd (h : H) (v : Lit) (c : Nat) (f : List Item → List Item → List Item) :
    DSame h (updV (litItems h [v]).1 c (f (litItems h [v]).2)) :=
  (litItems_tupOnly [v] h).dsame.trans (dsame_updV _ _ _)

theorem dsame_setAttr (h : H) (x i : Nat) (v : String) : DSame h (setAttr h x i v) :=
  dsame_updN _ _ _ (fun _ => rfl)

theorem dsame_listInnerSet (h : H) (c i j : Nat) (s : String) : DSame h (listInnerSet h c i j s).1 :=
  listInnerSet_cases (DSame.refl h) (fun t _ => dsame_updT h t _)

theorem dsame_setChildList (h : H) (p : Nat) (b : Bool) (f : List Nat → List Nat) :
    DSame h (setChildList h p b f) := by
  unfold setChildList
  exact dsame_updN _ _ _ (fun n => by split <;> rfl)

theorem dsame_setParent (h : H) (x : Nat) (q : Option Nat) :
    DSame h (updN h x (fun n => { n with parent := q })) := dsame_updN _ _ _ (fun _ => rfl)

theorem dsame_updAttrs (h : H) (x : Nat) (g : List String → List String) :
    DSame h (updN h x (fun n => { n with attrs := g n.attrs })) := dsame_updN _ _ _ (fun _ => rfl)

theorem dsame_updMerged (h : H) (x : Nat) (m : Option Nat) :
    DSame h (updN h x (fun n => { n with merged := m })) := dsame_updN _ _ _ (fun _ => rfl)

theorem dsame_attach {h h' : H} {c child : Nat} (ha : attach h c child = (h', none)) : DSame h h' := by
  rw [attach_ok ha]
  exact (dsame_setChildList h c _ _).trans (dsame_setParent _ _ _)

theorem dsame_removeChild {h h' : H} {q x : Nat} (hr : removeChild h q x = some h') : DSame h h' := by
  obtain ⟨i, rfl⟩ := removeChild_ok hr
  exact (dsame_setChildList h q _ _).trans (dsame_setParent _ _ _)

theorem dsame_append (h : H) (p x : Nat) : DSame h (append h p x).1 := by
  refine append_cases (DSame.refl h) (fun _ h1 hh1 => ?_)
  have g1 : DSame h h1 := by rw [hh1]; exact dsame_setChildList h p _ _
  exact ⟨g1, g1.trans (dsame_setParent _ _ _),
    fun q h2 _ hrm => (g1.trans (dsame_removeChild hrm)).trans (dsame_setParent _ _ _)⟩

theorem dsame_cloneProp (h : H) (x : Nat) (keep : Bool) : DSame h (cloneProp h x keep).1 := by
  have g3 := ((dsame_allocN h _ (Or.inr ⟨x, rfl⟩)).trans (dsame_setParent _ h.nN none)).trans
    (dsame_setValuesItems _ h.nN (valsOf (updN (allocN h (h.node x)).1 h.nN (fun n => { n with parent := none })) x))
  simp only [cloneProp]
  split
  · exact g3
  · exact g3.trans (dsame_newId _ _)

theorem Loop.dsame {rec c h h'} (hrec : ∀ h s h1 sc, rec h s = (h1, .ok sc) → DSame h h1) (l : Loop rec c h h') :
    DSame h h' := by
  induction l with
  | done h => exact DSame.refl h
  | round hr hat _ ih => exact ((hrec _ _ _ _ hr).trans (dsame_attach hat)).trans ih

theorem dsame_cloneBody {rec : H → Nat → H × Res} (hrec : ∀ h s h1 sc, rec h s = (h1, .ok sc) → DSame h h1)
    {h h' : H} {x c : Nat} {ch keep : Bool} (hb : cloneBody rec h x ch keep = (h', .ok c)) : DSame h h' := by
  obtain ⟨_, h4, l4, rest⟩ := cloneBody_ok hb
  have g3 : DSame h (bodyStart h x) :=
    ((dsame_allocN h _ (Or.inr ⟨x, rfl⟩)).trans (dsame_setParent _ _ _)).trans (dsame_updN _ _ _ (fun _ => rfl))
  have g4 := g3.trans (l4.dsame hrec)
  have g5 : DSame h (if keep = true then h4 else newId h4 h.nN) := by
    split
    · exact g4
    · exact g4.trans (dsame_newId _ _)
  split at rest
  · exact rest ▸ g5
  · exact (g5.trans (dsame_updN _ h.nN (fun n => { n with props := [] }) (fun _ => rfl))).trans (rest.dsame hrec)

theorem dsame_cloneF : ∀ (f : Nat) {h : H} {x : Nat} {ch keep : Bool} {h' : H} {c : Nat},
    cloneF f h x ch keep = (h', .ok c) → DSame h h' := by
  intro f
  induction f with
  | zero => intro h x ch keep h' c hc; cases hc
  | succ f ih =>
    intro h x ch keep h' c hc
    have hc := cloneF_ok hc
    split at hc
    · have := dsame_cloneProp h x keep
      rwa [hc] at this
    · exact dsame_cloneBody (fun _ _ _ _ => ih) hc

theorem dsame_clone (h : H) (x : Nat) (ch keep : Bool) : DSame h (clone h x ch keep).1 :=
  dropOnErr_fst _ (DSame.refl h) (fun _ _ => dsame_cloneF _)

theorem dsame_exportLoop : ∀ (fuel : Nat) {h : H} {self curr child : Nat} {h' : H} {r : Nat},
    exportLoop fuel h self curr child = (h', .ok r) → DSame h h' := by
  intro fuel
  induction fuel with
  | zero => intro h self curr child h' r he; cases he
  | succ fuel ih =>
    intro h self curr child h' r he
    obtain ⟨h1, par, h2, h3, hcl, hr2, hr3, hrest⟩ := exportLoop_ok he
    have g2 : DSame h1 h2 := by
      split at hr2
      · exact dsame_attach hr2
      · rw [(Prod.mk.inj hr2).1]; exact DSame.refl h2
    have g3 := ((dsame_cloneF 1 hcl).trans g2).trans ((cloneLoop_loop _ hr3).dsame (fun _ _ _ _ => dsame_cloneF 1))
    split at hrest
    · rw [hrest.1]; exact g3
    · exact g3.trans (ih hrest)

theorem dsame_exportLeaf (h : H) (x : Nat) : DSame h (exportLeaf h x).1 := by
  refine dropOnErr_fst _ (DSame.refl h) (fun h' r he => ?_)
  unfold exportLeafF at he
  split at he
  · split at he
    · exact dsame_exportLoop _ he
    · rw [← (Prod.mk.inj he).1]; exact dsame_cloneProp h x true
  · exact dsame_exportLoop _ he

/-- No dict that exists is written; an object's record address is the class-level dict, one an object
    held before, or a dict made since. -/
structure DFrame (h h' : H) : Prop where
  mono : h.nD ≤ h'.nD
  same : ∀ d, d < h.nD → h'.dcell d = h.dcell d
  addr : ∀ a, (h'.node a).mattrs = 0 ∨ (∃ b, (h'.node a).mattrs = (h.node b).mattrs) ∨
    (h.nD ≤ (h'.node a).mattrs ∧ (h'.node a).mattrs < h'.nD)

theorem DSame.frame {h h' : H} (g : DSame h h') : DFrame h h' :=
  ⟨by rw [g.nD]; exact Nat.le_refl _, fun d _ => by rw [g.dcell], fun a => by
    rcases g.addr a with e | e
    · exact Or.inl e
    · exact Or.inr (Or.inl e)⟩

theorem DFrame.refl (h : H) : DFrame h h := (DSame.refl h).frame

theorem DFrame.trans {a b c : H} (h1 : DFrame a b) (h2 : DFrame b c) : DFrame a c := by
  have m1 := h1.mono
  have m2 := h2.mono
  refine ⟨Nat.le_trans m1 m2, fun d hd => by rw [h2.same d (Nat.lt_of_lt_of_le hd m1), h1.same d hd], fun x => ?_⟩
  rcases h2.addr x with e | ⟨y, e⟩ | ⟨e1, e2⟩
  · exact Or.inl e
  · rcases h1.addr y with e' | ⟨z, e'⟩ | ⟨e1, e2⟩
    · exact Or.inl (e.trans e')
    · exact Or.inr (Or.inl ⟨z, e.trans e'⟩)
    · exact Or.inr (Or.inr ⟨e ▸ e1, e ▸ Nat.lt_of_lt_of_le e2 m2⟩)
  · exact Or.inr (Or.inr ⟨Nat.le_trans m1 e1, e2⟩)

theorem dframe_allocD (h : H) (l : List (Nat × String)) : DFrame h (allocD h l).1 :=
  ⟨Nat.le_succ _, fun d hd => by rw [allocD_dcell, if_neg (Nat.ne_of_lt hd)], fun a => Or.inr (Or.inl ⟨a, rfl⟩)⟩

theorem dframe_updD {h0 h : H} (g : DFrame h0 h) (i : Nat) (f) (hi : h0.nD ≤ i) : DFrame h0 (updD h i f) :=
  ⟨g.mono, fun d hd => by rw [updD_dcell, if_neg (Nat.ne_of_lt (Nat.lt_of_lt_of_le hd hi))]; exact g.same d hd, g.addr⟩

theorem dframe_bind {h0 h : H} (g : DFrame h0 h) (x d : Nat) (hd : h0.nD ≤ d ∧ d < h.nD) :
    DFrame h0 (updN h x (fun n => { n with mattrs := d })) :=
  ⟨g.mono, g.same, fun a => by
    rw [updN_node]; split
    · exact Or.inr (Or.inr hd)
    · exact g.addr a⟩

theorem dframe_initRecord (h : H) (x : Nat) : DFrame h (initRecord h x) := by
  unfold initRecord
  exact dframe_bind (dframe_allocD h []) x h.nD ⟨Nat.le_refl _, by simp⟩

theorem dframe_newObj (h : H) (k : Kind) (name : String) (attrs : List String) (vals : List Lit) :
    DFrame h (newObj h k name attrs vals).1 := by
  unfold newObj
  simp only
  have g0 : DSame h { h with nextId := h.nextId + 1 } := dsame_of_node rfl rfl rfl
  have g1 := g0.trans (dsame_allocN { h with nextId := h.nextId + 1 }
    (Node.mk k name h.nextId attrs none [] [] none none 0) (Or.inl rfl))
  exact ite_fst (g1.trans (dsame_setValuesLits _ _ vals)).frame (ite_fst (g1.frame.trans (dframe_initRecord _ _)) g1.frame)

theorem fillAttr_nD (h : H) (x s d k : Nat) : (fillAttr h x s d k).nD = h.nD := by
  unfold fillAttr; split <;> rfl

theorem dframe_fillAttr {h0 h : H} (g : DFrame h0 h) (x s d k : Nat) (hd : h0.nD ≤ d) :
    DFrame h0 (fillAttr h x s d k) := by
  unfold fillAttr
  split
  · rename_i v _ _
    exact dframe_updD (g.trans (dsame_updAttrs h x (fun l => l.set k v)).frame) _ _ hd
  · exact g

theorem dsame_takeBack (x : Nat) : ∀ (l : List (Nat × String)) (h : H), DSame h (takeBack h x l) := by
  intro l
  induction l with
  | nil => intro h; exact DSame.refl h
  | cons kv rest ih =>
    intro h
    obtain ⟨k, v⟩ := kv
    simp only [takeBack]
    split
    · exact (dsame_updAttrs h x (fun l => l.set k "None")).trans (ih _)
    · exact ih h

theorem dframe_mergeAttrs (h : H) (x s : Nat) (record : Bool) : DFrame h (mergeAttrs h x s record) := by
  unfold mergeAttrs
  simp only [allocD_ret]
  have g1 := dframe_allocD h (recOf h x)
  have g2 := dframe_fillAttr g1 x s h.nD defAttr (Nat.le_refl _)
  have g3 := dframe_fillAttr g2 x s h.nD refAttr (Nat.le_refl _)
  have n3 : (fillAttr (fillAttr (allocD h (recOf h x)).1 x s h.nD defAttr) x s h.nD refAttr).nD = h.nD + 1 := by
    rw [fillAttr_nD, fillAttr_nD]; rfl
  cases record with
  | false => simpa using g3
  | true =>
    simp only [if_true]
    have g4 := dframe_bind g3 x h.nD ⟨Nat.le_refl _, by rw [n3]; exact Nat.lt_succ_self _⟩
    exact g4.trans (dsame_updMerged _ x (some s)).frame

theorem dframe_unmergeAttrs (h : H) (x : Nat) : DFrame h (unmergeAttrs h x) := by
  unfold unmergeAttrs
  simp only [allocD_ret]
  have g1 := (dsame_takeBack x (recOf h x) h).frame
  have g2 := g1.trans (dframe_allocD (takeBack h x (recOf h x)) [])
  have hD : (takeBack h x (recOf h x)).nD = h.nD := (dsame_takeBack x (recOf h x) h).nD
  have g3 := dframe_bind g2 x (takeBack h x (recOf h x)).nD ⟨Nat.le_of_eq hD.symm, Nat.lt_succ_self _⟩
  exact g3.trans (dsame_updMerged _ x none).frame

/-- The frame lemma of the dicts: whatever the operation and its arguments, no dict that exists is
    written - every write binds a new one. -/
theorem step_dframe (h : H) (op : Op) : DFrame h (step h op).1 := by
  unfold step
  refine ite_fst (DFrame.refl h) (ite_fst (DFrame.refl h) ?_)
  · cases op with
    | clone x ch keep => exact (dsame_clone h x ch keep).frame
    | exportLeaf x => exact (dsame_exportLeaf h x).frame
    | getValues p => exact ((convertItems_spec (valsOf h p) h).toTupOnly.dsame.trans (dsame_allocV _ _)).frame
    | setValuesFrom p c => exact (dsame_setValuesItems h p _).frame
    | setValuesLits p vs => exact (dsame_setValuesLits h p vs).frame
    | appendValue p v =>
      exact (appendValue_cases (DSame.refl h) (dsame_setValuesLits h p [v])
        (fun c _ => dsame_litUpd h v c (fun items l => l ++ items))).frame
    | setValueAt p i v =>
      rw [optErr_fst]
      exact (setValueAt_cases (DSame.refl h) (fun c _ => dsame_litUpd h v c
        (fun items l => match items with | it :: _ => l.set i it | [] => l))).frame
    | setDtype p v => exact ((dsame_setAttr h p 0 v).trans (dsame_setValuesItems _ _ _)).frame
    | newList vs => exact ((litItems_tupOnly vs h).dsame.trans (dsame_allocV _ _)).frame
    | listAppend c v => exact (dsame_litUpd h v c (fun items l => l ++ items)).frame
    | listSet c i v =>
      rw [optErr_fst]
      exact DSame.frame (ite_fst (DSame.refl h) (dsame_litUpd h v c
        (fun items l => match items with | it :: _ => l.set i it | [] => l)))
    | listDel c i => rw [optErr_fst]; exact DSame.frame (ite_fst (DSame.refl h) (dsame_updV h c (fun l => l.eraseIdx i)))
    | listInnerSet c i j s => rw [optErr_fst]; exact (dsame_listInnerSet h c i j s).frame
    | valueInnerSet p i j s =>
      rw [optErr_fst]
      exact (valueInnerSet_cases (DSame.refl h) (fun c _ _ => dsame_listInnerSet h c i j s)).frame
    | newObj k name attrs vals => exact dframe_newObj h k name attrs vals
    | append p x => rw [optErr_fst]; exact (dsame_append h p x).frame
    | remove p x => rw [optErr_fst]; exact (remove_cases (DSame.refl h) (fun _ hr => dsame_removeChild hr)).frame
    | rename x new =>
      rw [optErr_fst]; exact (rename_cases (DSame.refl h) (dsame_updN h x _ (fun _ => rfl))).frame
    | setAttr x i v => exact (dsame_setAttr h x i v).frame
    | newId x => exact (dsame_newId h x).frame
    | mergeAttrs x s record =>
      rw [optErr_fst]
      exact mergeOp_cases (DFrame.refl h) (dframe_mergeAttrs h x s record)
    | unmergeAttrs x =>
      rw [optErr_fst]
      exact unmergeOp_cases (DFrame.refl h) (dframe_unmergeAttrs h x)

theorem run_dframe : ∀ (ops : List Op) (h : H), DFrame h (run h ops) := by
  intro ops
  induction ops with
  | nil => intro h; exact DFrame.refl h
  | cons op rest ih =>
    intro h
    have g := (step_dframe h op).trans (ih (step h op).1)
    simpa only [run, List.foldl_cons] using g

/-- Every record address is that of a dict that exists (cell 0 is the class attribute). -/
def DScoped (h : H) : Prop := 0 < h.nD ∧ ∀ a, (h.node a).mattrs < h.nD

theorem dscoped_empty : DScoped empty := ⟨by decide, fun _ => by show (default : Node).mattrs < 1; decide⟩

theorem DFrame.scoped {h h' : H} (g : DFrame h h') (s : DScoped h) : DScoped h' := by
  have m := g.mono
  refine ⟨Nat.lt_of_lt_of_le s.1 m, fun a => ?_⟩
  rcases g.addr a with e | ⟨b, e⟩ | ⟨_, e⟩
  · rw [e]; exact Nat.lt_of_lt_of_le s.1 m
  · rw [e]; exact Nat.lt_of_lt_of_le (s.2 b) m
  · exact e

theorem run_empty_dscoped (ops : List Op) : DScoped (run empty ops) := (run_dframe ops empty).scoped dscoped_empty

theorem recOf_run {h : H} (ops : List Op) (a : Nat) (ha : (h.node a).mattrs < h.nD)
    (hn : (run h ops).node a = h.node a) : recOf (run h ops) a = recOf h a := by
  unfold recOf
  rw [hn]
  exact (run_dframe ops h).same _ ha

theorem recOf_kept {h h' : H} (ds : DScoped h) (e : Ext h h') (d : DSame h h') (ops : List Op)
    (b : Below h (run h' ops)) (a : Nat) (ha : a < h.nN) : recOf (run h' ops) a = recOf h a := by
  have hn : (run h' ops).node a = h'.node a := by rw [b.1 a ha, e.node a ha]
  rw [recOf_run ops a (by rw [e.node a ha, d.nD]; exact ds.2 a) hn]
  unfold recOf
  rw [e.node a ha, d.dcell]

theorem recOf_block {h h' : H} (ds : DScoped h) (d : DSame h h') (ops : List Op)
    (bs : BlockSame h h' h' (run h' ops)) (a : Nat) (h1 : h.nN ≤ a) (h2 : a < h'.nN) :
    recOf (run h' ops) a = recOf h' a :=
  recOf_run ops a ((d.frame.scoped ds).2 a) (bs.1 a h1 h2)

def attrOf (as : List String) (k : Nat) : Option String :=
  match as[k]? with
  | some v => if v = "None" then none else some v
  | none => none

theorem ownAttr_eq (h : H) (x k : Nat) : ownAttr h x k = attrOf (h.node x).attrs k := rfl

/-- `takeBack` on the attribute list alone. -/
def takeBackL : List String → List (Nat × String) → List String
  | as, [] => as
  | as, (k, v) :: rest => takeBackL (if attrOf as k = some v then as.set k "None" else as) rest

theorem takeBack_node (x : Nat) : ∀ (l : List (Nat × String)) (h : H),
    (takeBack h x l).node x = { h.node x with attrs := takeBackL (h.node x).attrs l } := by
  intro l
  induction l with
  | nil => intro h; rfl
  | cons kv rest ih =>
    intro h
    obtain ⟨k, v⟩ := kv
    by_cases hc : attrOf (h.node x).attrs k = some v
    · simp only [takeBack, takeBackL, ownAttr_eq, hc, if_true]
      rw [ih]; simp [updN_same]
    · simp only [takeBack, takeBackL, ownAttr_eq, hc, if_false]
      rw [ih]

theorem unmergeAttrs_attrs (h : H) (x : Nat) :
    ((unmergeAttrs h x).node x).attrs = takeBackL (h.node x).attrs (recOf h x) := by
  unfold unmergeAttrs
  simp only [updN_same, allocD_node, takeBack_node]

def fillL (as ts : List String) (k : Nat) : List String :=
  match attrOf as k, attrOf ts k with
  | none, some v => as.set k v
  | _, _ => as

def fillR (r : List (Nat × String)) (as ts : List String) (k : Nat) : List (Nat × String) :=
  match attrOf as k, attrOf ts k with
  | none, some v => dictSet r k v
  | _, _ => r

theorem fillAttr_spec (h : H) (x s d k : Nat) (hne : s ≠ x) :
    (fillAttr h x s d k).node x = { h.node x with attrs := fillL (h.node x).attrs (h.node s).attrs k } ∧
    (fillAttr h x s d k).node s = h.node s ∧
    (fillAttr h x s d k).dcell d = fillR (h.dcell d) (h.node x).attrs (h.node s).attrs k := by
  cases hx : attrOf (h.node x).attrs k <;> cases hs : attrOf (h.node s).attrs k <;>
    simp [fillAttr, fillL, fillR, ownAttr_eq, hx, hs, updN_same, updN_other _ _ _ _ hne, updD_dcell]

theorem mergeAttrs_spec (h : H) (x s : Nat) (hne : s ≠ x) :
    ((mergeAttrs h x s true).node x).attrs =
      fillL (fillL (h.node x).attrs (h.node s).attrs defAttr) (h.node s).attrs refAttr ∧
    recOf (mergeAttrs h x s true) x =
      fillR (fillR (recOf h x) (h.node x).attrs (h.node s).attrs defAttr)
        (fillL (h.node x).attrs (h.node s).attrs defAttr) (h.node s).attrs refAttr := by
  obtain ⟨a1, a2, a3⟩ := fillAttr_spec (allocD h (recOf h x)).1 x s h.nD defAttr hne
  obtain ⟨b1, b2, b3⟩ := fillAttr_spec (fillAttr (allocD h (recOf h x)).1 x s h.nD defAttr) x s h.nD refAttr hne
  have d0 : (allocD h (recOf h x)).1.dcell h.nD = recOf h x := by simp [allocD_dcell]
  simp only [recOf, allocD_node] at a1 a2 a3 b1 b2 b3 d0
  simp only [mergeAttrs, allocD_ret, if_true, recOf, updN_same, updN_dcell]
  rw [b1, b3, a1, a2, a3, d0]
  exact ⟨rfl, rfl⟩

end Clone
