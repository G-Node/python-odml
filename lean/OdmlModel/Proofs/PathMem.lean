/-
What the queue loop of `itersections` visits: the entries of the initial queue and every valid
position below them whose depth is within `max_depth` (`mem_bfs`).
-/
import OdmlModel.Proofs.PathIter

namespace Path
open PathTree

/-- the Section reached from `s` through a relative position (`[]` is `s` itself) -/
def secBelow (s : Sec) (r : Pos) : Option Sec :=
  match r with
  | [] => some s
  | _ => secAt s.subs r

theorem secBelow_nil (s : Sec) : secBelow s [] = some s := rfl

theorem secAt_eq_secBelow (l : List Sec) (i : Nat) (r : Pos) :
    secAt l (i :: r) = (l[i]?).bind (fun c => secBelow c r) := by
  cases r with
  | nil => cases h : l[i]? <;> simp [secBelow, secAt, h]
  | cons k t => exact secAt_cons_cons ..

theorem secBelow_cons (s : Sec) (j : Nat) (r : Pos) :
    secBelow s (j :: r) = (s.subs[j]?).bind (fun c => secBelow c r) :=
  secAt_eq_secBelow s.subs j r

theorem secAt_append_eq_secBelow {l : List Sec} {p : Pos} {s : Sec} (h : secAt l p = some s)
    (r : Pos) : secAt l (p ++ r) = secBelow s r := by
  cases r with
  | nil => simpa [secBelow] using h
  | cons k t => exact secAt_append _ _ _ _ (by simp) (kidsAt_of_secAt _ _ _ h)

/-- `max_depth` admits depth `k` (relative to the start) -/
def withinDepth (md : Option Int) (k : Nat) : Prop :=
  match md with
  | none => True
  | some m => (k : Int) ≤ m

theorem withinDepth_succ (md : Option Int) (lvl n : Nat) :
    withinDepth md (lvl + (n + 1)) ↔
      expands md lvl = true ∧ (n = 0 ∨ withinDepth md (lvl + 1 + n)) := by
  cases md with
  | none => simp [withinDepth, expands]
  | some m => simp only [withinDepth, expands, decide_eq_true_eq]; omega

/-- `e` is the entry for the Section at `r` below the entry `x`, within `max_depth` -/
def ReachVia (md : Option Int) (x e : Entry) (r : Pos) : Prop :=
  ∃ t, secBelow x.2.1 r = some t ∧ e = (x.1 ++ r, t, x.2.2 + r.length) ∧
    (r = [] ∨ withinDepth md (x.2.2 + r.length))

theorem reachVia_nil (md : Option Int) (x e : Entry) : ReachVia md x e [] ↔ e = x := by
  simp [ReachVia, secBelow]

theorem reachVia_cons (md : Option Int) (x e : Entry) (j : Nat) (r : Pos) :
    ReachVia md x e (j :: r) ↔
      ∃ y ∈ pushed md x, y.1 = x.1 ++ [j] ∧ ReachVia md y e r := by
  simp only [ReachVia, secBelow_cons, mem_pushed, List.length_cons, withinDepth_succ,
    List.length_eq_zero_iff, reduceCtorEq, false_or]
  constructor
  · rintro ⟨t, ht, rfl, hx, hd⟩
    obtain ⟨s, hj, ht⟩ := Option.bind_eq_some_iff.1 ht
    exact ⟨_, ⟨hx, j, s, hj, rfl⟩, rfl, t, ht, by simp [Nat.add_assoc, Nat.add_comm 1], hd⟩
  · rintro ⟨_, ⟨hx, j', s, hj, rfl⟩, hy, t, ht, rfl, hd⟩
    obtain rfl : j' = j := by simpa using hy
    exact ⟨t, by simp [hj, ht], by simp [Nat.add_assoc, Nat.add_comm 1], hx, hd⟩

/-- visited = reachable from a queue entry; along `bfs.induct` a pushed child `y` of `x` at `j`
    turns `ReachVia y e r` into `ReachVia x e (j :: r)` -/
theorem mem_bfs (md : Option Int) (q : List Entry) (e : Entry) :
    e ∈ bfs md q ↔ ∃ x ∈ q, ∃ r, ReachVia md x e r := by
  induction q using bfs.induct md with
  | case1 => simp [bfs_nil]
  | case2 e0 q ih =>
    rw [bfs_cons, List.mem_cons, ih]
    constructor
    · rintro (rfl | ⟨x, hx, r, hr⟩)
      · exact ⟨e, by simp, [], (reachVia_nil ..).2 rfl⟩
      · rcases List.mem_append.1 hx with hx | hx
        · exact ⟨x, by simp [hx], r, hr⟩
        · obtain ⟨_, j, s, _, rfl⟩ := (mem_pushed ..).1 hx
          exact ⟨e0, by simp, j :: r, (reachVia_cons ..).2 ⟨_, hx, rfl, hr⟩⟩
    · rintro ⟨x, hx, r, hr⟩
      rcases List.mem_cons.1 hx with rfl | hx
      · cases r with
        | nil => exact .inl ((reachVia_nil ..).1 hr)
        | cons j r =>
          obtain ⟨y, hy, _, h⟩ := (reachVia_cons ..).1 hr
          exact .inr ⟨y, by simp [hy], r, h⟩
      · exact .inr ⟨x, by simp [hx], r, hr⟩

theorem mem_filter_map_fst {α β : Type} (l : List (α × β)) (g : α × β → Bool) (p : α) :
    p ∈ (l.filter g).map (·.1) ↔ ∃ e ∈ l, g e = true ∧ e.1 = p := by
  simp only [List.mem_map, List.mem_filter]
  exact ⟨fun ⟨e, ⟨h1, h2⟩, h3⟩ => ⟨e, h1, h2, h3⟩, fun ⟨e, h1, h2, h3⟩ => ⟨e, ⟨h1, h2⟩, h3⟩⟩

theorem bfs_valid (d : Doc) (start : Pos) (md : Option Int) :
    ∀ e ∈ bfs md (initialQueue d start md), secAt d.secs e.1 = some e.2.1 := by
  intro e he
  obtain ⟨x, hx, r, t, ht, rfl, _⟩ := (mem_bfs ..).1 he
  suffices h : secAt d.secs x.1 = some x.2.1 by rw [secAt_append_eq_secBelow h]; exact ht
  cases start with
  | nil =>
    rw [initialQueue_document] at hx
    obtain ⟨_, j, s, hj, rfl⟩ := (mem_pushed ..).1 hx
    simpa [secAt, docEntry] using hj
  | cons i p =>
    simp only [initialQueue] at hx
    split at hx
    · rename_i s hs
      obtain rfl := List.mem_singleton.1 hx
      exact hs
    · simp at hx

theorem mem_propsOf (p : Pos) (f : PropT → Bool) (i : Nat) (l : List PropT) (x : Pos × Nat) :
    x ∈ propsOf p f i l ↔ x.1 = p ∧ ∃ j pr, l[j]? = some pr ∧ x.2 = i + j ∧ f pr = true := by
  have := mem_walk (g := propsOf p f) (h := fun i pr => if f pr then [(p, i)] else [])
    (fun _ => rfl) (fun _ _ _ => rfl) i l x
  simp only [List.mem_ite_nil_right, List.mem_singleton] at this
  rw [this]
  constructor
  · rintro ⟨j, pr, hj, hf, rfl⟩; exact ⟨rfl, j, pr, hj, rfl, hf⟩
  · rintro ⟨h1, j, pr, hj, h2, hf⟩; exact ⟨j, pr, hj, hf, Prod.ext h1 h2⟩

theorem propsOf_pairwise (p : Pos) (f : PropT → Bool) (i : Nat) (l : List PropT) :
    (propsOf p f i l).Pairwise (fun a b => a.1.length ≤ b.1.length ∧ a ≠ b) := by
  refine pairwise_walk (g := propsOf p f) (h := fun i pr => if f pr then [(p, i)] else [])
    (fun _ => rfl) (fun _ _ _ => rfl) (fun _ _ => by split <;> simp) ?_ i l
  intro i j s t hij a ha b hb
  simp only [List.mem_ite_nil_right, List.mem_singleton] at ha hb
  rw [ha.2, hb.2]
  simp; omega

theorem iterproperties_pairwise (d : Doc) (start : Pos) (md : Option Int) (f : PropT → Bool) :
    (iterproperties d start md f).Pairwise (fun a b => a.1.length ≤ b.1.length ∧ a ≠ b) := by
  unfold iterproperties
  refine List.pairwise_flatMap.2 ⟨fun e _ => propsOf_pairwise ..,
    (bfs_initialQueue_pairwise d start md).imp ?_⟩
  intro a b hab x hx y hy
  rw [mem_propsOf] at hx hy
  refine ⟨?_, ?_⟩
  · rw [hx.1, hy.1]
    exact hab.1
  · intro h
    apply hab.2
    rw [← hx.1, ← hy.1, h]

end Path
