/-
C17 — Batch conversion tools never touch their inputs and isolate bad files.

  "Running odmlconvert, odmltordf or the format converter over a directory leaves every input
   file byte-identical and writes only into a newly created (or the explicitly given, distinct)
   output location. […] For the two command line tools a file that is empty, not XML, not odML
   or otherwise unconvertible is reported and skipped without stopping the run, so every
   convertible file still gets its output."

Lemmas about the model: `Proofs/Batch.lean`.
Model: `Model/Batch.lean` (tied to the repository by `harness/c17.py`).

Every theorem holds for an arbitrary `Tool` (what loading / converting / exporting one file
does, including every way of failing), an arbitrary list of input paths (any order, nesting and
mixture of good and bad files) and an arbitrary file system.
-/
import OdmlModel.Proofs.Batch

namespace C17
open FS Batch

/-- `p` lies in directory `dir` (given without trailing slash) or below. -/
def Under (dir p : Path) : Prop := ∃ rest, p = dir ++ '/' :: rest

/-- `tempfile.mkdtemp`: nothing exists under the new directory. -/
def Fresh (fs : Fs) (dir : Path) : Prop := ∀ p, Under dir p → fs p = none

theorem convOut_under (outDir f : Path) : Under outDir (convOut outDir f) := ⟨_, rfl⟩
theorem rdfOut_under (rdfDir src : Path) : Under rdfDir (rdfOut rdfDir src) := ⟨_, rfl⟩

theorem under_trans {a b p : Path} (hab : Under a b) (hbp : Under b p) : Under a p := by
  obtain ⟨r1, rfl⟩ := hab
  obtain ⟨r2, rfl⟩ := hbp
  exact ⟨r1 ++ '/' :: r2, by simp [List.append_assoc]⟩

theorem convOuts_under (outDir f : Path) : ∀ p ∈ convOuts outDir f, Under outDir p :=
  fun _ hp => mem_convOuts.mp hp ▸ convOut_under outDir f

theorem rdfOuts_under {outDir rdfDir : Path} (hr : Under outDir rdfDir) (f : Path) :
    ∀ p ∈ rdfOuts outDir rdfDir f, Under outDir p := by
  simp [rdfOuts, convOut_under, under_trans hr (rdfOut_under _ _)]

/-! For any loop body confined to a fresh output directory; the two command line tools are the
instances `convStep_isolated` and `rdfStep_isolated`. -/

theorem loop_changed_under {step : Step} {outs : Path → List Path} {outDir : Path}
    (hu : ∀ f, ∀ p ∈ outs f, Under outDir p) (h : Confined step outs) (files : List Path) (fs : Fs)
    (p : Path) (hne : (loop step files fs).1 p ≠ fs p) :
    (∃ f ∈ files, p ∈ outs f) ∧ Under outDir p := by
  obtain ⟨f, hf, hp⟩ : ∃ f ∈ files, p ∈ outs f := Classical.byContradiction fun hn =>
    hne (loop_frame h files fs p fun g hg hp => hn ⟨g, hg, hp⟩)
  exact ⟨⟨f, hf, hp⟩, hu f p hp⟩

theorem loop_keeps_existing {step : Step} {outs : Path → List Path} {outDir : Path}
    (hu : ∀ f, ∀ p ∈ outs f, Under outDir p) (h : Confined step outs) (files : List Path) (fs : Fs)
    (hfresh : Fresh fs outDir) (p : Path) (hp : fs p ≠ none) : (loop step files fs).1 p = fs p :=
  Classical.byContradiction fun hne =>
    hp (hfresh p (loop_changed_under hu h files fs p hne).2)

theorem loop_isolation_fresh {step : Step} {outs : Path → List Path} {outDir : Path}
    (hu : ∀ f, ∀ p ∈ outs f, Under outDir p) (h : Isolated step outs) (files : List Path) (fs : Fs)
    (nd : files.Nodup) (hfresh : Fresh fs outDir) (f : Path) (hf : f ∈ files) (hex : fs f ≠ none)
    (hdis : ∀ g ∈ files, g ≠ f → ∀ p ∈ outs f, p ∉ outs g) :
    ∀ p ∈ outs f, (loop step files fs).1 p = (step f fs).1 p :=
  loop_isolation h files nd f hf (fun g _ _ hm => hex (hfresh f (hu g f hm))) hdis fs

/-- odmlconvert: whatever the files are and however loading or converting them fails, the run
    goes through all of them and reports once per file. -/
theorem batch_never_raises_convert (T : Tool) (outDir : Path) (files : List Path) (fs : Fs) :
    ∃ rs, (loop (convStep T outDir) files fs).2 = .ok rs ∧ rs.length = files.length :=
  loop_total (convStep_isolated T outDir) files fs

/-- odmltordf: the same, with its three nested `try` levels. -/
theorem batch_never_raises_rdf (T : Tool) (outDir rdfDir : Path) (files : List Path) (fs : Fs) :
    ∃ rs, (loop (rdfStep T outDir rdfDir) files fs).2 = .ok rs ∧ rs.length = files.length :=
  loop_total (rdfStep_isolated T outDir rdfDir) files fs

/-- odmlconvert changes a path only if it is `<outDir>/<stem>_conv.xml` of one of the files. -/
theorem batch_outputs_only_in_out_convert (T : Tool) (outDir : Path) (files : List Path) (fs : Fs)
    (p : Path) (h : (loop (convStep T outDir) files fs).1 p ≠ fs p) :
    (∃ f ∈ files, p = convOut outDir f) ∧ Under outDir p := by
  obtain ⟨⟨f, hf, hp⟩, hu⟩ := loop_changed_under (convOuts_under outDir)
    (convStep_isolated T outDir).toConfined files fs p h
  exact ⟨⟨f, hf, mem_convOuts.mp hp⟩, hu⟩

/-- odmltordf changes a path only if it is one of the two output paths (`<out>/<stem>_conv.xml`,
    `<rdf>/<stem>.rdf`) of one of the files: all under the out directory when the RDF directory is
    created inside it. -/
theorem batch_outputs_only_in_out_rdf (T : Tool) (outDir rdfDir : Path) (hr : Under outDir rdfDir)
    (files : List Path) (fs : Fs) (p : Path)
    (h : (loop (rdfStep T outDir rdfDir) files fs).1 p ≠ fs p) :
    (∃ f ∈ files, p ∈ rdfOuts outDir rdfDir f) ∧ Under outDir p :=
  loop_changed_under (rdfOuts_under hr) (rdfStep_isolated T outDir rdfDir).toConfined files fs p h

/-- With a freshly made output directory, **every file that existed before the run** — the
    inputs in particular — **is byte-identical afterwards** (odmlconvert). -/
theorem batch_inputs_unchanged_convert (T : Tool) (outDir : Path) (files : List Path) (fs : Fs)
    (hfresh : Fresh fs outDir) (p : Path) (hp : fs p ≠ none) :
    (loop (convStep T outDir) files fs).1 p = fs p :=
  loop_keeps_existing (convOuts_under outDir) (convStep_isolated T outDir).toConfined files fs
    hfresh p hp

/-- … and odmltordf. -/
theorem batch_inputs_unchanged_rdf (T : Tool) (outDir rdfDir : Path) (hr : Under outDir rdfDir)
    (files : List Path) (fs : Fs) (hfresh : Fresh fs outDir) (p : Path) (hp : fs p ≠ none) :
    (loop (rdfStep T outDir rdfDir) files fs).1 p = fs p :=
  loop_keeps_existing (rdfOuts_under hr) (rdfStep_isolated T outDir rdfDir).toConfined files fs
    hfresh p hp

/-- odmlconvert: for any list of distinct files with distinct base names, in any order, and a
    fresh output directory: what the run leaves at `f`'s output path is exactly what converting
    `f` alone would leave there — whatever the other files are and wherever they stand. -/
theorem batch_isolation_convert (T : Tool) (outDir : Path) (files : List Path) (fs : Fs)
    (nd : files.Nodup) (hfresh : Fresh fs outDir) (hex : ∀ g ∈ files, fs g ≠ none)
    (f : Path) (hf : f ∈ files) (hstem : ∀ g ∈ files, g ≠ f → stem g ≠ stem f) :
    (loop (convStep T outDir) files fs).1 (convOut outDir f) =
      (convStep T outDir f fs).1 (convOut outDir f) :=
  loop_isolation_fresh (convOuts_under outDir) (convStep_isolated T outDir) files fs nd hfresh f hf
    (hex f hf)
    (fun g hg hgf _ hp hpg => hstem g hg hgf (convOut_inj outDir g f
      ((mem_convOuts.mp hpg).symm.trans (mem_convOuts.mp hp))))
    _ (mem_convOuts.mpr rfl)

/-- In the words of the property: every file that is convertible alone (it does not load as a
    current-version document and the version converter yields a document `d`) has its output,
    holding `d`, after the batch. -/
theorem convertible_file_gets_output (T : Tool) (outDir : Path) (files : List Path) (fs : Fs)
    (nd : files.Nodup) (hfresh : Fresh fs outDir) (hex : ∀ g ∈ files, fs g ≠ none)
    (f : Path) (hf : f ∈ files) (hstem : ∀ g ∈ files, g ≠ f → stem g ≠ stem f)
    (d : Bytes) (hl : T.loads f (fs f) = false) (hc : T.convert f (fs f) = .ok (some d)) :
    (loop (convStep T outDir) files fs).1 (convOut outDir f) = some d := by
  rw [batch_isolation_convert T outDir files fs nd hfresh hex f hf hstem]
  simp [conv_spec, convWrites, hl, hc, applyWrites]

/-- odmltordf: the same for each of `f`'s two output paths, provided no other file's output
    paths coincide with `f`'s (distinct base names are enough for that, see
    `batch_isolation_rdf_base_names`; with `rdfStepLegacy` they are not, see
    `legacy_rdf_name_collision`). -/
theorem batch_isolation_rdf (T : Tool) (outDir rdfDir : Path) (hr : Under outDir rdfDir)
    (files : List Path) (fs : Fs)
    (nd : files.Nodup) (hfresh : Fresh fs outDir) (hex : ∀ g ∈ files, fs g ≠ none)
    (f : Path) (hf : f ∈ files)
    (hdis : ∀ g ∈ files, g ≠ f → ∀ p ∈ rdfOuts outDir rdfDir f, p ∉ rdfOuts outDir rdfDir g)
    (p : Path) (hp : p ∈ rdfOuts outDir rdfDir f) :
    (loop (rdfStep T outDir rdfDir) files fs).1 p = (rdfStep T outDir rdfDir f fs).1 p :=
  loop_isolation_fresh (rdfOuts_under hr) (rdfStep_isolated T outDir rdfDir) files fs nd hfresh
    f hf (hex f hf) hdis p hp

/-- odmltordf, in the vocabulary of the property: distinct files with distinct base names (exactly
    the hypothesis of odmlconvert), RDF directory made inside the fresh out directory — then what
    the batch leaves at each of `f`'s output paths is what processing `f` alone leaves. -/
theorem batch_isolation_rdf_base_names (T : Tool) (outDir r : Path) (files : List Path) (fs : Fs)
    (nd : files.Nodup) (hfresh : Fresh fs outDir) (hex : ∀ g ∈ files, fs g ≠ none)
    (f : Path) (hf : f ∈ files) (hstem : ∀ g ∈ files, g ≠ f → stem g ≠ stem f)
    (p : Path) (hp : p ∈ rdfOuts outDir (outDir ++ '/' :: r) f) :
    (loop (rdfStep T outDir (outDir ++ '/' :: r)) files fs).1 p =
      (rdfStep T outDir (outDir ++ '/' :: r) f fs).1 p :=
  batch_isolation_rdf T outDir _ ⟨r, rfl⟩ files fs nd hfresh hex f hf
    (fun g hg hgf => rdfOuts_disjoint outDir r f g (fun h => hstem g hg hgf h.symm)) p hp

/-- … so a current-version file that exports alone to `d` has `<rdf dir>/<stem>.rdf = d` after the
    batch, whatever else is in the list. -/
theorem exportable_file_gets_rdf (T : Tool) (outDir r : Path) (files : List Path) (fs : Fs)
    (nd : files.Nodup) (hfresh : Fresh fs outDir) (hex : ∀ g ∈ files, fs g ≠ none)
    (f : Path) (hf : f ∈ files) (hstem : ∀ g ∈ files, g ≠ f → stem g ≠ stem f)
    (d : Bytes) (hl : T.loads f (fs f) = true) (hd : T.render f (fs f) = .ok d) :
    (loop (rdfStep T outDir (outDir ++ '/' :: r)) files fs).1 (rdfOut (outDir ++ '/' :: r) f) =
      some d := by
  rw [batch_isolation_rdf_base_names T outDir r files fs nd hfresh hex f hf hstem _
        (by simp [rdfOuts])]
  simp [rdf_spec, rdfWrites, hl, hd, applyWrites]

/-- … and an old-version file that converts alone to `d`, which exports to `d2`, has both
    `<out dir>/<stem>_conv.xml = d` and `<rdf dir>/<stem>.rdf = d2` after the batch, whatever else
    is in the list — a current-version file named `<stem>_conv` included. -/
theorem converted_file_gets_rdf (T : Tool) (outDir r : Path) (files : List Path) (fs : Fs)
    (nd : files.Nodup) (hfresh : Fresh fs outDir) (hex : ∀ g ∈ files, fs g ≠ none)
    (f : Path) (hf : f ∈ files) (hstem : ∀ g ∈ files, g ≠ f → stem g ≠ stem f)
    (d d2 : Bytes) (hl : T.loads f (fs f) = false) (hc : T.convert f (fs f) = .ok (some d))
    (hd : T.render (convOut outDir f) (some d) = .ok d2) :
    (loop (rdfStep T outDir (outDir ++ '/' :: r)) files fs).1 (convOut outDir f) = some d ∧
    (loop (rdfStep T outDir (outDir ++ '/' :: r)) files fs).1 (rdfOut (outDir ++ '/' :: r) f) =
      some d2 := by
  have hne : rdfOut (outDir ++ '/' :: r) f ≠ convOut outDir f :=
    fun h => convOut_ne_rdfOut outDir r f f h.symm
  have iso := batch_isolation_rdf_base_names T outDir r files fs nd hfresh hex f hf hstem
  rw [iso _ (by simp [rdfOuts]), iso _ (by simp [rdfOuts])]
  simp [rdf_spec, rdfWrites, viaWrites, hl, hc, hd, applyWrites, write_other _ _ _ _ hne.symm]

/-- `rdfStepLegacy` names the RDF export of a converted file `<stem>_conv.rdf`: an
    old-version file `a.xml` and a current-version file `a_conv.xml` have distinct base names and
    yet shared the output path `a_conv.rdf`; whichever came last won (both orders shown), the
    other file was left without its RDF output. -/
theorem legacy_rdf_name_collision :
    let T : Tool := { loads := fun _ c => c == some "CUR".toList,
                      convert := fun _ c => if c == some "OLD".toList then .ok (some "CONV".toList)
                                            else .error .valueError,
                      render := fun _ c => if c == some "CUR".toList then .ok "RDF-CUR".toList
                                           else if c == some "CONV".toList then .ok "RDF-OLD".toList
                                           else .error .valueError }
    let fs := Fs.ofList [("in/a.xml".toList, "OLD".toList), ("in/a_conv.xml".toList, "CUR".toList)]
    let r1 := loop (rdfStepLegacy T "o".toList "o/r".toList)
                ["in/a.xml".toList, "in/a_conv.xml".toList] fs
    let r2 := loop (rdfStepLegacy T "o".toList "o/r".toList)
                ["in/a_conv.xml".toList, "in/a.xml".toList] fs
    stem "in/a.xml".toList ≠ stem "in/a_conv.xml".toList ∧
    rdfOut "o/r".toList (convOut "o".toList "in/a.xml".toList) =
      rdfOut "o/r".toList "in/a_conv.xml".toList ∧
    r1.1 "o/r/a_conv.rdf".toList = some "RDF-CUR".toList ∧ r1.1 "o/r/a.rdf".toList = none ∧
    r2.1 "o/r/a_conv.rdf".toList = some "RDF-OLD".toList ∧ r2.1 "o/r/a.rdf".toList = none := by
  decide +kernel

/-- The same two runs after the fix: each file has its own RDF output, in both orders. -/
theorem fixed_rdf_name_witness :
    let T : Tool := { loads := fun _ c => c == some "CUR".toList,
                      convert := fun _ c => if c == some "OLD".toList then .ok (some "CONV".toList)
                                            else .error .valueError,
                      render := fun _ c => if c == some "CUR".toList then .ok "RDF-CUR".toList
                                           else if c == some "CONV".toList then .ok "RDF-OLD".toList
                                           else .error .valueError }
    let fs := Fs.ofList [("in/a.xml".toList, "OLD".toList), ("in/a_conv.xml".toList, "CUR".toList)]
    let r1 := loop (rdfStep T "o".toList "o/r".toList)
                ["in/a.xml".toList, "in/a_conv.xml".toList] fs
    let r2 := loop (rdfStep T "o".toList "o/r".toList)
                ["in/a_conv.xml".toList, "in/a.xml".toList] fs
    r1.1 "o/r/a.rdf".toList = some "RDF-OLD".toList ∧
    r1.1 "o/r/a_conv.rdf".toList = some "RDF-CUR".toList ∧
    r2.1 "o/r/a.rdf".toList = some "RDF-OLD".toList ∧
    r2.1 "o/r/a_conv.rdf".toList = some "RDF-CUR".toList ∧
    r1.1 "o/a_conv.xml".toList = some "CONV".toList := by
  decide +kernel

/-- `convertible_file_gets_output`'s hypotheses can be met. -/
example : ∃ (T : Tool) (fs : Fs), Fresh fs "o".toList ∧ fs "in/a.xml".toList ≠ none ∧
    T.loads "in/a.xml".toList (fs "in/a.xml".toList) = false ∧
    T.convert "in/a.xml".toList (fs "in/a.xml".toList) = .ok (some "D".toList) :=
  ⟨{ loads := fun _ _ => false, convert := fun _ _ => .ok (some "D".toList),
     render := fun _ _ => .error .valueError },
   fun p => if p = "in/a.xml".toList then some "OLD".toList else none,
   by
     intro p hp
     obtain ⟨r, rfl⟩ := hp
     simp,
   by simp, rfl, rfl⟩

/-- One `(dir_path, file_name)` produced by `os.walk(input_dir)`: the directory starts with the
    input directory, the remainder does not start with a separator, the file name has none. -/
def WalkEntry (inDir : Path) (e : Path × List Char) : Prop :=
  ∃ rel, e.1 = inDir ++ rel ∧ rel.head? ≠ some '/' ∧ '/' ∉ e.2

/-- The output directory of a walked directory is the output root followed by the part of the
    path below the input root: a plain prefix replacement, for **every** directory name
    (`ho`: `os.path.join(output_dir, '')`). -/
theorem convert_dir_mapping (inDir outDir rel : Path) (ho : outDir.getLast? = some '/')
    (hr : rel.head? ≠ some '/') : mapDir inDir outDir (inDir ++ rel) = outDir ++ rel := by
  simp [mapDir, pyJoin, hr, ho]

/-- Every path `convert_dir` writes to starts with the output directory, for all three kinds of
    target format and whatever extension juggling `_convert_file` does. -/
theorem convert_dir_output_under_out (fmt : ResFormat) (outDir rel name : Path)
    (ho : outDir.getLast? = some '/') (hn : '/' ∉ name) :
    outDir <+: outName fmt (pyJoin (outDir ++ rel) name) := by
  obtain ⟨pre, hX, hp⟩ := pyJoin_rel (outDir ++ rel) name
    (by intro h; simp [List.append_eq_nil_iff.mp h] at ho)
    (fun h => hn (List.mem_of_mem_head? h))
  rw [hX]
  exact ((List.prefix_append _ _).trans hp).trans (outName_prefix fmt pre name hn)

/-- The run changes nothing but the output paths of the walked entries — also when it is cut
    short by a file that cannot be converted. -/
theorem convert_dir_frame (T : Tool) (fmt : ResFormat) (mapd : Path → Path)
    (entries : List (Path × List Char)) (fs : Fs) (p : Path)
    (hp : ∀ e ∈ entries, p ≠ outName fmt (pyJoin (mapd e.1) e.2)) :
    (convertDirLoop T fmt mapd entries fs).1 p = fs p :=
  convertDirLoop_other T fmt mapd entries fs p hp

/-- **convert_dir writes only into the output location** (any directory names, any nesting,
    any target format, with or without an abort), … -/
theorem batch_outputs_only_in_out_convert_dir (T : Tool) (fmt : ResFormat) (inDir outDir : Path)
    (ho : outDir.getLast? = some '/') (entries : List (Path × List Char))
    (hw : ∀ e ∈ entries, WalkEntry inDir e) (fs : Fs) (p : Path)
    (h : (convertDirLoop T fmt (mapDir inDir outDir) entries fs).1 p ≠ fs p) : outDir <+: p := by
  apply Classical.byContradiction
  intro hn
  apply h
  apply convert_dir_frame
  intro e he hpe
  obtain ⟨rel, h1, h2, h3⟩ := hw e he
  rw [h1, convert_dir_mapping inDir outDir rel ho h2] at hpe
  exact hn (hpe ▸ convert_dir_output_under_out fmt outDir rel e.2 ho h3)

/-- … hence **every file outside the output directory — every input, when the output location is
    distinct — is byte-identical afterwards**. -/
theorem batch_inputs_unchanged_convert_dir (T : Tool) (fmt : ResFormat) (inDir outDir : Path)
    (ho : outDir.getLast? = some '/') (entries : List (Path × List Char))
    (hw : ∀ e ∈ entries, WalkEntry inDir e) (fs : Fs) (p : Path) (hp : ¬ outDir <+: p) :
    (convertDirLoop T fmt (mapDir inDir outDir) entries fs).1 p = fs p := by
  apply Classical.byContradiction
  intro h
  exact hp (batch_outputs_only_in_out_convert_dir T fmt inDir outDir ho entries hw fs p h)

/-- Without an explicit output directory `convert_dir` makes up `<root>/<name>_<format>` for the
    input directory `<root>/<name>` (model of `dirname`/`basename`/`join`), … -/
theorem implicit_output_location (root name fmt : List Char) (hr1 : root ≠ [])
    (hr2 : root.getLast? ≠ some '/') (hn1 : name ≠ []) (hn2 : '/' ∉ name) (trailing : Bool) :
    implicitOutDir (root ++ '/' :: name ++ (if trailing then ['/'] else [])) fmt =
      root ++ '/' :: (name ++ '_' :: fmt) := by
  have hne : root ++ '/' :: name ≠ [] := by simp
  have hlast : (root ++ '/' :: name).getLast? ≠ some '/' := by
    cases name with
    | nil => exact absurd rfl hn1
    | cons c cs =>
      rw [List.getLast?_append, List.getLast?_cons_cons]
      exact fun h => hn2 (List.mem_of_getLast? (by simpa using h))
  -- input_dir = os.path.join(input_dir, '')
  have hin : pyJoin (root ++ '/' :: name ++ (if trailing then ['/'] else [])) [] =
      (root ++ '/' :: name) ++ ['/'] := by
    cases trailing
    · simpa using pyJoin_plain _ [] hne hlast (by simp)
    · exact pyJoin_empty_slash _
  have hhead : (name ++ '_' :: fmt).head? ≠ some '/' := by
    cases name with
    | nil => exact absurd rfl hn1
    | cons c cs => simpa using fun h : c = '/' => hn2 (h ▸ List.mem_cons_self)
  simp only [implicitOutDir, hin, dirname_join _ [] hne hlast (by simp),
    dirname_join root name hr1 hr2 hn2, basename_join root name hn2, pyJoin_plain root _ hr1 hr2 hhead]

/-- … a location distinct from the input tree: **nothing at or below the input directory
    changes** when the output directory is the made-up one, for any directory name. -/
theorem batch_inputs_unchanged_convert_dir_implicit (T : Tool) (fmt : ResFormat)
    (root name fmtName : List Char) (hr1 : root ≠ []) (hr2 : root.getLast? ≠ some '/')
    (hn1 : name ≠ []) (hn2 : '/' ∉ name) (trailing : Bool)
    (entries : List (Path × List Char))
    (hw : ∀ e ∈ entries, WalkEntry ((root ++ '/' :: name) ++ ['/']) e) (fs : Fs) (rest : Path) :
    let outDir := implicitOutDir (root ++ '/' :: name ++ (if trailing then ['/'] else [])) fmtName ++ ['/']
    (convertDirLoop T fmt (mapDir ((root ++ '/' :: name) ++ ['/']) outDir) entries fs).1
        ((root ++ '/' :: name) ++ '/' :: rest) = fs ((root ++ '/' :: name) ++ '/' :: rest) := by
  intro outDir
  apply batch_inputs_unchanged_convert_dir T fmt _ outDir List.getLast?_concat entries hw
  show ¬ (implicitOutDir _ fmtName ++ ['/']) <+: _
  rw [implicit_output_location root name fmtName hr1 hr2 hn1 hn2 trailing]
  exact fun ⟨t, ht⟩ => by simp [List.append_assoc] at ht

example : WalkEntry "in+dir(1)/".toList ("in+dir(1)/sub".toList, "b.xml".toList) := by
  refine ⟨"sub".toList, ?_⟩
  -- literals become character lists by a lemma where that beats the kernel decoding them (also below)
  repeat rw [String.toList_ofList]
  decide +kernel

/-! ## convert_dir run again: each output holds the content of its source *as it is now*

"Each output loads as a current-version document (or parses as RDF) with the content of its
source" is a statement about the file system after the run, for **every** file system before it:
the output location may be the one of an earlier run (the explicitly given directory, or
`<input>_<format>`, which `convert_dir` reuses when it exists) and may hold results of earlier
runs, of other formats with the same file ending, or unrelated files, older or newer than the
sources; the sources may have been replaced since.  The model has no time stamps and no memory of
earlier runs because the code has none; the theorems say that nothing of the kind can matter. -/

/-- For every file system before the run: a completed run leaves at the output path of an entry
    what `_convert_file` makes **of the bytes the source holds now** (`cdData`, a function of the
    source path and its bytes only) — whatever the output path held before, provided the source
    is not itself an output path (distinct output location) and no other entry shares the output
    path (unique base names). -/
theorem convert_dir_output_current (T : Tool) (fmt : ResFormat) (mapd : Path → Path)
    (entries : List (Path × List Char)) (fs : Fs)
    (hok : (convertDirLoop T fmt mapd entries fs).2 = .ok ())
    (e : Path × List Char) (he : e ∈ entries)
    (hin : ∀ e' ∈ entries, cdIn e ≠ cdOut fmt mapd e')
    (hout : ∀ e' ∈ entries, e' ≠ e → cdOut fmt mapd e' ≠ cdOut fmt mapd e)
    (d : Bytes) (hd : cdData T fmt (cdIn e) (fs (cdIn e)) = some d) :
    (convertDirLoop T fmt mapd entries fs).1 (cdOut fmt mapd e) = some d := by
  induction entries generalizing fs with
  | nil => cases he
  | cons e0 rest ih =>
    rw [convertDirLoop_cons] at hok ⊢
    cases hs : (convertDirStep T fmt mapd e0 fs).2 with
    | error x => rw [hs] at hok; cases hok
    | ok r =>
      rw [hs] at hok
      by_cases hr : e ∈ rest
      · -- `e` comes later, and `e0` leaves its source alone
        exact ih _ hok hr (fun e' he' => hin e' (List.mem_cons_of_mem _ he'))
          (fun e' he' => hout e' (List.mem_cons_of_mem _ he'))
          (convertDirStep_other T fmt mapd e0 fs _ (hin e0 List.mem_cons_self) ▸ hd)
      · -- `e` is `e0`, and the rest of the run stays off its output
        obtain rfl : e = e0 := (List.mem_cons.mp he).resolve_right hr
        rw [convertDirLoop_other T fmt mapd rest _ _ fun e' he' =>
              (hout e' (List.mem_cons_of_mem _ he') fun h => hr (h ▸ he')).symm]
        exact convertDirStep_out T fmt mapd e fs d hd

/-- In the words of the property, target `odml` / any RDF format: a source that loads and renders
    to `d` now has `d` at its output path after a completed run, whatever was there. -/
theorem convert_dir_output_current_render (T : Tool) (fmt : ResFormat) (hf : fmt ≠ .v1_1)
    (mapd : Path → Path) (entries : List (Path × List Char)) (fs : Fs)
    (hok : (convertDirLoop T fmt mapd entries fs).2 = .ok ())
    (e : Path × List Char) (he : e ∈ entries)
    (hin : ∀ e' ∈ entries, pyJoin e.1 e.2 ≠ outName fmt (pyJoin (mapd e'.1) e'.2))
    (hout : ∀ e' ∈ entries, e' ≠ e →
      outName fmt (pyJoin (mapd e'.1) e'.2) ≠ outName fmt (pyJoin (mapd e.1) e.2))
    (d : Bytes) (hd : T.render (pyJoin e.1 e.2) (fs (pyJoin e.1 e.2)) = .ok d) :
    (convertDirLoop T fmt mapd entries fs).1 (outName fmt (pyJoin (mapd e.1) e.2)) = some d := by
  apply convert_dir_output_current T fmt mapd entries fs hok e he hin hout d
  unfold cdData cdIn
  cases fmt with
  | v1_1 => exact absurd rfl hf
  | odml => simp only [hd]
  | rdf ext => simp only [hd]

/-- … and target `v1_1`: a source the version converter turns into `d` now. -/
theorem convert_dir_output_current_v1_1 (T : Tool)
    (mapd : Path → Path) (entries : List (Path × List Char)) (fs : Fs)
    (hok : (convertDirLoop T .v1_1 mapd entries fs).2 = .ok ())
    (e : Path × List Char) (he : e ∈ entries)
    (hin : ∀ e' ∈ entries, pyJoin e.1 e.2 ≠ outName .v1_1 (pyJoin (mapd e'.1) e'.2))
    (hout : ∀ e' ∈ entries, e' ≠ e →
      outName .v1_1 (pyJoin (mapd e'.1) e'.2) ≠ outName .v1_1 (pyJoin (mapd e.1) e.2))
    (d : Bytes) (hd : T.convert (pyJoin e.1 e.2) (fs (pyJoin e.1 e.2)) = .ok (some d)) :
    (convertDirLoop T .v1_1 mapd entries fs).1 (outName .v1_1 (pyJoin (mapd e.1) e.2)) = some d := by
  apply convert_dir_output_current T .v1_1 mapd entries fs hok e he hin hout d
  unfold cdData cdIn
  simp only [hd]

/-- After any first run (`entries1` over any `fs0`), the source of `e` is **replaced by another
    revision** `rev` and the directory is converted again into the same location: the output of
    `e` holds the conversion of `rev`, not the result of the first run. -/
theorem convert_dir_rerun_after_edit (T : Tool) (fmt : ResFormat) (mapd : Path → Path)
    (entries1 entries2 : List (Path × List Char)) (fs0 : Fs)
    (e : Path × List Char) (he : e ∈ entries2) (rev : Bytes)
    (hin : ∀ e' ∈ entries2, cdIn e ≠ cdOut fmt mapd e')
    (hout : ∀ e' ∈ entries2, e' ≠ e → cdOut fmt mapd e' ≠ cdOut fmt mapd e)
    (d : Bytes) (hd : cdData T fmt (cdIn e) (some rev) = some d) :
    let fs1 := ((convertDirLoop T fmt mapd entries1 fs0).1).write (cdIn e) rev
    (convertDirLoop T fmt mapd entries2 fs1).2 = .ok () →
    (convertDirLoop T fmt mapd entries2 fs1).1 (cdOut fmt mapd e) = some d := by
  intro fs1 hok
  apply convert_dir_output_current T fmt mapd entries2 fs1 hok e he hin hout d
  have : fs1 (cdIn e) = some rev := write_same _ _ _
  rw [this]; exact hd

/-- A concrete history: `in/a.xml` converted, replaced by another revision, converted again into
    the same directory, which also holds an unrelated `b.odml`; a file added later gets its output
    too. -/
theorem convert_dir_rerun_witness :
    let T : Tool := { loads := fun _ _ => true, convert := fun _ _ => .error .valueError,
                      render := fun _ c => if c == some "REV1".toList then .ok "OUT1".toList
                                           else if c == some "REV2".toList then .ok "OUT2".toList
                                           else .error .valueError }
    let mapd := mapDir "in/".toList "out/".toList
    let fs0 := Fs.ofList [("in/a.xml".toList, "REV1".toList), ("out/b.odml".toList, "KEEP".toList)]
    let r1 := convertDirLoop T .odml mapd [("in/".toList, "a.xml".toList)] fs0
    let fs1 := (r1.1.write "in/a.xml".toList "REV2".toList).write "in/c.xml".toList "REV1".toList
    let r2 := convertDirLoop T .odml mapd [("in/".toList, "a.xml".toList), ("in/".toList, "c.xml".toList)] fs1
    r1.2.isOk = true ∧ r1.1 "out/a.odml".toList = some "OUT1".toList ∧
    r2.2.isOk = true ∧ r2.1 "out/a.odml".toList = some "OUT2".toList ∧
    r2.1 "out/c.odml".toList = some "OUT1".toList ∧ r2.1 "out/b.odml".toList = some "KEEP".toList ∧
    r2.1 "in/a.xml".toList = some "REV2".toList := by
  decide +kernel

/-- Whenever the old `re.sub(input_dir, output_dir, dir_path)` returned `dir_path` unchanged
    (the pattern — the *unescaped* directory name — did not match), converting an `.xml` file to
    `v1_1` wrote the result over the input file itself. -/
theorem legacy_unmatched_overwrites_input (T : Tool) (dir name : Path) (fs : Fs) (d : Bytes)
    (hx : endsWith (pyJoin dir name) ".xml".toList = true)
    (hc : T.convert (pyJoin dir name) (fs (pyJoin dir name)) = .ok (some d)) :
    (convertDirStep T .v1_1 id (dir, name) fs).1 (pyJoin dir name) = some d := by
  have hn : cdOut .v1_1 id (dir, name) = pyJoin dir name := by
    rw [cdOut, outName, ensureXmlExt, id, hx]; rfl
  have := convertDirStep_out T .v1_1 id (dir, name) fs d (by rw [cdData, cdIn, hc])
  rwa [hn] at this

/-- The confirmed witness: input directory `in+dir(1)`; the run ends "successfully", the input
    file holds the converted text and nothing was written elsewhere. -/
theorem legacy_convert_dir_clobbers_inputs :
    let T : Tool := { loads := fun _ _ => false, convert := fun _ _ => .ok (some "NEW".toList),
                      render := fun _ _ => .error .valueError }
    let fs := Fs.ofList [("in+dir(1)/a.xml".toList, "OLD".toList)]
    let r := convertDirLoop T .v1_1 id [("in+dir(1)/".toList, "a.xml".toList)] fs
    r.2.isOk = true ∧ r.1 "in+dir(1)/a.xml".toList = some "NEW".toList ∧
    r.1 "out/a.xml".toList = none := by
  repeat rw [String.toList_ofList]
  decide +kernel

/-- The same run with the prefix mapping: input kept, output where it belongs. -/
theorem fixed_convert_dir_witness :
    let T : Tool := { loads := fun _ _ => false, convert := fun _ _ => .ok (some "NEW".toList),
                      render := fun _ _ => .error .valueError }
    let fs := Fs.ofList [("in+dir(1)/a.xml".toList, "OLD".toList)]
    let r := convertDirLoop T .v1_1 (mapDir "in+dir(1)/".toList "out/".toList)
              [("in+dir(1)/".toList, "a.xml".toList)] fs
    r.2.isOk = true ∧ r.1 "in+dir(1)/a.xml".toList = some "OLD".toList ∧
    r.1 "out/a.xml".toList = some "NEW".toList := by
  repeat rw [String.toList_ofList]
  decide +kernel

/-- Even for names without metacharacters `re.sub` replaced *every* occurrence of the input
    directory name, not the prefix: with a relative input directory `in/`, the sub-directory
    `in/main/x` was sent to `out/maout/x`. -/
theorem legacy_literal_replaces_every_occurrence :
    replaceAll "in/".toList "out/".toList 50 "in/main/x".toList = "out/maout/x".toList ∧
    mapDir "in/".toList "out/".toList "in/main/x".toList = "out/main/x".toList := by
  repeat rw [String.toList_ofList]
  decide +kernel

/-! ## File discovery of the two command line tools (`main`)

"…over a directory … all directory trees … in every order and nesting": which files of the tree the
tools take up.  The tree is any list of entries `(directory, name)`; nothing is assumed about the
names of the directories — the directory given on the command line, the directories above and
below it may be called like the tools' own output directories (`odmlconv_…`, `odmlrdf_…`). -/

/-- A name `main` looks for: it ends in `.odml`, `.xml`, `.json` or `.yaml`. -/
def Supported (n : List Char) : Prop := ∃ ext ∈ mainExts, endsWith n ext = true

/-- Every entry of the tree with a supported ending — at the top, or anywhere with `-r` — is in the
    list `main` hands to its loop, whatever the directories are called. -/
theorem discover_complete (root : Path) (recursive : Bool) (tree : List (Path × List Char))
    (e : Path × List Char) (he : e ∈ tree) (hs : Supported e.2)
    (hd : recursive = true ∨ e.1 = root) :
    pyJoin e.1 e.2 ∈ discover root recursive tree := by
  obtain ⟨ext, hext, hends⟩ := hs
  simp only [discover, List.mem_flatMap]
  refine ⟨ext, hext, ?_⟩
  simp only [globExt, List.mem_map, List.mem_filter]
  refine ⟨e, ⟨he, ?_⟩, rfl⟩
  rcases hd with h | h <;> simp [hends, h]

/-- … and nothing else is. -/
theorem discover_sound (root : Path) (recursive : Bool) (tree : List (Path × List Char))
    (p : Path) (hp : p ∈ discover root recursive tree) :
    ∃ e ∈ tree, p = pyJoin e.1 e.2 ∧ Supported e.2 ∧ (recursive = true ∨ e.1 = root) := by
  simp only [discover, List.mem_flatMap, globExt, List.mem_map, List.mem_filter] at hp
  obtain ⟨ext, hext, e, ⟨he, hcond⟩, rfl⟩ := hp
  simp only [Bool.and_eq_true, Bool.or_eq_true, beq_iff_eq] at hcond
  exact ⟨e, he, rfl, ⟨ext, hext, hcond.1⟩, hcond.2⟩

/-- Distinct paths in the tree ⇒ no file is taken up twice (no name ends in two of the endings). -/
theorem discover_nodup (root : Path) (recursive : Bool) (tree : List (Path × List Char))
    (nd : (tree.map fun e => pyJoin e.1 e.2).Nodup) : (discover root recursive tree).Nodup := by
  have hexts : mainExts.Pairwise fun a b => ¬ a <:+ b ∧ ¬ b <:+ a := by decide +kernel
  refine List.pairwise_flatMap.2 ⟨fun ext _ => ?_, hexts.imp fun ⟨hab, hba⟩ x hx y hy hxy =>
    globExt_disjoint root recursive tree nd _ _ hab hba x hx (hxy ▸ hy)⟩
  -- one ending: a sublist of the duplicate-free paths
  exact List.Nodup.sublist (List.Sublist.map _ List.filter_sublist) nd

/-- odmlconvert as a whole (`main` after `mkdtemp`): for every tree of distinct paths and distinct
    base names, every directory naming and both settings of `-r`, a file of the tree with a
    supported ending that is convertible alone has its output after the run. -/
theorem main_convert_file_gets_output (T : Tool) (outDir root : Path) (recursive : Bool)
    (tree : List (Path × List Char)) (fs : Fs)
    (nd : (tree.map fun e => pyJoin e.1 e.2).Nodup) (hfresh : Fresh fs outDir)
    (hex : ∀ g ∈ discover root recursive tree, fs g ≠ none)
    (e : Path × List Char) (he : e ∈ tree) (hs : Supported e.2) (hd : recursive = true ∨ e.1 = root)
    (hstem : ∀ g ∈ discover root recursive tree, g ≠ pyJoin e.1 e.2 → stem g ≠ stem (pyJoin e.1 e.2))
    (d : Bytes) (hl : T.loads (pyJoin e.1 e.2) (fs (pyJoin e.1 e.2)) = false)
    (hc : T.convert (pyJoin e.1 e.2) (fs (pyJoin e.1 e.2)) = .ok (some d)) :
    (mainConvert T outDir root recursive tree fs).1 (convOut outDir (pyJoin e.1 e.2)) = some d :=
  convertible_file_gets_output T outDir _ fs (discover_nodup root recursive tree nd) hfresh hex _
    (discover_complete root recursive tree e he hs hd) hstem d hl hc

/-- odmltordf as a whole: a current-version file of the tree that exports alone to `d` has
    `<rdf dir>/<stem>.rdf = d` after the run … -/
theorem main_rdf_file_gets_rdf (T : Tool) (outDir r root : Path) (recursive : Bool)
    (tree : List (Path × List Char)) (fs : Fs)
    (nd : (tree.map fun e => pyJoin e.1 e.2).Nodup) (hfresh : Fresh fs outDir)
    (hex : ∀ g ∈ discover root recursive tree, fs g ≠ none)
    (e : Path × List Char) (he : e ∈ tree) (hs : Supported e.2) (hd : recursive = true ∨ e.1 = root)
    (hstem : ∀ g ∈ discover root recursive tree, g ≠ pyJoin e.1 e.2 → stem g ≠ stem (pyJoin e.1 e.2))
    (d : Bytes) (hl : T.loads (pyJoin e.1 e.2) (fs (pyJoin e.1 e.2)) = true)
    (hr : T.render (pyJoin e.1 e.2) (fs (pyJoin e.1 e.2)) = .ok d) :
    (mainRdf T outDir (outDir ++ '/' :: r) root recursive tree fs).1
      (rdfOut (outDir ++ '/' :: r) (pyJoin e.1 e.2)) = some d :=
  exportable_file_gets_rdf T outDir r _ fs (discover_nodup root recursive tree nd) hfresh hex _
    (discover_complete root recursive tree e he hs hd) hstem d hl hr

/-- … and an old-version file that converts alone to `d`, which exports to `d2`, has both outputs. -/
theorem main_rdf_converted_file_gets_rdf (T : Tool) (outDir r root : Path) (recursive : Bool)
    (tree : List (Path × List Char)) (fs : Fs)
    (nd : (tree.map fun e => pyJoin e.1 e.2).Nodup) (hfresh : Fresh fs outDir)
    (hex : ∀ g ∈ discover root recursive tree, fs g ≠ none)
    (e : Path × List Char) (he : e ∈ tree) (hs : Supported e.2) (hd : recursive = true ∨ e.1 = root)
    (hstem : ∀ g ∈ discover root recursive tree, g ≠ pyJoin e.1 e.2 → stem g ≠ stem (pyJoin e.1 e.2))
    (d d2 : Bytes) (hl : T.loads (pyJoin e.1 e.2) (fs (pyJoin e.1 e.2)) = false)
    (hc : T.convert (pyJoin e.1 e.2) (fs (pyJoin e.1 e.2)) = .ok (some d))
    (hr : T.render (convOut outDir (pyJoin e.1 e.2)) (some d) = .ok d2) :
    (mainRdf T outDir (outDir ++ '/' :: r) root recursive tree fs).1
        (convOut outDir (pyJoin e.1 e.2)) = some d ∧
    (mainRdf T outDir (outDir ++ '/' :: r) root recursive tree fs).1
        (rdfOut (outDir ++ '/' :: r) (pyJoin e.1 e.2)) = some d2 :=
  converted_file_gets_rdf T outDir r _ fs (discover_nodup root recursive tree nd) hfresh hex _
    (discover_complete root recursive tree e he hs hd) hstem d d2 hl hc hr

/-- Witness: odmltordf pointed at the directory an odmlconvert run has made (`out1/odmlconv_k3`), with
    a sub-directory of the same kind: both files are taken up (`-r`), the top one without `-r`; a file
    with another ending and a directory named `x.xml` are treated as the patterns say. -/
theorem discover_tool_named_directories_witness :
    discover "out1/odmlconv_k3".toList true
      [("out1/odmlconv_k3".toList, "alpha_conv.xml".toList), ("out1/odmlconv_k3".toList, "notes.txt".toList),
       ("out1/odmlconv_k3".toList, "x.xml".toList),
       ("out1/odmlconv_k3/odmlconv_zz".toList, "beta.odml".toList)] =
      ["out1/odmlconv_k3/odmlconv_zz/beta.odml".toList, "out1/odmlconv_k3/alpha_conv.xml".toList,
       "out1/odmlconv_k3/x.xml".toList] ∧
    discover "out1/odmlconv_k3".toList false
      [("out1/odmlconv_k3".toList, "alpha_conv.xml".toList),
       ("out1/odmlconv_k3/odmlconv_zz".toList, "beta.odml".toList)] =
      ["out1/odmlconv_k3/alpha_conv.xml".toList] := by
  repeat rw [String.toList_ofList]
  decide +kernel

end C17
