/-
C06 — A refused operation changes nothing.

Model: `Model/Heap.lean` — every structural operation follows the Python statement order and
returns the state *at the raise point*, so this is a theorem about the ordering of checks and
mutations in the code, not a by-construction fact. The cardinality part (C09 operations) is
`C09.set_refused_keeps`, re-exported here; the value-editing operations of C05 are covered by
`C05`'s own `refused_unchanged` theorem.
-/
import OdmlModel.Proofs.HeapExtRefuseLink
import OdmlModel.Props.C03
import OdmlModel.Props.C09

namespace C06
open Heap

/-- Full statement over the modelled structural operations: in every state any editing history
    can produce, an operation that raises leaves every object exactly as it was. -/
def Statement : Prop :=
  ∀ (ops : List Op) (op : Op) (e : Exc),
    (step (run empty ops) op).2 = .raised e → (step (run empty ops) op).1 = run empty ops

/-- One step: if the operation raises, the heap is unchanged - no object detached, attached,
    renamed or partially updated. -/
theorem refused_changes_nothing (h : H) (w : WF h) (op : Op) (e : Exc)
    (hr : (step h op).2 = .raised e) : (step h op).1 = h :=
  step_refused w hr

/-- At any point of any editing history. -/
theorem refused_changes_nothing_anywhere : Statement := by
  intro ops op e hr
  exact refused_changes_nothing _ (C03.wf_reachable_partial ops) op e hr

/-- A constructor that raises has not added a half-constructed object to any parent: the heap,
    including the child lists of the intended parent, is exactly what it was. -/
theorem constructor_refused_adds_nothing (h : H) (w : WF h) (k : Kind) (name id : String)
    (parent : Option Nat) (argsOk : Bool) (e : Exc)
    (hr : (step h (.construct k name id parent argsOk)).2 = .raised e) :
    (step h (.construct k name id parent argsOk)).1 = h :=
  refused_changes_nothing h w _ e hr

/-- `extend` with a duplicate inside its argument, or any other refused entry, appends nothing. -/
theorem extend_all_or_nothing (h : H) (w : WF h) (p : Nat) (xs : List Nat) (e : Exc)
    (hr : (step h (.extend p xs)).2 = .raised e) : (step h (.extend p xs)).1 = h :=
  refused_changes_nothing h w _ e hr

/-- A refused cardinality assignment keeps the previous setting (C09 operations). -/
theorem cardinality_refused_keeps (old : Card.Card) (v : Card.In)
    (hr : Card.formatCard v = .valueError) : Card.setCard old v = (old, false) :=
  C09.set_refused_keeps old v hr

/-! ## Compound operations: merge and the link setter (`Model/HeapExt.lean`)

`stepX` is one operation of a history over the extended operation set; the state is the heap
together with the `_merged` and `_link` attributes of the Sections (`X`; its fourth component
`orig` is scratch space of one operation and is reset by `stepX`, `X.start`). -/

/-- The documents involved are exactly as they were: every object (kind, name, id, parent, both
    child lists), the set of allocated objects, and the `_merged` / `_link` attributes. -/
def Unchanged (s s' : X) : Prop := s'.h = s.h ∧ s'.merged = s.merged ∧ s'.link = s.link

theorem unchanged_start (s : X) : Unchanged s s.start := ⟨rfl, rfl, rfl⟩

/-- The refusals of `dest.merge(src)` raised before anything is touched: a handle that is no
    object / an object that is not a Section (`hbad`), `merge_check` (attribute or Property clash
    somewhere below, `some false`), `_merge_name_check` (a Section of the source would be added
    under a name the destination already uses). -/
def MergeRefusedUpFront (O : Oracle) (fuel : Nat) (s : X) (dest src : Nat) : Prop :=
  ¬ (dest < s.h.size ∧ src < s.h.size ∧ (s.h.node dest).kind = .sec ∧ (s.h.node src).kind = .sec) ∨
  mergeCheck O fuel s.start dest src = some false ∨
  (mergeCheck O fuel s.start dest src = some true ∧ nameCheck O fuel s.start dest src = some false)

theorem merge_refused_up_front {fuel : Nat} {s : X} {O : Oracle} {dest src : Nat}
    (hpre : MergeRefusedUpFront O fuel s dest src) :
    ∃ e, stepX (fuel + 1) s O (.merge dest src) = (s.start, .raised e) := by
  by_cases hok : dest < s.h.size ∧ src < s.h.size ∧ (s.h.node dest).kind = .sec ∧
      (s.h.node src).kind = .sec
  · rw [Refuse.stepX_merge_eq hok]
    exact ⟨_, Refuse.mergeAux_refused (hpre.resolve_left (not_not_intro hok))⟩
  · exact Refuse.stepX_merge_bad_args hok

/-- In *every* state: a merge refused by a pre-check raises and leaves the heap and
    the `_merged` / `_link` bookkeeping exactly as they were. -/
theorem merge_refused_up_front_changes_nothing (fuel : Nat) (s : X) (O : Oracle) (dest src : Nat)
    (hpre : MergeRefusedUpFront O fuel s dest src) :
    (∃ e, (stepX (fuel + 1) s O (.merge dest src)).2 = .raised e) ∧
    Unchanged s (stepX (fuel + 1) s O (.merge dest src)).1 := by
  obtain ⟨e, he⟩ := merge_refused_up_front hpre
  rw [he]; exact ⟨⟨e, rfl⟩, unchanged_start s⟩

/-- The link setter, unresolvable path (`get_section_by_path` raises), wrong kind of
    object, no object: whenever `x.link = <path that finds nothing>` raises, nothing has changed -
    in every state. (On a Section without parent the assignment only stores the text and does
    not raise.) -/
theorem link_unresolvable_changes_nothing (fuel : Nat) (s : X) (O : Oracle) (x : Nat) (e : Exc)
    (hr : (stepX fuel s O (.setLink x (.path none))).2 = .raised e) :
    Unchanged s (stepX fuel s O (.setLink x (.path none))).1 := by
  rcases Refuse.link_unresolvable fuel s O x with ⟨e', he⟩ | ⟨_, ho⟩
  · rw [he]; exact unchanged_start s
  · rw [ho] at hr; cases hr

/-- ... and on an attached Section it does raise. -/
theorem link_unresolvable_raises (fuel : Nat) (s : X) (O : Oracle) (x : Nat)
    (hp : (s.h.node x).parent ≠ none) :
    ∃ e, stepX fuel s O (.setLink x (.path none)) = (s.start, .raised e) :=
  (Refuse.link_unresolvable fuel s O x).resolve_right (fun h => hp h.1)

/-- The link setter, target refused by a pre-check of the merge: on a Section that has no
    link yet, `x.link = <path of t>` raises ValueError and nothing has changed. -/
theorem link_refused_up_front_changes_nothing (fuel : Nat) (s : X) (O : Oracle) (x t : Nat)
    (hx : x < s.h.size) (ht : t < s.h.size) (hk : (s.h.node x).kind = .sec)
    (hp : (s.h.node x).parent ≠ none) (hl : s.link x = false)
    (hpre : mergeCheck O fuel s.start x t = some false ∨
      (mergeCheck O fuel s.start x t = some true ∧ nameCheck O fuel s.start x t = some false)) :
    stepX (fuel + 1) s O (.setLink x (.path (some t))) = (s.start, .raised .valueError) := by
  rw [Refuse.stepX_setLink_eq ⟨by simp [XOp.handles, hx, ht], hk⟩]
  exact C03.stored_link_not_reassigned O (fuel + 1) s.start s.start s.start x t _ hp
    (by simp [X.resolved, hl]) (by simp [cleanIfLinked, hl]) (Refuse.mergeAux_refused hpre) nofun

/-! ### All-or-nothing: a compound operation is refused by a pre-check or completes

Hypotheses, all about the state the operation starts from:
* `WF s.h` - the invariant of C03, which every history over the extended operation set keeps
  (`C03.wf_reachable`); it contains the uniqueness of sibling names (C04);
* `NoEmptyName s.h` - no object has the empty name (decidable; names fall back to the id, a
  rendered UUID: `C04.names_never_empty` with `NamesNE.noEmptyName`, for histories whose ids are not empty);
* neither of the two Sections lies inside the other, in the words of the library:
  `_check_no_cycle` answers "no" in both directions (`cycleCheck … = false`, decidable).
  (A merge of a Section with one of its own descendants re-reads, in its later loops, lists it
  has itself extended; for those the checks made up front say nothing.) -/

/-- The operations of the extended set for which "raises ⇒ nothing changed" is proved, with the
    side conditions listed above (`clean`, and `link = None` / `""`, which clean, can
    raise after they have detached copies: not covered). -/
def Covered (s : X) : XOp → Prop
  | .prim _ => True
  | .clone _ _ _ => True
  | .merge dest src => cycleCheck s.h dest src = false ∧ cycleCheck s.h src dest = false
  | .setLink _ (.path none) => True
  | .setLink x (.path (some t)) =>
      (s.h.node t).kind = .sec ∧ cycleCheck s.h x t = false ∧ cycleCheck s.h t x = false ∧
      (s.link x = false ∨ ∀ i, i < s.h.size → s.merged i = none)
  | .setLink _ _ => False
  | .clean _ => False

theorem refused_returns_start (fuel : Nat) (s : X) (O : Oracle) (op : XOp)
    (w : WF s.h) (hn : Refuse.NoEmptyName s.h) (hc : Covered s op) (e : Exc)
    (hr : (stepX fuel s O op).2 = .raised e) : (stepX fuel s O op).1 = s.start := by
  cases op with
  | prim p =>
    rw [stepX_prim] at hr ⊢
    exact Refuse.guard_start hr fun _ h => Refuse.prim_refused (s := s.start) w h
  | clone x ch kid =>
    rw [stepX_clone] at hr ⊢
    refine Refuse.guard_start hr fun hg h => ?_
    rcases (Refuse.cloneAux_full O fuel { s with orig := id } x ch kid w hn
      (lt_of_not_any hg List.mem_cons_self)).out with h' | h' <;> rw [h'] at h <;> cases h
  | merge dest src =>
    rw [stepX_merge] at hr ⊢
    refine Refuse.guard_start hr fun _ h => Refuse.guard_start h fun hk h => ?_
    obtain ⟨kd, ks⟩ := (not_or.mp hk).imp Decidable.of_not_not Decidable.of_not_not
    rcases Refuse.mergeAux_all_or_nothing O fuel { s with orig := id } (!s.resolved dest) dest src w hn
      kd ks (Refuse.apart_of_cycleCheck hc.1 hc.2) with ⟨t, h'⟩ | ⟨t, h'⟩ | h'
    · rw [h'] at h; cases h
    · rw [h'] at h; cases h
    · rw [h']
  | setLink x v =>
    rcases v with _ | _ | _ | t
    · exact hc.elim
    · exact hc.elim
    · rcases Refuse.link_unresolvable fuel s O x with ⟨e', he⟩ | ⟨_, ho⟩
      · rw [he]
      · rw [ho] at hr; cases hr
    · rw [stepX_setLink] at hr ⊢
      refine Refuse.guard_start hr fun hg h => Refuse.guard_start h fun hk h => ?_
      rcases Refuse.setLinkAux_all_or_nothing O fuel { s with orig := id } x t w hn
        (lt_of_not_any hg (setLink_handles x _)) (Decidable.of_not_not hk) hc.1
        (Refuse.apart_of_cycleCheck hc.2.1 hc.2.2.1) hc.2.2.2 with ⟨t', h'⟩ | ⟨t', h'⟩ | h'
      · rw [h'] at h; cases h
      · rw [h'] at h; cases h
      · rw [h']
  | clean x => exact hc.elim

/-- The statement of C06 for merge: a `dest.merge(src)` that raises - whatever it
    raises, whatever the oracle answers, whatever the budget - has left the heap and the
    `_merged` / `_link` bookkeeping exactly as they were. In particular the clone-and-append
    loops never raise half-way (no KeyError of `append`, no ValueError of a `merge_check` or
    `Property.merge` deeper down). -/
theorem merge_all_or_nothing (fuel : Nat) (s : X) (O : Oracle) (dest src : Nat)
    (w : WF s.h) (hn : Refuse.NoEmptyName s.h)
    (h1 : cycleCheck s.h dest src = false) (h2 : cycleCheck s.h src dest = false) (e : Exc)
    (hr : (stepX fuel s O (.merge dest src)).2 = .raised e) :
    Unchanged s (stepX fuel s O (.merge dest src)).1 := by
  rw [refused_returns_start fuel s O (.merge dest src) w hn ⟨h1, h2⟩ e hr]; exact unchanged_start s

/-- ... and it raises exactly when one of the pre-checks refuses it (cf. `C13.merge_raises_iff`
    for the tree model). -/
theorem merge_raises_iff (fuel : Nat) (s : X) (O : Oracle) (dest src : Nat)
    (w : WF s.h) (hn : Refuse.NoEmptyName s.h)
    (h1 : cycleCheck s.h dest src = false) (h2 : cycleCheck s.h src dest = false) :
    (∃ e, (stepX (fuel + 1) s O (.merge dest src)).2 = .raised e) ↔
      MergeRefusedUpFront O fuel s dest src := by
  constructor
  · intro ⟨e, hr⟩
    by_cases hok : dest < s.h.size ∧ src < s.h.size ∧ (s.h.node dest).kind = .sec ∧
        (s.h.node src).kind = .sec
    · rw [Refuse.stepX_merge_eq hok] at hr
      rcases Refuse.mergeAux_outcomes O fuel s.start (!s.start.resolved dest) dest src w hn
        hok.2.2.1 hok.2.2.2 (Refuse.apart_of_cycleCheck h1 h2) with h | h | h
      · rw [mergePub, h] at hr; cases hr
      · rw [mergePub, h] at hr; cases hr
      · exact Or.inr h.1
    · exact Or.inl hok
  · exact fun hpre => (merge_refused_up_front hpre).imp fun e he => by rw [he]

/-- `clone` never raises (the TypeError for a handle that is no object apart), so it has nothing
    to leave half-done. -/
theorem clone_refused_changes_nothing (fuel : Nat) (s : X) (O : Oracle) (x : Nat) (ch kid : Bool)
    (w : WF s.h) (hn : Refuse.NoEmptyName s.h) (e : Exc)
    (hr : (stepX fuel s O (.clone x ch kid)).2 = .raised e) :
    Unchanged s (stepX fuel s O (.clone x ch kid)).1 := by
  rw [refused_returns_start fuel s O (.clone x ch kid) w hn trivial e hr]; exact unchanged_start s

/-- The link setter: `x.link = <path of t>` that raises has changed nothing - on a Section that has
    no link yet, and in every state in which no Section is merged (links at most stored). -/
theorem link_all_or_nothing (fuel : Nat) (s : X) (O : Oracle) (x t : Nat)
    (w : WF s.h) (hn : Refuse.NoEmptyName s.h) (kt : (s.h.node t).kind = .sec)
    (h1 : cycleCheck s.h x t = false) (h2 : cycleCheck s.h t x = false)
    (hclean : s.link x = false ∨ ∀ i, i < s.h.size → s.merged i = none) (e : Exc)
    (hr : (stepX fuel s O (.setLink x (.path (some t)))).2 = .raised e) :
    Unchanged s (stepX fuel s O (.setLink x (.path (some t)))).1 := by
  rw [refused_returns_start fuel s O (.setLink x (.path (some t))) w hn ⟨kt, h1, h2, hclean⟩ e hr]; exact unchanged_start s

/-- The same at any point of any history over the extended operation set (`WF` is then a
    theorem, `C03.wf_reachable`; `NoEmptyName` remains a hypothesis). -/
theorem merge_all_or_nothing_anywhere (fuel fuel' : Nat) (ops : List (Oracle × XOp)) (O : Oracle)
    (dest src : Nat) (hn : Refuse.NoEmptyName (runX fuel' X.empty ops).h)
    (h1 : cycleCheck (runX fuel' X.empty ops).h dest src = false)
    (h2 : cycleCheck (runX fuel' X.empty ops).h src dest = false) (e : Exc)
    (hr : (stepX fuel (runX fuel' X.empty ops) O (.merge dest src)).2 = .raised e) :
    Unchanged (runX fuel' X.empty ops) (stepX fuel (runX fuel' X.empty ops) O (.merge dest src)).1 :=
  merge_all_or_nothing fuel _ O dest src (C03.wf_reachable fuel' ops) hn h1 h2 e hr

/-- C06 over the extended operation set, in one statement: a covered operation - primitive or
    compound - that raises has left the heap and the `_merged` / `_link` attributes exactly as
    they were. -/
theorem refused_compound_changes_nothing (fuel : Nat) (s : X) (O : Oracle) (op : XOp)
    (w : WF s.h) (hn : Refuse.NoEmptyName s.h) (hc : Covered s op) (e : Exc)
    (hr : (stepX fuel s O op).2 = .raised e) : Unchanged s (stepX fuel s O op).1 := by
  rw [refused_returns_start fuel s O op w hn hc e hr]; exact unchanged_start s

/-! ### Non-vacuity of the compound part -/

/-- Section 4 has another type than the rest -/
def demoOracleTyped : Oracle := { C03.demoOracle with ty := fun i => if i = 4 then "u" else "t" }

/-- doc(0) / a(1) / x(3) and doc / b(2) / x(4), the second `x` of another type -/
def demoClash : X := runX 10 X.empty [
  (demoOracleTyped, .prim (.construct .doc "" "d" none true)),
  (demoOracleTyped, .prim (.construct .sec "a" "i1" (some 0) true)),
  (demoOracleTyped, .prim (.construct .sec "b" "i2" (some 0) true)),
  (demoOracleTyped, .prim (.construct .sec "x" "i3" (some 1) true)),
  (demoOracleTyped, .prim (.construct .sec "x" "i4" (some 2) true))]

/-- the hypotheses of the all-or-nothing theorems hold there ... -/
example : Refuse.NoEmptyName demoClash.h ∧ cycleCheck demoClash.h 2 1 = false ∧
    cycleCheck demoClash.h 1 2 = false ∧ (∀ i, i < demoClash.h.size → demoClash.merged i = none) := by
  decide +kernel
example : WF demoClash.h := C03.wf_reachable 10 _
/-- ... `b.merge(a)` is refused by `_merge_name_check` (b has an `x` of another type) ... -/
example : mergeCheck demoOracleTyped 9 demoClash.start 2 1 = some true ∧
    nameCheck demoOracleTyped 9 demoClash.start 2 1 = some false ∧
    (stepX 10 demoClash demoOracleTyped (.merge 2 1)).2 = .raised .valueError := by decide +kernel
/-- ... so is `b.link = <path of a>`; with an oracle that sees one type, both go through ... -/
example : (stepX 10 demoClash demoOracleTyped (.setLink 2 (.path (some 1)))).2 =
    .raised .valueError := by decide +kernel
example : (stepX 10 demoClash C03.demoOracle (.merge 2 1)).2 = .ok ∧
    (stepX 10 demoClash C03.demoOracle (.setLink 2 (.path (some 1)))).2 = .ok := by decide +kernel
/-- ... and a merge with a Section inside the destination is outside the hypotheses. -/
example : cycleCheck demoClash.h 3 1 = true := by decide +kernel

/-! ## Non-vacuity: refusals do occur in reachable states -/

/-- name clash at the destination -/
example : (step (run empty C03.demoOps) (.construct .sec "a" "i9" (some 0) true)).2
    = .raised .keyError := by decide +kernel
/-- duplicate inside an `extend` argument -/
example : (step (run empty (C03.demoOps.take 4)) (.extend 2 [3, 3])).2 = .raised .keyError := by
  decide +kernel
/-- invalid cardinality passed to a constructor with `parent=` -/
example : (step (run empty (C03.demoOps.take 4)) (.construct .prop "p" "i8" (some 1) false)).2
    = .raised .valueError := by decide +kernel

end C06
