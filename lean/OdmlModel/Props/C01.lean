/-
C01 — XML save/load is lossless and conforms to odML format 1.1.

The property theorems and three facts they share (`stored_of_cardOk`, `exDoc_ok`,
`foreignTree_view`); helper lemmas are in `Proofs/Csv.lean`, `Proofs/Xml.lean`,
`Proofs/XmlRound*.lean` (`XmlRoundDenote.lean` also holds the definition of `denote`),
`XmlRefuse.lean`, `XmlTok.lean`.
Models: `Py/Csv.lean`, `Model/XmlCsv.lean`, `Model/XmlDoc.lean`, `Model/Xml.lean`,
`Model/XmlRepr.lean`, `Model/XmlTok.lean` (tied to /repo by `harness/c01.py`).
-/
import OdmlModel.Proofs.XmlRoundWritten
import OdmlModel.Proofs.XmlRefuse
import OdmlModel.Proofs.XmlTok

namespace C01
open Xml Py Py.Csv

/-! ## 1. The value text node (CSV inside XML) -/

/-- The csv library model: what `csv.reader` (excel dialect) reads from what `csv.writer` wrote
    is the row itself — any number of fields, any characters (commas, quotes, CR, LF, …).
    (`writeRow` minus the line terminator; an empty row writes nothing.) -/
theorem csv_lib_roundtrip (row : List (List Char)) (h : row ≠ []) :
    readFirst (dropLast2 (writeRow row)) = .ok row := by
  rw [dropLast2_writeRow]; exact readFirst_rowBody row h

/-- **`from_csv (to_csv vs) = [v.strip() for v in vs]` for every list of strings** — any
    length, any content.  There is no representability side condition: every value list the XML
    form is asked to hold is restored exactly, up to the trimming the property allows. -/
theorem csv_roundtrip (vs : List (List Char)) : fromCsv (toCsv vs) = .ok (vs.map strip) :=
  fromCsv_toCsv vs

/-- The text node is empty exactly for the empty value list (so the reader, which skips an
    empty `<value>`, loses nothing). -/
theorem csv_empty_iff (vs : List (List Char)) : toCsv vs = [] ↔ vs = [] := by
  constructor
  · intro h
    have := csv_roundtrip vs
    rw [h] at this
    simp [fromCsv] at this
    exact this.symm ▸ (by cases vs <;> simp_all)
  · rintro rfl; decide

/-! ### The encoding `.strip().strip('"')` (`toCsvLegacy`) is not injective: witnesses

They document why a tree with that encoding violates the property (and are replayed by the
corpus). -/

theorem csv_legacy_counterexample_comma :
    fromCsv (toCsvLegacy ["a,b".toList, "c".toList]) =
      .ok ["a".toList, "b\"".toList, "c".toList] := by decide +kernel

theorem csv_legacy_counterexample_quote :
    fromCsv (toCsvLegacy ["a\"b".toList, "c".toList]) ≠ .ok ["a\"b".toList, "c".toList] := by
  decide +kernel

theorem csv_legacy_counterexample_newline :
    fromCsv (toCsvLegacy ["a\nb".toList, "c".toList]) = .ok ["a".toList] := by decide +kernel

theorem csv_legacy_counterexample_single_quote :
    fromCsv (toCsvLegacy ["x\"".toList]) = .ok ["x".toList] := by decide +kernel

theorem csv_legacy_counterexample_single_bracket :
    fromCsv (toCsvLegacy ["[a]".toList]) = .ok ["a".toList] := by decide +kernel

theorem csv_legacy_counterexample_empty :
    fromCsv (toCsvLegacy [[]]) = .ok [] := by decide +kernel

/-! ## 2. Typed values: the text of a value is re-typed to the value it came from -/

/-- ints of any size: `int(str(i)) = i`, and `str(i)` survives the trimming of `to_csv`. -/
theorem int_text_roundtrip (lib : TokLib) (i : Int) :
    Xml.parseInt (intToStr i) = some i ∧ strip (intToStr i) = intToStr i ∧
    getTyped lib "int".toList (strip (valStr (.int i))) = .ok (.int i) :=
  ⟨parseInt_intToStr i, strip_intToStr i, getTyped_int lib _ i (by decide)⟩

/-- n-tuples of any arity: the text `odml_tuple_export` writes for one tuple is parsed back by
    `tuple_get` to the same items, provided the items are what `tuple_get` itself produces
    (trimmed, no `;`). -/
theorem tuple_text_roundtrip (xs : List Str) (hne : xs ≠ [])
    (hs : ∀ x ∈ xs, strip x = x) (hsemi : ∀ x ∈ xs, ∀ c ∈ x, (c == ';') = false) :
    tupleGet ('(' :: (intercal [';'] xs ++ [')'])) xs.length = .ok (.tuple xs) :=
  tupleGet_export xs hne hs hsemi

/-- One value of a non-tuple dtype: the trimmed `str()` text is re-typed by `dtypes.get` to the
    (trimmed) value — strings, ints, bools exactly; float/date/time/datetime under the token
    contract `lib` (hypothesis inside `valOk`). -/
theorem value_retyped (lib : TokLib) (d : Str) (v : Val) (hd : endsWith "-tuple" d = false)
    (h : valOk lib d v = true) :
    getTyped lib d (strip (valStr v)) = .ok (trimVal v) :=
  getTyped_valStr lib d v hd h

/-- **The `<value>` node of a Property with a non-tuple dtype round-trips**: for every number
    of values and every content, `from_csv` of the text the writer emits followed by the
    `values` setter gives the same dtype and the trimmed values in the same order. -/
theorem value_text_roundtrip (lib : TokLib) (d : Str) (vals : List Val)
    (hd : endsWith "-tuple" d = false) (h : ∀ v ∈ vals, valOk lib d v = true) :
    ∃ texts, fromCsv (toCsv (vals.map valStr)) = .ok texts ∧
      loadValues lib (some d) texts = .ok (if vals = [] then some d else some d, vals.map trimVal) := by
  refine ⟨_, csv_roundtrip _, ?_⟩
  have key := mapExcept_map (getTyped lib d) (strip ∘ valStr) trimVal vals
    fun v hv => value_retyped lib d v hd (h v hv)
  rw [List.map_map]
  cases vals with
  | nil => simp [loadValues]
  | cons v vs =>
    simp only [List.map_cons] at key
    simp only [List.map_cons, loadValues, hd, key]
    simp

/-! ## 2b. Cardinalities and text attributes through one element -/

open Card

theorem stored_of_cardOk (p : Option Int × Option Int) (h : cardOk (some p) = true) :
    C09.Stored (some p) :=
  cardOk_stored h

/-- Cardinalities of every shape and size: the text the writer emits (`str(card)`) is parsed by
    the reader to the same tuple, which the constructor's `format_cardinality` keeps. -/
theorem card_text_roundtrip (p : Option Int × Option Int) (h : cardOk (some p) = true) :
    parseCardText (renderCardText p) = some p ∧
    loadCard [("val_cardinality", .card (parseCardText (renderCardText p)))] "val_cardinality"
      = some (some p) := by
  have hs := stored_of_cardOk p h
  have h1 := C09.persist_text p hs
  have h2 : formatCard (cardAsIn (some p)) = .ok (some p) := C09.stored_fixpoint (some p) hs
  refine ⟨h1, ?_⟩
  simp [loadCard, List.lookup, h1, h2]

/-- A text attribute (`definition`, `unit`, `author`, …): the reader's leaf step stores the
    trimmed text of the element the writer emitted; an empty text comes back as absent. -/
theorem leaf_text_roundtrip (m : Mode) (f : Fmt) (t : String) (s : Str) (st : PT)
    (hv : (f.pyName t == "values") = false)
    (hc : "_cardinality".toList.isSuffixOf (f.pyName t).toList = false)
    (hn : st.args.lookup (f.pyName t) = none) :
    leafStep m f t (if s.isEmpty then none else some s) st =
      .ok { st with args := (f.pyName t, .text (normText (some s))) :: st.args } :=
  leafStep_text m f t s st (Or.inr ⟨hv, hc⟩) hn

/-! ## 3. Vocabulary, version, tables -/

/-- The root element the writer builds is `<odML version="FORMAT_VERSION">`. -/
theorem xml_version (d : DocT) :
    ∃ kids, writeTree d = .elem Gen.Format.documentName
      [("version", Gen.Format.formatVersion.toList)] none kids ∧
      Gen.Format.documentName = "odML" :=
  ⟨_, rfl, by decide⟩

/-- **Every element the writer emits, at any depth of any document, carries a tag of the odML
    1.1 vocabulary** = the names and argument keys of the regenerated format tables (structural
    induction over the Section tree). -/
theorem xml_vocab (d : DocT) : ∀ t ∈ tagsOf (writeTree d), t ∈ vocab := tags_writeTree d

/-- Every key the writer walks (regenerated `_args` tables) is mapped by the regenerated `_map`
    tables to the constructor argument the reader model passes it to — for the three classes.
    A renamed or dropped table entry in /repo breaks this theorem. -/
theorem writer_keys_readable :
    (fmtOf .prop).keys.map (fmtOf .prop).pyName =
      ["oid", "name", "values", "unit", "definition", "dependency", "dependency_value",
       "uncertainty", "reference", "dtype", "value_origin", "val_cardinality"] ∧
    (fmtOf .sec).keys.map (fmtOf .sec).pyName =
      ["oid", "type", "name", "definition", "reference", "link", "repository", "sections",
       "include", "properties", "sec_cardinality", "prop_cardinality"] ∧
    (fmtOf .doc).keys.map (fmtOf .doc).pyName =
      ["oid", "version", "author", "date", "sections", "repository"] ∧
    (fmtOf .prop).args.filter (·.2 != 0) = [("name", 1)] ∧
    (fmtOf .sec).args.filter (·.2 != 0) = [("type", 1), ("name", 1)] ∧
    (fmtOf .doc).args.filter (·.2 != 0) = [] ∧
    readerTags = ["odML", "section", "property"] := by decide +kernel

/-- Characters lxml refuses make the writer raise instead of writing something else. -/
theorem xml_unrepresentable_chars (d : DocT) (h : xmlOk (writeTree d) = false) :
    writeXml d = .error .valueError ∨ writeXml d = .error .parser := by
  simp only [writeXml]
  split
  · exact Or.inr rfl
  · simp [h]

/-! ## 4. The open finding and the three refusals, on concrete documents -/

def idLib : TokLib := ⟨fun _ t => some t⟩
def u1 : Str := "00000000-0000-0000-0000-000000000001".toList
def u2 : Str := "00000000-0000-0000-0000-000000000002".toList
def u3 : Str := "00000000-0000-0000-0000-000000000003".toList

def secWith (id : Str) (name : String) (props : List PropT) : SecT :=
  .mk (some id) (some name.toList) (some "t".toList) none none none none none [] props none none

def docWith (secs : List SecT) : DocT := { defaultDoc with id := some u1, secs := secs }

/-- what a test of the loaded document looks at: per Section its name and, per Property,
    name / dtype / values / uncertainty -/
structure PV where
  name : Option Str
  dtype : Option Str
  values : List Val
  unc : Option Unc
  deriving DecidableEq

structure SV where
  name : Option Str
  props : List PV
  deriving DecidableEq

def view (r : Except RErr (DocT × Nat)) : Except RErr (List SV) :=
  match r with
  | .error e => .error e
  | .ok (d, _) => .ok (d.secs.map fun s =>
      ⟨s.name, s.props.map fun p => ⟨p.name, p.dtype, p.values, p.uncertainty⟩⟩)

def pUnc : PropT :=
  { defaultProp with id := some u3, name := some "p".toList, values := [.int 1],
                     dtype := some "int".toList, uncertainty := some ⟨true, "0.5".toList⟩ }

/-- `uncertainty = 0.5` (a number) is loaded back as the string `'0.5'`. -/
theorem uncertainty_counterexample :
    wfDoc idLib (docWith [secWith u2 "s" [pUnc]]) = true ∧
    view (readXml .strict idLib (writeTree (docWith [secWith u2 "s" [pUnc]]))) =
      .ok [⟨some "s".toList, [⟨some "p".toList, some "int".toList, [.int 1],
            some ⟨false, "0.5".toList⟩⟩]⟩] := by
  unfold docWith pUnc u1 u2 u3
  -- the characters of the id literals by a lemma, not by evaluation
  repeat rw [String.toList_ofList]
  decide +kernel

/-- A Section named `" "` cannot be kept by the XML form: the writer refuses the document with
    `ParserException` (finding `blank_name_replaced_by_id`). The tree itself (`writeTree`) would be
    loaded back without a name of its own (the Section is named by its id). -/
theorem blank_name_refused :
    wfDoc idLib (docWith [secWith u2 " " []]) = true ∧
    docRefused (docWith [secWith u2 " " []]) = true ∧
    view (readXml .strict idLib (writeTree (docWith [secWith u2 " " []]))) = .ok [⟨none, []⟩] := by
  unfold docWith u1 u2
  repeat rw [String.toList_ofList]
  decide +kernel

def pTup : PropT :=
  { defaultProp with id := some u3, name := some "p".toList,
                     values := [.tuple ["a,b".toList, "c".toList]], dtype := some "2-tuple".toList }

/-- A 2-tuple item `a,b` cannot be carried by the bracketed text: the writer refuses the document
    with `ParserException` (finding `tuple_item_with_separator`). The text of the tree itself,
    `[(a,b;c)]`, is taken apart at the comma by `from_csv`; the strict reader refuses such a file,
    the lenient reader replaces the Property by an empty default Property. -/
theorem tuple_item_refused :
    wfDoc idLib (docWith [secWith u2 "s" [pTup]]) = true ∧
    docRefused (docWith [secWith u2 "s" [pTup]]) = true ∧
    view (readXml .strict idLib (writeTree (docWith [secWith u2 "s" [pTup]]))) = .error .parser ∧
    view (readXml .lenient idLib (writeTree (docWith [secWith u2 "s" [pTup]]))) =
      .ok [⟨some "s".toList, [⟨none, none, [], none⟩]⟩] ∧
    valueText pTup = "[(a,b;c)]".toList ∧
    fromCsv (valueText pTup) = .ok ["(a".toList, "b;c)".toList] := by
  unfold docWith pTup u1 u2 u3
  repeat rw [String.toList_ofList]
  decide +kernel

theorem tuple_item_refused_raises :
    writeXml (docWith [secWith u2 "s" [pTup]]) = .error .parser := by
  simp [writeXml, tuple_item_refused.2.1]

/-- Siblings `a` and `a ` cannot be kept apart by the XML form: the writer refuses the document
    (finding `sibling_names_equal_after_trim`). Of the tree itself the strict reader refuses the
    file, the lenient reader loses the second sibling. -/
theorem name_clash_refused :
    wfDoc idLib (docWith [secWith u2 "a" [], secWith u3 "a " []]) = true ∧
    docRefused (docWith [secWith u2 "a" [], secWith u3 "a " []]) = true ∧
    view (readXml .strict idLib (writeTree (docWith [secWith u2 "a" [], secWith u3 "a " []]))) =
      .error .parser ∧
    view (readXml .lenient idLib (writeTree (docWith [secWith u2 "a" [], secWith u3 "a " []]))) =
      .ok [⟨some "a".toList, []⟩] := by
  unfold docWith u1 u2 u3
  repeat rw [String.toList_ofList]
  decide +kernel

/-! ## 5. The whole document: save, then load, gives the trimmed document back

The statement of the property: for every document the public API can build (`wfDoc`) that is
representable in odML-XML (`xmlRepr`: no numeric uncertainty, nothing the writer refuses), reading what the writer wrote returns the document itself up to the trimming of
surrounding white space, without a single warning — for documents of any size and any depth.

`docLower d` (every stored dtype is in lower case) is a third, decidable well-formedness
condition that `wfDoc` does not state: `Property.dtype` only ever holds lower-case names (the
constructor and the setter normalise, replayed on /repo), so no document built through the API
violates it, but the model universe `DocT` contains such documents and on them the statement is
false of the model (`dtype_case_counterexample`).  It is named in the statements below. -/

/-- **One Property element** (step 1 of the whole-document theorem): `parse_tag` on the element
    `save_element` emitted for a well-formed, representable Property returns the trimmed
    Property; the warning count `w` is unchanged (no unknown element, nothing given twice, the
    mandatory `name` present, the constructor accepts the arguments).  Any number of values,
    every dtype incl. n-tuples; either reader mode. -/
theorem prop_xml_roundtrip (m : Mode) (lib : TokLib) (tag : String) (p : PropT) (w : Nat)
    (hwf : propWf lib p = true) (hrepr : propRepr p = true) (hlow : propLower p = true) :
    readTag m lib .prop tag (writeProp p) w = .ok (.prop (trimProp p), w) :=
  prop_denote m lib _ _ (writeProp_denotes lib p hwf hrepr hlow) tag w

/-- **One Section with everything below it** (step 2: mutual structural induction over the
    Section tree; `SmartList.append` never refuses a child because sibling names are distinct
    after trimming). -/
theorem sec_xml_roundtrip (m : Mode) (lib : TokLib) (tag : String) (s : SecT) (w : Nat)
    (hwf : secWf lib s = true) (hrepr : secRepr s = true) (hlow : secLower s = true) :
    readTag m lib .sec tag (writeSec s) w = .ok (.sec (trimSec s), w) :=
  sec_denote m lib _ _ (writeSec_denotes lib s hwf hrepr hlow) tag w

/-- **C01, whole document, strict reader**: `XMLReader(ignore_errors=False)` applied to the
    tree `XMLWriter` built returns `trimDoc d` and no warning — any number of Sections and
    Properties, any nesting depth, any number of values.  The proof folds the per-key steps over
    the regenerated key tables in whatever order they list the keys. -/
theorem xml_roundtrip (lib : TokLib) (d : DocT) (hwf : wfDoc lib d = true)
    (hrepr : xmlRepr d = true) (hlow : docLower d = true) :
    readXml .strict lib (writeTree d) = .ok (trimDoc d, 0) :=
  doc_denote .strict lib _ _ (write_denotes lib d hwf hrepr hlow)

/-- The same for the lenient reader (`ignore_errors=True`): same document, no warning. -/
theorem xml_roundtrip_lenient (lib : TokLib) (d : DocT) (hwf : wfDoc lib d = true)
    (hrepr : xmlRepr d = true) (hlow : docLower d = true) :
    readXml .lenient lib (writeTree d) = .ok (trimDoc d, 0) :=
  doc_denote .lenient lib _ _ (write_denotes lib d hwf hrepr hlow)

/-- … and through `writeXml` (the writer does not raise on such a document unless a text is not
    XML compatible, in which case nothing is written, `xml_unrepresentable_chars`). -/
theorem xml_save_load (m : Mode) (lib : TokLib) (d : DocT) (x : X) (hwf : wfDoc lib d = true)
    (hrepr : xmlRepr d = true) (hlow : docLower d = true) (hx : writeXml d = .ok x) :
    readXml m lib x = .ok (trimDoc d, 0) := by
  have : x = writeTree d := by
    simp only [writeXml] at hx
    split at hx
    · cases hx
    · split at hx
      · cases hx; rfl
      · cases hx
  rw [this]
  exact doc_denote m lib _ _ (write_denotes lib d hwf hrepr hlow)

def pCase : PropT :=
  { defaultProp with id := some u3, name := some "p".toList, dtype := some "String".toList }

/-- Why `docLower` is in the statements: a `DocT` whose Property carries the dtype `String`
    satisfies `wfDoc` and `xmlRepr`, and the reader stores `string`.  (Not a defect of the code:
    `odml.Property(dtype="String").dtype == "string"`, so the public API cannot build it.) -/
theorem dtype_case_counterexample :
    wfDoc idLib (docWith [secWith u2 "s" [pCase]]) = true ∧
    xmlRepr (docWith [secWith u2 "s" [pCase]]) = true ∧
    docLower (docWith [secWith u2 "s" [pCase]]) = false ∧
    view (readXml .strict idLib (writeTree (docWith [secWith u2 "s" [pCase]]))) =
      .ok [⟨some "s".toList, [⟨some "p".toList, some "string".toList, [], none⟩]⟩] := by
  unfold docWith pCase u1 u2 u3
  repeat rw [String.toList_ofList]
  decide +kernel

/-! ## 6. Conformant XML written by another tool

`Xml.denote lib x` (defined in `Proofs/XmlRoundDenote.lean`) is the document a tree describes by
look-up, without the reader's loops and state: root `odML` with the format version, no other
attributes; every element a key of its class (tags in any letter case, elements in any order);
no argument given twice; mandatory arguments present; the leaf texts are the constructor
arguments (`<value>` through `from_csv`, cardinalities through `parse_cardinality`); child
elements are the sub-Sections / Properties in document order; names that `append` accepts.
It is `none` for a tree that is not conformant. -/

/-- **`xml_denote`**: on a conformant tree the reader — strict or lenient — returns exactly the
    document the tree denotes and not a single warning, for trees of any size and depth. -/
theorem xml_denote (lib : TokLib) (m : Mode) (x : X) (d : DocT) (h : denote lib x = some d) :
    readXml m lib x = .ok (d, 0) :=
  doc_denote m lib x d h

/-- … in particular the two reader modes agree on conformant trees. -/
theorem xml_strict_lenient_agree (lib : TokLib) (x : X) (d : DocT) (h : denote lib x = some d) :
    readXml .strict lib x = readXml .lenient lib x := by
  rw [xml_denote lib .strict x d h, xml_denote lib .lenient x d h]

/-- The same for a Section element and a Property element on their own. -/
theorem xml_denote_sec (lib : TokLib) (m : Mode) (x : X) (s : SecT) (tag : String) (w : Nat)
    (h : denoteSec lib x = some s) : readTag m lib .sec tag x w = .ok (.sec s, w) :=
  sec_denote m lib x s h tag w

theorem xml_denote_prop (lib : TokLib) (m : Mode) (x : X) (p : PropT) (tag : String) (w : Nat)
    (h : denoteProp lib x = some p) : readTag m lib .prop tag x w = .ok (.prop p, w) :=
  prop_denote m lib x p h tag w

/-- **The writer's output conforms to odML 1.1 in the sense of `denote`**: the tree built for a
    well-formed, representable document is in the domain of the denotation (known keys only,
    each argument once, mandatory arguments present, texts their dtype / cardinality admits,
    names that do not clash) and denotes the trimmed document — any size, any depth.
    Together with `xml_denote` this gives `xml_roundtrip` a second time. -/
theorem xml_write_denotes (lib : TokLib) (d : DocT) (hwf : wfDoc lib d = true)
    (hrepr : xmlRepr d = true) (hlow : docLower d = true) :
    denote lib (writeTree d) = some (trimDoc d) :=
  write_denotes lib d hwf hrepr hlow

/-! ## Non-vacuity: the hypotheses are met by concrete, non-trivial objects -/

example : valOk idLib "string".toList (.str "a,\"b\n".toList) = true := by decide
example : valOk idLib "int".toList (.int (-12)) = true := by decide
example : valOk idLib "float".toList (.tok "0.5".toList) = true := by decide
example : endsWith "-tuple" "string".toList = false := by decide
example : xmlRepr (docWith [secWith u2 "s" [pUnc]]) = false := by decide
example : xmlRepr (docWith [secWith u2 "s" [{ pUnc with uncertainty := none }]]) = true := by decide
example : view (readXml .strict idLib (writeTree (docWith [secWith u2 "s" [{ pUnc with uncertainty := none }]]))) =
    .ok [⟨some "s".toList, [⟨some "p".toList, some "int".toList, [.int 1], none⟩]⟩] := by decide +kernel

/-! ### a non-trivial document inside the hypotheses of `xml_roundtrip` -/

def u4 : Str := "00000000-0000-0000-0000-000000000004".toList
def u5 : Str := "00000000-0000-0000-0000-000000000005".toList
def u6 : Str := "00000000-0000-0000-0000-000000000006".toList
def u7 : Str := "0a1b2c3d-4e5f-6789-abcd-ef0123456789".toList

def exStr : PropT :=
  { defaultProp with id := some u5, name := some " words ".toList, dtype := some "string".toList,
                     values := [.str "a,b".toList, .str " c\" ".toList, .str "[x]".toList],
                     unit := some " mV ".toList, definition := some "".toList,
                     uncertainty := some ⟨false, " +-12".toList⟩, valCard := some (some 1, some 5) }
def exTup : PropT :=
  { defaultProp with id := some u6, name := some "pairs".toList, dtype := some "2-tuple".toList,
                     values := [.tuple ["1".toList, "2".toList], .tuple ["a\"b".toList, []]] }
def exInt : PropT :=
  { defaultProp with id := some u7, name := some "n".toList, dtype := some "int".toList,
                     values := [.int (-12), .int 7], valCard := some (none, some 2) }
def exInner : SecT :=
  .mk (some u3) (some "inner".toList) (some "t".toList) none none none none none [] [exInt] none none
def exA : SecT :=
  .mk (some u2) (some "setup ".toList) (some "recording".toList) (some "d,e\"f".toList) none none
    (some " http://x ".toList) none [exInner] [exStr, exTup] (some (some 1, none)) none
def exB : SecT :=
  .mk (some u4) (some "Setup".toList) (some "".toList) none none none none none [] [] none none
def exDoc : DocT :=
  { id := some u1, version := some " 1.0".toList, author := some "A. Author".toList,
    date := some "2020-01-02".toList, repository := none, secs := [exA, exB] }

theorem exDoc_ok : wfDoc idLib exDoc = true ∧ xmlRepr exDoc = true ∧ docLower exDoc = true := by
  unfold exDoc exA exB exInner exStr exTup exInt u1 u2 u3 u4 u5 u6 u7
  repeat rw [String.toList_ofList]
  decide +kernel

example : wfDoc idLib exDoc = true ∧ xmlRepr exDoc = true ∧ docLower exDoc = true := exDoc_ok
example : readXml .strict idLib (writeTree exDoc) = .ok (trimDoc exDoc, 0) :=
  xml_roundtrip idLib exDoc exDoc_ok.1 exDoc_ok.2.1 exDoc_ok.2.2
example : readXml .lenient idLib (writeTree exDoc) = .ok (trimDoc exDoc, 0) :=
  xml_roundtrip_lenient idLib exDoc exDoc_ok.1 exDoc_ok.2.1 exDoc_ok.2.2

/-! ### `denote` is defined on the written tree and on a tree another tool could have written -/

example : denote idLib (writeTree exDoc) = some (trimDoc exDoc) :=
  xml_write_denotes idLib exDoc exDoc_ok.1 exDoc_ok.2.1 exDoc_ok.2.2

/-- elements in another order, tags in another letter case, no ids, a bracketed value list -/
def foreignTree : X :=
  .elem "odML" [("version", "1.1".toList)] none
    [.elem "Section" [] none
      [.elem "NAME" [] (some " s1 ".toList) [],
       .elem "property" [] none
         [.elem "value" [] (some "[1,-2,3]".toList) [],
          .elem "Type" [] (some "int".toList) [],
          .elem "name" [] (some "p".toList) [],
          .elem "val_cardinality" [] (some "(1, None)".toList) []],
       .elem "section" [] none
         [.elem "type" [] (some "inner".toList) [], .elem "name" [] (some "sub".toList) []],
       .elem "type" [] (some "t".toList) []],
     .elem "author" [] (some "me".toList) []]

def asRead (o : Option DocT) : Except RErr (DocT × Nat) :=
  match o with
  | some d => .ok (d, 0)
  | none => .error .parser

theorem foreignTree_view : view (asRead (denote idLib foreignTree)) =
    .ok [⟨some "s1".toList, [⟨some "p".toList, some "int".toList, [.int 1, .int (-2), .int 3], none⟩]⟩] := by
  decide +kernel

example : view (asRead (denote idLib foreignTree)) =
    .ok [⟨some "s1".toList, [⟨some "p".toList, some "int".toList, [.int 1, .int (-2), .int 3], none⟩]⟩] :=
  foreignTree_view
example : readXml .strict idLib foreignTree = asRead (denote idLib foreignTree) := by
  cases h : denote idLib foreignTree with
  | none => have hv := foreignTree_view; rw [h] at hv; cases hv
  | some d => exact xml_denote idLib .strict foreignTree d h
/-! not conformant: an element given twice, a foreign element, a missing mandatory `name` -/
example : denote idLib (.elem "odML" [("version", "1.1".toList)] none
    [.elem "author" [] (some "a".toList) [], .elem "author" [] (some "b".toList) []]) = none := by
  decide +kernel
example : denote idLib (.elem "odML" [("version", "1.1".toList)] none
    [.elem "colour" [] (some "a".toList) []]) = none := by decide +kernel
example : denote idLib (.elem "odML" [("version", "1.1".toList)] none
    [.elem "section" [] none [.elem "type" [] (some "t".toList) []]]) = none := by decide +kernel

/-! ## 7. Never written in altered form: refused, or the round trip -/

/-- For every valid document (`wfDoc`, `docLower`) whose names and uncertainties are representable
    (`xmlReprU`: no numeric `uncertainty`, the open finding) the writer either raises
    - with `ParserException` for an n-tuple item holding a comma or a line break, a blank name or
    sibling names equal after trimming (`docRefused`), with lxml's `ValueError` for a character XML
    cannot hold - and writes nothing, or what it wrote
    loads back, in both reader modes, to the very document up to trimming, without a warning. -/
theorem xml_roundtrip_or_refused (m : Mode) (lib : TokLib) (d : DocT) (hwf : wfDoc lib d = true)
    (hn : xmlReprU d = true) (hlow : docLower d = true) :
    (∃ e, writeXml d = .error e) ∨
    (∃ x, writeXml d = .ok x ∧ readXml m lib x = .ok (trimDoc d, 0)) := by
  cases hnr : docRefused d with
  | true => exact Or.inl ⟨.parser, by simp [writeXml, hnr]⟩
  | false =>
    cases hok : xmlOk (writeTree d) with
    | false => exact Or.inl ⟨.valueError, by simp [writeXml, hnr, hok]⟩
    | true =>
      have hx : writeXml d = .ok (writeTree d) := by simp [writeXml, hnr, hok]
      exact Or.inr ⟨_, hx,
        xml_save_load m lib d _ hwf (xmlRepr_of_not_refused lib d hwf hn hnr) hlow hx⟩

/-- The refusal is exact: on valid documents the writer's `ParserException` is raised precisely
    for the documents the XML form cannot carry (tuple items, names). -/
theorem xml_refused_iff_not_repr (lib : TokLib) (d : DocT) (hwf : wfDoc lib d = true)
    (hn : xmlReprU d = true) : docRefused d = false ↔ xmlRepr d = true :=
  ⟨xmlRepr_of_not_refused lib d hwf hn, not_refused_of_xmlRepr d⟩

/-! ## 8. Typed values handed over as objects: the token contract made concrete

`xml_roundtrip` asks of a stored date / time / datetime value that its text re-types to itself
(`valOk`, `tokOk lib`).  With the library's own converters as `lib` (`stdLib`: the `strptime` models)
this holds for **every** `datetime.time / datetime / date` object a caller can hand over - time zone
aware or not, with microseconds, with `fold` -, because `time_get / datetime_get / date_get` store
the naive, whole-second value the format can express.  The counterexamples say what would happen to
an object stored as it came. -/

/-- A `datetime.time` of any shape is stored as a value the XML form carries: `time_get` yields
    the time without microseconds, offset and fold, and the text of that value is trimmed, not
    empty and read back (`dtypes.get(text, "time")`) as the same text. -/
theorem time_object_value_ok (o : TimeObj) (h : o.t.valid = true) :
    ∃ s, timeGetObj o = some s ∧ s = { o.t with us := 0 } ∧
      valOk stdLib "time".toList (.tok s.iso) = true :=
  ⟨_, DT.parseTime_hms h, rfl, valOk_time (valid_us0 h) rfl⟩

/-- The same for a `datetime.datetime` of any shape: `datetime_get` builds the naive datetime of
    the six fields of the format. -/
theorem datetime_object_value_ok (o : DateTimeObj) (h : o.x.valid = true) :
    ∃ s, datetimeGetObj o = some s ∧ s = ⟨o.x.date, { o.x.time with us := 0 }⟩ ∧
      valOk stdLib "datetime".toList (.tok s.str) = true := by
  simp only [DateTime.valid, Bool.and_eq_true] at h
  exact ⟨_, rfl, rfl, valOk_datetime
    (by simp only [DateTime.valid, Bool.and_eq_true]; exact ⟨h.1, valid_us0 h.2⟩) rfl⟩

/-- ... and for a `datetime.date` (also the Document's `date`). -/
theorem date_object_value_ok (d : Date) (h : d.valid = true) :
    dateGetObj d = some d ∧ valOk stdLib "date".toList (.tok d.iso) = true ∧
      dateOk stdLib (some d.iso) = true := by
  have hv := valOk_date h
  refine ⟨DT.parseDate_iso h, hv, ?_⟩
  simpa [valOk, tokKinds, dateOk] using hv

/-- Why the conversion matters: the own text of a time zone aware time (`10:15:30+00:00`) is not
    a text the reader takes for a time - stored as it came, the written file could not be loaded. -/
theorem aware_time_text_counterexample :
    (timeGetObj ⟨⟨10, 15, 30, 0⟩, some ⟨false, 0⟩, false⟩).map Time.iso = some "10:15:30".toList ∧
    stdTok "time" (TimeObj.str ⟨⟨10, 15, 30, 0⟩, some ⟨false, 0⟩, false⟩) = none := by decide +kernel

/-- ... nor is the text of a time with microseconds, or of an aware datetime. -/
theorem subsecond_time_text_counterexample :
    stdTok "time" (TimeObj.str ⟨⟨12, 0, 0, 250000⟩, none, false⟩) = none ∧
    stdTok "datetime" (DateTimeObj.str ⟨⟨⟨2020, 1, 2⟩, ⟨3, 4, 5, 0⟩⟩, some ⟨true, 19800⟩, false⟩) = none ∧
    dateGetDateTimeObj ⟨⟨⟨2020, 1, 2⟩, ⟨3, 4, 5, 0⟩⟩, none, false⟩ = none := by decide +kernel

end C01
