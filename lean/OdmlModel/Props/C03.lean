/-
C03 — A document is always a well-formed tree, whatever editing history produced it.

Property theorems only. Model: `Model/Heap.lean` (every structural editing operation of the
public API in Python statement order). Invariant `Heap.WF` and its preservation:
`Proofs/HeapWF.lean`, `HeapOps.lean`, `HeapSetItem.lean`, `HeapStep.lean`.

Operations covered by the theorems (`Heap.Op`): constructors with `parent=` /
create_section / create_property, append, insert, extend, remove, assigning `.parent` (to
another container, to None, to the current one, into the own subtree), item assignment on both
child lists, reorder, rename - applied to attached and detached objects, refused or not.
clone-then-attach, merge and link resolve/clean are *not* in `Heap.Op`; they are covered by the
second part of this file ("The extended operation set"): `Model/HeapExt.lean` models clone,
Section.merge, the link setter and clean/unmerge as programs over the primitive operations, and
`wf_reachable` is the statement of C03 over histories that mix all of them.
-/
import OdmlModel.Proofs.HeapQuery
import OdmlModel.Proofs.HeapExtCount

namespace C03
open Heap

/-- The full statement of C03 over the modelled operations: after any finite sequence of
    public editing operations, each of which succeeds or raises, the heap is well-formed. -/
def Statement : Prop := ∀ ops : List Op, WF (run empty ops)

/-- The starting point is well-formed. -/
theorem wf_empty : WF empty := Heap.wf_empty

/-- One operation, whatever it is and whether it succeeds or raises, keeps the heap well-formed. -/
theorem wf_step (h : H) (w : WF h) (op : Op) : WF (step h op).1 :=
  step_wf w op

/-- Every reachable state is well-formed: induction over the history, any length.
    (Named `_partial` because `Heap.Op` does not contain clone/merge/link; for the operations it
    does contain this is the full-strength statement `Statement`.) -/
theorem wf_reachable_partial : Statement :=
  fun ops => Reach.wf ⟨ops, rfl⟩ wf_empty

/-- The same from any well-formed starting state (e.g. a loaded document). -/
theorem wf_run (h : H) (w : WF h) (ops : List Op) : WF (run h ops) :=
  Reach.wf ⟨ops, rfl⟩ w

/-- `n` steps up the parent chain. -/
def up (h : H) : Nat → Nat → Option Nat
  | 0, c => some c
  | n + 1, c => match (h.node c).parent with
    | none => none
    | some p => up h n p

/-- "Consequently path, document and traversal queries always terminate":
    every parent chain ends after finitely many steps. -/
theorem parent_chain_terminates (h : H) (w : WF h) (c : Nat) : ∃ n, up h n c = none := by
  obtain ⟨d, hd⟩ := w.rank
  suffices ∀ k c, d c < k → up h k c = none from ⟨d c + 1, this _ c (Nat.lt_succ_self _)⟩
  intro k
  induction k with
  | zero => intro c hc; exact absurd hc (Nat.not_lt_zero _)
  | succ k ih =>
    intro c hc
    simp only [up]
    cases hp : (h.node c).parent with
    | none => rfl
    | some p =>
      have := hd c p hp
      exact ih p (by omega)

/-- No Section (or any object) is its own proper ancestor. -/
theorem not_own_ancestor (h : H) (w : WF h) (c p : Nat) (hp : (h.node c).parent = some p) :
    ¬ Anc h c p := not_anc_parent w hp

/-- Every object that reports a parent is contained exactly once in that parent's child list of
    its kind and in no other list; every listed child reports its container as parent. -/
theorem in_exactly_one_list (h : H) (w : WF h) (c p : Nat) (hp : (h.node c).parent = some p) :
    (((h.node c).kind = .sec ∧ (h.node p).secs.count c = 1) ∨
     ((h.node c).kind = .prop ∧ (h.node p).props.count c = 1)) ∧
    (∀ q, q ≠ p → c ∉ (h.node q).secs ∧ c ∉ (h.node q).props) ∧
    (∀ q c', c' ∈ (h.node q).secs ∨ c' ∈ (h.node q).props → (h.node c').parent = some q) := by
  refine ⟨?_, ?_, ?_⟩
  · rcases w.kind_of_parent hp with hk | hk
    · have h1 := (List.nodup_iff_count.mp (w.nodupS p)) c
      have h2 := List.count_pos_iff.mpr ((w.memS p c).mpr ⟨hp, hk⟩)
      exact Or.inl ⟨hk, by omega⟩
    · have h1 := (List.nodup_iff_count.mp (w.nodupP p)) c
      have h2 := List.count_pos_iff.mpr ((w.memP p c).mpr ⟨hp, hk⟩)
      exact Or.inr ⟨hk, by omega⟩
  · intro q hq
    constructor
    · intro hm; have := ((w.memS q c).mp hm).1; rw [hp] at this; exact hq (Option.some.inj this).symm
    · intro hm; have := ((w.memP q c).mp hm).1; rw [hp] at this; exact hq (Option.some.inj this).symm
  · intro q c' hm
    rcases hm with hm | hm
    · exact ((w.memS q c').mp hm).1
    · exact ((w.memP q c').mp hm).1

/-- An object's document is the root of its parent chain: the chain from any object ends in a
    unique parentless object, and only a Document or a detached object can be that root. -/
theorem document_is_chain_root (h : H) (w : WF h) (c : Nat) :
    ∃ r, Anc h r c ∧ (h.node r).parent = none ∧ ∀ r', Anc h r' c → (h.node r').parent = none → r' = r := by
  obtain ⟨d, hd⟩ := w.rank
  -- existence by strong induction on the rank
  have ex : ∀ k c, d c < k → ∃ r, Anc h r c ∧ (h.node r).parent = none := by
    intro k
    induction k with
    | zero => intro c hc; exact absurd hc (Nat.not_lt_zero _)
    | succ k ih =>
      intro c hc
      cases hp : (h.node c).parent with
      | none => exact ⟨c, Anc.refl c, hp⟩
      | some p =>
        have := hd c p hp
        obtain ⟨r, hr, hr0⟩ := ih p (by omega)
        exact ⟨r, Anc.step hp hr, hr0⟩
  obtain ⟨r, hr, hr0⟩ := ex (d c + 1) c (Nat.lt_succ_self _)
  refine ⟨r, hr, hr0, ?_⟩
  exact fun r' hr' hr0' => anc_root_unique hr' hr hr0' hr0

/-! ## Non-vacuity: concrete histories, including refused operations -/

def demoOps : List Op := [
  .construct .doc "" "d" none true,
  .construct .sec "a" "i1" (some 0) true,
  .construct .sec "b" "i2" (some 0) true,
  .construct .sec "x" "i3" (some 1) true,
  .append 2 3,              -- moves x from a to b
  .append 3 2,              -- refused: b is an ancestor of x
  .setParent 1 (some 3),    -- a below x
  .reorder 2 (-1),
  .rename 3 "",             -- falls back to the id
  .setItem 0 true 0 1       -- a (below x below b) takes the place of b in the document
]

example : (step (run empty (demoOps.take 5)) (.append 3 2)).2 = .raised .valueError := by decide +kernel
example : ((run empty (demoOps.take 5)).node 2).secs = [3] ∧
    ((run empty (demoOps.take 5)).node 1).secs = [] := by decide +kernel
example : ((run empty (demoOps.take 9)).node 3).name = "i3" := by decide +kernel

/-! ## The extended operation set: clone (+attach), merge, the link setter, clean

`Model/HeapExt.lean`: `XOp` = every primitive operation, `clone` (the copy is a new detached
object; attaching it is a following primitive operation), `merge`, `setLink` (clean the old
resolution, merge the Section found by the path, non-strict), `clean` (unmerge, recursively).
What the tree structure does not determine (Section types, outcome of the attribute checks of
merge_check / Property.merge, deep equality, ids of the copies) is an `Oracle`, arbitrary in
every theorem; so is the recursion budget `fuel`. -/

/-- The full statement of C03 over the extended operation set: after any finite history of
    primitive operations, clones, merges, link assignments and cleans - each of which succeeds
    or raises, whatever the oracle answers - the heap is well-formed. -/
def StatementX : Prop :=
  ∀ (fuel : Nat) (ops : List (Oracle × XOp)), WF (runX fuel X.empty ops).h

/-- One extended operation keeps the heap well-formed. -/
theorem wf_step_ext (fuel : Nat) (s : X) (w : WF s.h) (O : Oracle) (op : XOp) :
    WF (stepX fuel s O op).1.h :=
  stepX_inv (P := WF) (fun _ op w => step_wf w op) fuel s O op w

/-- Any history over the extended operation set, from any well-formed state. -/
theorem wf_run_ext (fuel : Nat) (s : X) (w : WF s.h) (ops : List (Oracle × XOp)) :
    WF (runX fuel s ops).h :=
  runX_inv (P := WF) (fun _ op w => step_wf w op) fuel ops s w

/-- C03 over the extended operation set (the full quantifier of the property). -/
theorem wf_reachable : StatementX :=
  fun fuel ops => wf_run_ext fuel X.empty wf_empty ops

/-- Refinement: the heap after an extended operation is the heap after some finite sequence of
    primitive operations (the appends, removes, allocations and id assignments it performs). -/
theorem ext_step_refines (fuel : Nat) (s : X) (O : Oracle) (op : XOp) :
    ∃ prims : List Op, run s.h prims = (stepX fuel s O op).1.h :=
  stepX_inv (P := Reach s.h) (fun _ op r => r.step op) fuel s O op (Reach.refl _)

/-- Every state reachable with the extended operations is reachable with primitive ones. -/
theorem ext_run_refines (fuel : Nat) (ops : List (Oracle × XOp)) :
    ∃ prims : List Op, run empty prims = (runX fuel X.empty ops).h :=
  runX_inv (P := Reach empty) (fun _ op r => r.step op) fuel ops X.empty (Reach.refl _)

/-- Parent chains end, in every state reachable with the extended operations. -/
theorem parent_chain_terminates_ext (fuel : Nat) (ops : List (Oracle × XOp)) (c : Nat) :
    ∃ n, up (runX fuel X.empty ops).h n c = none :=
  parent_chain_terminates _ (wf_reachable fuel ops) c

theorem not_own_ancestor_ext (fuel : Nat) (ops : List (Oracle × XOp)) (c p : Nat)
    (hp : ((runX fuel X.empty ops).h.node c).parent = some p) :
    ¬ Anc (runX fuel X.empty ops).h c p :=
  not_own_ancestor _ (wf_reachable fuel ops) c p hp

theorem in_exactly_one_list_ext (fuel : Nat) (ops : List (Oracle × XOp)) (c p : Nat)
    (hp : ((runX fuel X.empty ops).h.node c).parent = some p) :
    ((((runX fuel X.empty ops).h.node c).kind = .sec ∧
        ((runX fuel X.empty ops).h.node p).secs.count c = 1) ∨
     (((runX fuel X.empty ops).h.node c).kind = .prop ∧
        ((runX fuel X.empty ops).h.node p).props.count c = 1)) ∧
    (∀ q, q ≠ p → c ∉ ((runX fuel X.empty ops).h.node q).secs ∧
        c ∉ ((runX fuel X.empty ops).h.node q).props) ∧
    (∀ q c', c' ∈ ((runX fuel X.empty ops).h.node q).secs ∨
        c' ∈ ((runX fuel X.empty ops).h.node q).props →
        ((runX fuel X.empty ops).h.node c').parent = some q) :=
  in_exactly_one_list _ (wf_reachable fuel ops) c p hp

theorem document_is_chain_root_ext (fuel : Nat) (ops : List (Oracle × XOp)) (c : Nat) :
    ∃ r, Anc (runX fuel X.empty ops).h r c ∧ ((runX fuel X.empty ops).h.node r).parent = none ∧
      ∀ r', Anc (runX fuel X.empty ops).h r' c →
        ((runX fuel X.empty ops).h.node r').parent = none → r' = r :=
  document_is_chain_root _ (wf_reachable fuel ops) c

/-! ### The `.document` query (`Model/HeapQuery.lean`)

`document_is_chain_root` says that the parent chain has a unique root. The two theorems below are
about the *executable* model of the query itself - `Sectionable.document` (the loop
`while par.parent: par = par.parent`, whose test is the truthiness of the parent) and
`BaseObject.document` (Properties ask their Section) - which the correspondence run compares with
the implementation's `.document` of every object between the operations of a history: in every
reachable state, whatever was asked before, the query answers `r` exactly when `r` is the root of
the parent chain of the object and a Document (and nothing for an object whose chain ends in a
detached Section or Property). -/

/-- An object's document is the root of its parent chain (the query as the library computes it,
    with `size + 1` rounds for the walk, never stopped early by a falsy parent). -/
theorem document_query_is_chain_root (h : H) (w : WF h) (c : Nat) (hc : c < h.size) (r : Nat) :
    document h c = some r ↔
      (Anc h r c ∧ (h.node r).parent = none ∧ (h.node r).kind = .doc) :=
  document_spec w hc r

/-- The same in every state reachable by a history over the extended operation set: the answer
    depends on the state only - also after an ancestor of the object has been moved to another
    Document, below a Section of another Document, or detached. -/
theorem document_query_is_chain_root_ext (fuel : Nat) (ops : List (Oracle × XOp)) (c : Nat)
    (hc : c < (runX fuel X.empty ops).h.size) (r : Nat) :
    document (runX fuel X.empty ops).h c = some r ↔
      (Anc (runX fuel X.empty ops).h r c ∧ ((runX fuel X.empty ops).h.node r).parent = none ∧
        ((runX fuel X.empty ops).h.node r).kind = .doc) :=
  document_spec (wf_reachable fuel ops) hc r

/-- A detached object (its chain does not end in a Document) has no document. -/
theorem document_query_none (h : H) (w : WF h) (c : Nat) (hc : c < h.size) :
    document h c = none ↔
      ∀ r, Anc h r c → (h.node r).parent = none → (h.node r).kind ≠ .doc := by
  constructor
  · intro hn r ha h0 hk
    have := (document_spec w hc r).mpr ⟨ha, h0, hk⟩
    rw [hn] at this; cases this
  · intro hall
    cases hd : document h c with
    | none => rfl
    | some r =>
      obtain ⟨ha, h0, hk⟩ := (document_spec w hc r).mp hd
      exact absurd hk (hall r ha h0)

-- a (below x below b) sits in the document until the item assignment puts a in the place of b:
-- afterwards b and x below it are detached, and the answer for x has changed with the move of b
example : document (run empty (demoOps.take 9)) 1 = some 0 ∧
    document (run empty (demoOps.take 9)) 3 = some 0 := by decide +kernel
example : document (run empty demoOps) 1 = some 0 ∧ document (run empty demoOps) 3 = none ∧
    document (run empty demoOps) 2 = none := by decide +kernel

/-- A clone that succeeds yields a *detached* object: the copy (the next free handle) has no
    parent and is in no child list. -/
theorem clone_detached (fuel : Nat) (s : X) (O : Oracle) (x : Nat) (ch kid : Bool) (w : WF s.h)
    (hok : (stepX fuel s O (.clone x ch kid)).2 = .ok) :
    s.h.size < (stepX fuel s O (.clone x ch kid)).1.h.size ∧
    ((stepX fuel s O (.clone x ch kid)).1.h.node s.h.size).parent = none ∧
    ∀ p, s.h.size ∉ ((stepX fuel s O (.clone x ch kid)).1.h.node p).secs ∧
         s.h.size ∉ ((stepX fuel s O (.clone x ch kid)).1.h.node p).props := by
  have w' := wf_step_ext fuel s w O (.clone x ch kid)
  have he := stepX_clone_ok fuel s O x ch kid hok
  rw [he] at hok w' ⊢
  have sp := cloneAux_spec O fuel { s with orig := id } x ch kid w
  have hroot : (cloneAux O fuel { s with orig := id } x ch kid).2.1 = s.h.size := sp.root
  obtain ⟨hlt, hdet⟩ := sp.ok hok
  rw [hroot] at hlt hdet
  refine ⟨hlt, hdet, fun p => ⟨fun hm => ?_, fun hm => ?_⟩⟩
  · have := ((w'.memS p _).mp hm).1; rw [hdet] at this; cases this
  · have := ((w'.memP p _).mp hm).1; rw [hdet] at this; cases this

/-- Every object of the clone is fresh: no object that existed before is changed in any field
    (in particular none is moved into the copy, and no child list of the original is shared),
    and everything at or below the copy is a new object. -/
theorem clone_fresh (fuel : Nat) (s : X) (O : Oracle) (x : Nat) (ch kid : Bool) (w : WF s.h)
    (hok : (stepX fuel s O (.clone x ch kid)).2 = .ok) :
    (∀ i, i < s.h.size → (stepX fuel s O (.clone x ch kid)).1.h.node i = s.h.node i) ∧
    (∀ i, Anc (stepX fuel s O (.clone x ch kid)).1.h s.h.size i → s.h.size ≤ i) := by
  rw [stepX_clone_ok fuel s O x ch kid hok]
  have sp := cloneAux_spec O fuel { s with orig := id } x ch kid w
  have hs : Same s.h.size s.h (cloneAux O fuel { s with orig := id } x ch kid).1.h := sp.same
  refine ⟨hs.2, fun i ha => ?_⟩
  rcases Nat.lt_or_ge i s.h.size with hi | hi
  · have := anc_old w hs ha hi; omega
  · exact hi

/-- `clone` terminates: on a well-formed heap a recursion budget of the number of objects is never
    used up (the copy is as deep as the original, and a parent chain of a well-formed heap has no
    repetition), so the model's `.fuel` answer does not occur for it. -/
theorem clone_terminates (fuel : Nat) (s : X) (O : Oracle) (x : Nat) (ch kid : Bool) (w : WF s.h)
    (hf : s.h.size ≤ fuel) : (stepX fuel s O (.clone x ch kid)).2 ≠ .fuel := by
  rw [stepX_clone]
  refine ite_no_fuel (fun _ => nofun) (fun hg => ?_)
  · have hx : x < s.h.size := lt_of_not_any hg (by simp)
    exact cloneAux_no_fuel O w (P := fun y => y < s.h.size)
      ⟨fun _ h => h, fun y _ c hc => w.child_lt ((w.memS y c).mp hc).1,
        fun y _ c hc => w.child_lt ((w.memP y c).mp hc).1⟩
      fuel { s with orig := id } x ch kid [] (Kept.refl w _) hx (Below.root hx)
      (by simpa using hf)

/-- clone followed by attach (or by any other primitive operation on the copy). -/
theorem clone_then_attach_wf (fuel : Nat) (s : X) (w : WF s.h) (O O' : Oracle) (x : Nat)
    (ch kid : Bool) (attach : Op) :
    WF (runX fuel s [(O, .clone x ch kid), (O', .prim attach)]).h :=
  wf_run_ext fuel s w _

/-- `merge` never moves, removes, renames or re-kinds an object that existed before (of the
    destination, of the source or anywhere else): kinds, names, ids and parents are unchanged
    and child lists only grow at the end, by new objects (the copies). Whether it succeeds or
    raises half-way (a KeyError of `append`; the name clash with a Section of another type,
    former finding C13/section-name-clash-other-type, is refused before anything changes). -/
theorem merge_only_adds (fuel : Nat) (s : X) (O : Oracle) (dest src : Nat) (w : WF s.h) :
    Adds s.h.size s.h (stepX fuel s O (.merge dest src)).1.h := by
  rw [stepX_merge]
  exact ite_keep (Q := fun t : X => Adds s.h.size s.h t.h) (fun _ => Adds.refl _ _) (fun _ =>
    ite_keep (Q := fun t : X => Adds s.h.size s.h t.h) (fun _ => Adds.refl _ _) (fun _ =>
      (mergeAux_adds O (Nat.le_refl _) fuel { s with orig := id } _ dest src ⟨w, Adds.refl _ _⟩).2))

/-- `merge_only_adds` spelled out for one object `i` that existed before the merge. -/
theorem merge_keeps_existing (fuel : Nat) (s : X) (O : Oracle) (dest src : Nat) (w : WF s.h)
    (i : Nat) (hi : i < s.h.size) :
    ((stepX fuel s O (.merge dest src)).1.h.node i).parent = (s.h.node i).parent ∧
    ((stepX fuel s O (.merge dest src)).1.h.node i).kind = (s.h.node i).kind ∧
    ((stepX fuel s O (.merge dest src)).1.h.node i).name = (s.h.node i).name ∧
    (∃ l, ((stepX fuel s O (.merge dest src)).1.h.node i).secs = (s.h.node i).secs ++ l ∧
       ∀ c ∈ l, s.h.size ≤ c) ∧
    (∃ l, ((stepX fuel s O (.merge dest src)).1.h.node i).props = (s.h.node i).props ++ l ∧
       ∀ c ∈ l, s.h.size ≤ c) := by
  obtain ⟨hk, hn, _, hp, hs, hpr⟩ := (merge_only_adds fuel s O dest src w).2 i hi
  exact ⟨hp, hk, hn, hs, hpr⟩

/-- `clean` (and with it `unmerge`) only detaches: no object is created, no kind or name changes, an
    object's parent afterwards is its parent before or none, child lists only lose entries - whether
    it succeeds or raises (RuntimeError of `unmerge`, ValueError of `get_relative_path`). -/
theorem clean_only_detaches (fuel : Nat) (s : X) (O : Oracle) (x : Nat) (w : WF s.h) :
    Detaches s.h (stepX fuel s O (.clean x)).1.h := by
  rw [stepX_clean]
  exact ite_keep (Q := fun t : X => Detaches s.h t.h) (fun _ => Detaches.refl _) (fun _ =>
    ite_keep (Q := fun t : X => Detaches s.h t.h) (fun _ => Detaches.refl _) (fun _ =>
      (cleanAux_cinv s.h O fuel { s with orig := id } x ⟨w, Detaches.refl _⟩).2))

/-! ### The link setter after a refused merge (fixes 592a7e3, dccf4ba) -/

/-- every attribute comparison of `merge_check` fails (nothing can be merged); the link stored on
    object 2 designates object 1 -/
def demoOracleRefusing : Oracle :=
  { ty := fun _ => "t", secOk := fun _ _ => false, propOk := fun _ _ => true,
    eq := fun a b => a == b, relOk := fun _ _ => true, ids := fun i => s!"n{i}",
    oldLink := fun i => if i = 2 then some 1 else none }

/-- A link assignment to a Section whose link is not resolved - it has none, or one that is only
    stored - does nothing but `clean()` and the merge of the new target: when the merge is refused,
    the state is the one the refused merge left and the outcome is its outcome; the stored link is
    not assigned again (former finding C03/refused-link-reresolved-without-end). -/
theorem stored_link_not_reassigned (O : Oracle) (fuel : Nat) (s s1 s2 : X) (x t : Nat) (out : XOut)
    (hp : (s.h.node x).parent ≠ none) (hr : s.resolved x = false)
    (hc : cleanIfLinked O fuel s x = (s1, .ok)) (hm : mergeAux O fuel s1 true x t = (s2, out))
    (hne : out ≠ .ok) :
    setLinkAux O fuel s x (.path (some t)) = (s2, out) := by
  unfold setLinkAux
  split
  · rename_i h; exact absurd h hp
  · simp only [hc, hm, hr, Bool.false_eq_true, if_false]
    cases out with
    | ok => exact absurd rfl hne
    | raised e => rfl
    | runtime => rfl
    | fuel => rfl

/-- The same for the assignment made by the `except` branch itself (`self.merge()`): when it
    starts from a Section whose link is not resolved - as `clean()` leaves it - its result is the
    result of the merge, it cannot nest further. -/
theorem reresolve_does_not_nest (O : Oracle) (fuel : Nat) (s s1 : X) (x t0 : Nat)
    (ho : O.oldLink x = some t0) (hr : s.resolved x = false)
    (hc : cleanIfLinked O fuel s x = (s1, .ok)) :
    relinkAux O (fuel + 1) s x = mergeAux O fuel s1 true x t0 := by
  unfold relinkAux
  simp only [ho, hc, hr, Bool.false_eq_true, if_false]
  generalize mergeAux O fuel s1 true x t0 = r
  obtain ⟨s2, out⟩ := r
  cases out <;> rfl

/-- Witness of the former finding: doc(0) / a(1), doc / x(2); `x` carries a stored link to `a`
    that was never resolved, and no Section can be merged into `x`. -/
def storedLinkState : X :=
  { (runX 10 X.empty [
      (demoOracleRefusing, .prim (.construct .doc "" "d" none true)),
      (demoOracleRefusing, .prim (.construct .sec "a" "i1" (some 0) true)),
      (demoOracleRefusing, .prim (.construct .sec "x" "i2" (some 0) true))]) with
    link := fun i => i == 2 }

/-- Before fix 592a7e3 the refused assignment `x.link = <path of a>` never came back: the
    `except` branch assigned the stored link again, whatever the recursion budget. -/
theorem legacy_relink_runs_out_of_budget (fuel : Nat) :
    (relinkLegacy demoOracleRefusing fuel storedLinkState 2).2 = .fuel := by
  have hclean : ∀ f, cleanIfLinked demoOracleRefusing f storedLinkState 2 = (storedLinkState, .ok) ∨
      cleanIfLinked demoOracleRefusing f storedLinkState 2 = (storedLinkState, .fuel) := by
    intro f
    cases f with
    | zero => right; rfl
    | succ f =>
      cases f with
      | zero => right; rfl
      | succ f => left; rfl
  have hmerge : ∀ f, mergeAux demoOracleRefusing f storedLinkState true 2 1 = (storedLinkState, .fuel) ∨
      mergeAux demoOracleRefusing f storedLinkState true 2 1 = (storedLinkState, .raised .valueError) := by
    intro f
    cases f with
    | zero => left; rfl
    | succ f =>
      cases f with
      | zero => left; rfl
      | succ f => right; rfl
  induction fuel with
  | zero => rfl
  | succ f ih =>
    unfold relinkLegacy
    have ho : demoOracleRefusing.oldLink 2 = some 1 := rfl
    simp only [ho]
    rcases hclean f with h | h
    · rcases hmerge f with h2 | h2
      · simp only [h, h2]
      · simp only [h, h2]; exact ih
    · simp only [h]

/-- With the fix the same assignment is refused with the ValueError of the merge and changes
    nothing, for every budget that lets `clean()` and the merge check run at all. -/
theorem stored_link_refused_unchanged (fuel : Nat) :
    setLinkAux demoOracleRefusing (fuel + 2) storedLinkState 2 (.path (some 1)) =
      (storedLinkState, .raised .valueError) := by
  have h1 : cleanIfLinked demoOracleRefusing (fuel + 2) storedLinkState 2 = (storedLinkState, .ok) := rfl
  have h2 : mergeAux demoOracleRefusing (fuel + 2) storedLinkState true 2 1 =
      (storedLinkState, .raised .valueError) := rfl
  exact stored_link_not_reassigned _ _ _ _ _ _ _ _ (by decide) (by decide) h1 h2 (by decide)

/-! ## The recursion budget (`fuel`) of the extended operations

`.fuel` is the model's answer when the recursion budget is used up (Python: RecursionError or no
termination). `clone_terminates` above shows that it is dead for clone. The theorems below do the
same for clean / unmerge, merge and the link setter (`Proofs/HeapExtFuel.lean`), and show that
the budget has no other influence: an answer that is not `.fuel` is the answer for every larger
budget. -/

/-- Fuel monotonicity, for every operation of the extended set, every state and every oracle:
    once an operation answers (anything but `.fuel`), every larger budget gives the same answer
    *and the same state*. No hypothesis. -/
theorem budget_monotone (fuel fuel' : Nat) (s : X) (O : Oracle) (op : XOp) (hle : fuel ≤ fuel')
    (h : (stepX fuel s O op).2 ≠ .fuel) : stepX fuel' s O op = stepX fuel s O op :=
  stepX_le hle s O op h

/-- Two budgets under which an operation answers give the same result. -/
theorem budget_irrelevant (f1 f2 : Nat) (s : X) (O : Oracle) (op : XOp)
    (h1 : (stepX f1 s O op).2 ≠ .fuel) (h2 : (stepX f2 s O op).2 ≠ .fuel) :
    stepX f1 s O op = stepX f2 s O op := by
  rcases Nat.le_total f1 f2 with h | h
  · exact (budget_monotone f1 f2 s O op h h1).symm
  · exact budget_monotone f2 f1 s O op h h2

/-- Budget monotonicity of the recursive procedures themselves: merge and, in the three theorems
    that follow, unmerge, clean, the link setter. -/
theorem merge_budget_monotone (O : Oracle) (fuel fuel' : Nat) (s : X) (record : Bool) (dest src : Nat)
    (hle : fuel ≤ fuel') (h : (mergeAux O fuel s record dest src).2 ≠ .fuel) :
    mergeAux O fuel' s record dest src = mergeAux O fuel s record dest src :=
  mergeAux_le O fuel fuel' hle s record dest src h

theorem unmerge_budget_monotone (O : Oracle) (fuel fuel' : Nat) (s : X) (self target : Nat)
    (hle : fuel ≤ fuel') (h : (unmergeAux O fuel s self target).2 ≠ .fuel) :
    unmergeAux O fuel' s self target = unmergeAux O fuel s self target :=
  unmergeAux_le O fuel fuel' hle s self target h

theorem clean_budget_monotone (O : Oracle) (fuel fuel' : Nat) (s : X) (x : Nat)
    (hle : fuel ≤ fuel') (h : (cleanAux O fuel s x).2 ≠ .fuel) :
    cleanAux O fuel' s x = cleanAux O fuel s x :=
  cleanAux_le O fuel fuel' hle s x h

theorem link_budget_monotone (O : Oracle) (fuel fuel' : Nat) (s : X) (x : Nat) (v : LinkVal)
    (hle : fuel ≤ fuel') (h : (setLinkAux O fuel s x v).2 ≠ .fuel) :
    setLinkAux O fuel' s x v = setLinkAux O fuel s x v :=
  setLinkAux_le O hle s x v h

/-- `unmerge` terminates: on a well-formed heap a budget of `2 * size + 1` is never used up,
    whatever Sections `self` and `target` are and whatever the oracle answers (the recursion
    descends along child edges the heap had at the start - unmerge only removes -, a parent chain
    has no repetition, and a live child list never gets longer than `size`). -/
theorem unmerge_terminates (fuel : Nat) (s : X) (O : Oracle) (self target : Nat) (w : WF s.h)
    (hs : 0 < s.h.size) (hf : 2 * s.h.size + 1 ≤ fuel) :
    (unmergeAux O fuel s self target).2 ≠ .fuel :=
  unmergeAux_no_fuel O w fuel s self target [] ⟨w, Detaches.refl _⟩ (fun ht => Below.root ht)
    (by simp only [List.length_nil]; omega) (by simpa using hf)

/-- `clean` terminates: on a well-formed heap a budget of `3 * size + 2` is never used up. -/
theorem clean_terminates (fuel : Nat) (s : X) (O : Oracle) (x : Nat) (w : WF s.h)
    (hf : 3 * s.h.size + 2 ≤ fuel) : (stepX fuel s O (.clean x)).2 ≠ .fuel := by
  rw [stepX_clean]
  exact ite_no_fuel (fun _ => nofun) (fun hg => ite_no_fuel (fun _ => nofun) (fun _ =>
    cleanAux_no_fuel O w fuel { s with orig := id } x [] ⟨w, Detaches.refl _⟩
      (Below.root (lt_of_not_any hg (by simp))) (by simpa using hf)))

/-- ... and its result is the same for all budgets from `3 * size + 2` on. -/
theorem clean_budget_independent (f1 f2 : Nat) (s : X) (O : Oracle) (x : Nat) (w : WF s.h)
    (h1 : 3 * s.h.size + 2 ≤ f1) (h2 : 3 * s.h.size + 2 ≤ f2) :
    stepX f1 s O (.clean x) = stepX f2 s O (.clean x) :=
  budget_irrelevant f1 f2 s O (.clean x) (clean_terminates f1 s O x w h1) (clean_terminates f2 s O x w h2)

/-- `merge` terminates when destination and source are *apart* - neither is the other or above the
    other (`apart`: the library's own `_check_no_cycle` walk from each of the two does not meet the
    other): on a well-formed heap a budget of `2 * size + 2` is never used up, whatever the oracle
    answers and however many copies the merge makes (the recursion descends along child edges of
    the source, which the merge - it only touches what is at or below the destination, and new
    objects - leaves as they were; the loops over the source's child lists therefore see lists of
    constant length). This is the hypothesis that excludes the case noted in DESIGN 0.3 / design.d:
    a Section linked to its own ancestor (`ancestor_link_unfolds` below). -/
theorem merge_terminates (fuel : Nat) (s : X) (O : Oracle) (dest src : Nat) (w : WF s.h)
    (ha : apart s.h dest src = true) (hf : 2 * s.h.size + 2 ≤ fuel) :
    (stepX fuel s O (.merge dest src)).2 ≠ .fuel := by
  rw [stepX_merge]
  exact ite_no_fuel (fun _ => nofun) (fun hg => ite_no_fuel (fun _ => nofun) (fun _ =>
    mergeAux_no_fuel_apart O fuel { s with orig := id } _ dest src w
      (apart_spec w ha (lt_of_not_any hg (by simp))) hf))

/-- ... and its result is the same for all budgets from `2 * size + 2` on. -/
theorem merge_budget_independent (f1 f2 : Nat) (s : X) (O : Oracle) (dest src : Nat) (w : WF s.h)
    (ha : apart s.h dest src = true) (h1 : 2 * s.h.size + 2 ≤ f1) (h2 : 2 * s.h.size + 2 ≤ f2) :
    stepX f1 s O (.merge dest src) = stepX f2 s O (.merge dest src) :=
  budget_irrelevant f1 f2 s O (.merge dest src) (merge_terminates f1 s O dest src w ha h1)
    (merge_terminates f2 s O dest src w ha h2)

/-- The link setter terminates. Hypothesis `linkApart`: a Section designated by the assigned path
    is apart from `x`; and, needed only if the link of `x` is resolved when the assignment begins,
    so is the Section its previous link designates (which the `except` branch merges again when
    the new merge is refused). The budget `linkBudget` is computed from the state: `3 * size + 2`
    for `None` / a falsy value / a path that finds nothing; for a path that designates `t`, three
    times the number of objects after `clean()` and the merge of `t` plus 3 (a refused merge may
    have added copies before it raised, and the `except` branch cleans and merges in that state).
    After `clean()` the Section is not resolved and a refused merge leaves it so, hence the
    `except` branch does not nest (fix 592a7e3; before it: `legacy_relink_runs_out_of_budget`). -/
theorem link_terminates (fuel : Nat) (s : X) (O : Oracle) (x : Nat) (v : LinkVal) (w : WF s.h)
    (ha : linkApart O { s with orig := id } x v = true)
    (hf : linkBudget O { s with orig := id } x v ≤ fuel) :
    (stepX fuel s O (.setLink x v)).2 ≠ .fuel := by
  rw [stepX_setLink]
  obtain ⟨h1, h2⟩ := linkApart_spec (s := { s with orig := id }) w ha
  refine ite_no_fuel (fun _ => nofun) (fun hg => ite_no_fuel (fun _ => nofun) (fun hk => ?_))
  refine setLinkAux_no_fuel O fuel { s with orig := id } x v w
    (lt_of_not_any hg (setLink_handles x v)) (Decidable.of_not_not hk) ?_ h2 hf
  exact fun t hv => h1 t hv (lt_of_not_any hg (by subst hv; simp [XOp.handles]))

/-- The plain case: the link of `x` is not resolved when the assignment begins (no link, or one
    that is only stored). Budget `3 * size + 2`. -/
theorem link_terminates_unresolved (fuel : Nat) (s : X) (O : Oracle) (x : Nat) (v : LinkVal)
    (w : WF s.h) (hr : s.resolved x = false)
    (ha : ∀ t, v = .path (some t) → apart s.h x t = true)
    (hf : 3 * s.h.size + 2 ≤ fuel) :
    (stepX fuel s O (.setLink x v)).2 ≠ .fuel := by
  rw [stepX_setLink]
  refine ite_no_fuel (fun _ => nofun) (fun hg => ite_no_fuel (fun _ => nofun) (fun _ => ?_))
  refine setLinkAux_no_fuel_unresolved O fuel { s with orig := id } x v w
    (lt_of_not_any hg (setLink_handles x v)) hr ?_ hf
  exact fun t hv => apart_spec w (ha t hv) (lt_of_not_any hg (by subst hv; simp [XOp.handles]))

/-- ... and the result of the link setter is the same for all budgets from `linkBudget` on. -/
theorem link_budget_independent (f1 f2 : Nat) (s : X) (O : Oracle) (x : Nat) (v : LinkVal)
    (w : WF s.h) (ha : linkApart O { s with orig := id } x v = true)
    (h1 : linkBudget O { s with orig := id } x v ≤ f1)
    (h2 : linkBudget O { s with orig := id } x v ≤ f2) :
    stepX f1 s O (.setLink x v) = stepX f2 s O (.setLink x v) :=
  budget_irrelevant f1 f2 s O (.setLink x v) (link_terminates f1 s O x v w ha h1)
    (link_terminates f2 s O x v w ha h2)

/-- Histories: if every operation of a history answers within the budget, the whole history ends in
    the same state under every larger budget. -/
theorem run_budget_monotone (fuel fuel' : Nat) (hle : fuel ≤ fuel') :
    ∀ (ops : List (Oracle × XOp)) (s : X),
      (∀ (pre : List (Oracle × XOp)) (op : Oracle × XOp) (post : List (Oracle × XOp)),
        ops = pre ++ op :: post → (stepX fuel (runX fuel s pre) op.1 op.2).2 ≠ .fuel) →
      runX fuel' s ops = runX fuel s ops := by
  intro ops
  induction ops with
  | nil => intro s _; rfl
  | cons op ops ih =>
    intro s h
    have h0 := h [] op ops rfl
    have e0 := budget_monotone fuel fuel' s op.1 op.2 hle h0
    show runX fuel' (stepX fuel' s op.1 op.2).1 ops = runX fuel (stepX fuel s op.1 op.2).1 ops
    rw [e0]
    apply ih
    intro pre o post hops
    have := h (op :: pre) o post (by rw [hops]; rfl)
    exact this

/-- The three termination statements for the states the property quantifies over: every state
    reachable by a history over the extended operation set (which is well-formed, `wf_reachable`). -/
theorem reachable_ops_terminate (fuel0 : Nat) (ops : List (Oracle × XOp)) (O : Oracle) (fuel : Nat) :
    (∀ x, 3 * (runX fuel0 X.empty ops).h.size + 2 ≤ fuel →
      (stepX fuel (runX fuel0 X.empty ops) O (.clean x)).2 ≠ .fuel) ∧
    (∀ dest src, apart (runX fuel0 X.empty ops).h dest src = true →
      2 * (runX fuel0 X.empty ops).h.size + 2 ≤ fuel →
      (stepX fuel (runX fuel0 X.empty ops) O (.merge dest src)).2 ≠ .fuel) ∧
    (∀ x v, linkApart O { runX fuel0 X.empty ops with orig := id } x v = true →
      linkBudget O { runX fuel0 X.empty ops with orig := id } x v ≤ fuel →
      (stepX fuel (runX fuel0 X.empty ops) O (.setLink x v)).2 ≠ .fuel) :=
  ⟨fun x hf => clean_terminates fuel _ O x (wf_reachable fuel0 ops) hf,
   fun dest src ha hf => merge_terminates fuel _ O dest src (wf_reachable fuel0 ops) ha hf,
   fun x v ha hf => link_terminates fuel _ O x v (wf_reachable fuel0 ops) ha hf⟩

/-! #### Histories: a budget computed from the history suffices -/

/-- The hypothesis of the termination theorems, per operation (`true` where none is needed). -/
def opHyp (s : X) (O : Oracle) : XOp → Bool
  | .merge dest src =>
    -- (an operand that is not a Section is refused at once)
    (s.h.node dest).kind != .sec || (s.h.node src).kind != .sec || apart s.h dest src
  | .setLink x v => (s.h.node x).kind != .sec || linkApart O { s with orig := id } x v
  | _ => true

/-- The budget of the termination theorems, per operation, computed from the state. -/
def opBudget (s : X) (O : Oracle) : XOp → Nat
  | .prim _ => 0
  | .clone _ _ _ => s.h.size
  | .merge _ _ => 2 * s.h.size + 2
  | .setLink x v => linkBudget O { s with orig := id } x v
  | .clean _ => 3 * s.h.size + 2

/-- All five kinds of operation in one statement: on a well-formed heap, under `opHyp`, a budget of
    `opBudget` is never used up. -/
theorem op_terminates (fuel : Nat) (s : X) (O : Oracle) (op : XOp) (w : WF s.h)
    (hh : opHyp s O op = true) (hf : opBudget s O op ≤ fuel) : (stepX fuel s O op).2 ≠ .fuel := by
  cases op with
  | prim p =>
    rw [stepX_prim]
    exact ite_no_fuel (fun _ => nofun) (fun _ => prim_no_fuel _ _)
  | clone x ch kid => exact clone_terminates fuel s O x ch kid w hf
  | merge dest src =>
    simp only [opHyp, Bool.or_eq_true, bne_iff_ne] at hh
    rcases hh with hk | ha
    · rw [stepX_merge]
      exact ite_no_fuel (fun _ => nofun) (fun _ => ite_no_fuel (fun _ => nofun) (fun h => absurd hk h))
    · exact merge_terminates fuel s O dest src w ha hf
  | setLink x v =>
    simp only [opHyp, Bool.or_eq_true, bne_iff_ne] at hh
    rcases hh with hk | ha
    · exact setLink_refused fuel s O x v hk
    · exact link_terminates fuel s O x v w ha hf
  | clean x => exact clean_terminates fuel s O x w hf

/-- Budget and hypothesis of a whole history: those of each operation in the state the history
    has reached by then (run, operation by operation, with the budget of that operation). -/
def histBudget : X → List (Oracle × XOp) → Nat
  | _, [] => 0
  | s, op :: ops =>
    max (opBudget s op.1 op.2) (histBudget (stepX (opBudget s op.1 op.2) s op.1 op.2).1 ops)

def histHyp : X → List (Oracle × XOp) → Bool
  | _, [] => true
  | s, op :: ops =>
    opHyp s op.1 op.2 && histHyp (stepX (opBudget s op.1 op.2) s op.1 op.2).1 ops

/-- Every finite history whose merges and link assignments keep destination and source apart
    terminates: with any budget from `histBudget` on, no operation of it answers `.fuel`, and the
    final state does not depend on the budget. (A finite run of `Document.finalize()` over links
    that are apart from their targets is such a history.) -/
theorem history_terminates : ∀ (ops : List (Oracle × XOp)) (s : X), WF s.h → histHyp s ops = true →
    ∀ fuel, histBudget s ops ≤ fuel →
      (∀ (pre : List (Oracle × XOp)) (op : Oracle × XOp) (post : List (Oracle × XOp)),
        ops = pre ++ op :: post → (stepX fuel (runX fuel s pre) op.1 op.2).2 ≠ .fuel) ∧
      runX fuel s ops = runX (histBudget s ops) s ops := by
  intro ops
  induction ops with
  | nil =>
    intro s _ _ fuel _
    refine ⟨?_, rfl⟩
    intro pre op post h
    cases pre <;> cases h
  | cons op ops ih =>
    intro s w hh fuel hf
    unfold histHyp at hh
    simp only [Bool.and_eq_true] at hh
    unfold histBudget at hf ⊢
    have hb : opBudget s op.1 op.2 ≤ fuel := Nat.le_trans (Nat.le_max_left _ _) hf
    have hb' : histBudget (stepX (opBudget s op.1 op.2) s op.1 op.2).1 ops ≤ fuel :=
      Nat.le_trans (Nat.le_max_right _ _) hf
    have t0 := op_terminates (opBudget s op.1 op.2) s op.1 op.2 w hh.1 (Nat.le_refl _)
    have e1 : stepX fuel s op.1 op.2 = stepX (opBudget s op.1 op.2) s op.1 op.2 :=
      budget_monotone _ _ s op.1 op.2 hb t0
    have e2 : stepX (max (opBudget s op.1 op.2)
          (histBudget (stepX (opBudget s op.1 op.2) s op.1 op.2).1 ops)) s op.1 op.2 =
        stepX (opBudget s op.1 op.2) s op.1 op.2 :=
      budget_monotone _ _ s op.1 op.2 (Nat.le_max_left _ _) t0
    have w' : WF (stepX (opBudget s op.1 op.2) s op.1 op.2).1.h := wf_step_ext _ s w op.1 op.2
    obtain ⟨ih1, ih2⟩ := ih _ w' hh.2 fuel hb'
    obtain ⟨_, ih3⟩ := ih _ w' hh.2 (max (opBudget s op.1 op.2)
      (histBudget (stepX (opBudget s op.1 op.2) s op.1 op.2).1 ops)) (Nat.le_max_right _ _)
    refine ⟨?_, ?_⟩
    · intro pre o post h
      cases pre with
      | nil =>
        simp only [List.nil_append, List.cons.injEq] at h
        rw [← h.1]
        show (stepX fuel s op.1 op.2).2 ≠ .fuel
        rw [e1]; exact t0
      | cons p pre' =>
        simp only [List.cons_append, List.cons.injEq] at h
        rw [← h.1]
        show (stepX fuel (runX fuel (stepX fuel s op.1 op.2).1 pre') o.1 o.2).2 ≠ .fuel
        rw [e1]
        exact ih1 pre' o post h.2
    · show runX fuel (stepX fuel s op.1 op.2).1 ops =
        runX _ (stepX (max (opBudget s op.1 op.2)
          (histBudget (stepX (opBudget s op.1 op.2) s op.1 op.2).1 ops)) s op.1 op.2).1 ops
      rw [e1, e2, ih2, ih3]

/-- A merge whose source is apart from the destination at most doubles the number of objects:
    every object it adds is a copy of a different object at or below the source
    (`Proofs/HeapExtCount.lean`). For every budget and oracle, whether it succeeds or raises. -/
theorem merge_at_most_doubles (fuel : Nat) (s : X) (O : Oracle) (dest src : Nat) (w : WF s.h)
    (ha : apart s.h dest src = true) :
    (stepX fuel s O (.merge dest src)).1.h.size ≤ 2 * s.h.size := by
  rw [stepX_merge]
  have h0 : s.h.size ≤ 2 * s.h.size := Nat.le_mul_of_pos_left _ (by decide)
  exact ite_keep (Q := fun t : X => t.h.size ≤ 2 * s.h.size) (fun _ => h0) (fun hg =>
    ite_keep (Q := fun t : X => t.h.size ≤ 2 * s.h.size) (fun _ => h0) (fun _ =>
      mergeAux_size_le O fuel { s with orig := id } _ dest src w
        (apart_spec w ha (lt_of_not_any hg (by simp))) (fun _ _ => rfl)))

/-- The link setter with a closed budget: under `linkApart`, `6 * size + 3` is never used up
    (`linkBudget ≤ 6 * size + 3`, by `merge_at_most_doubles`). -/
theorem link_terminates_closed (fuel : Nat) (s : X) (O : Oracle) (x : Nat) (v : LinkVal) (w : WF s.h)
    (ha : linkApart O { s with orig := id } x v = true) (hf : 6 * s.h.size + 3 ≤ fuel) :
    (stepX fuel s O (.setLink x v)).2 ≠ .fuel := by
  by_cases hg : (XOp.setLink x v).handles.any (fun i => i ≥ s.h.size) = true
  · rw [stepX_setLink, if_pos hg]; exact nofun
  · refine link_terminates fuel s O x v w ha (Nat.le_trans ?_ hf)
    obtain ⟨h1, _⟩ := linkApart_spec (s := { s with orig := id }) w ha
    refine linkBudget_le O { s with orig := id } x v w ?_ (fun _ _ => rfl)
    exact fun t hv => h1 t hv (lt_of_not_any hg (by subst hv; simp [XOp.handles]))

/-- ... and its result is the same for all budgets from `6 * size + 3` on. -/
theorem link_budget_independent_closed (f1 f2 : Nat) (s : X) (O : Oracle) (x : Nat) (v : LinkVal)
    (w : WF s.h) (ha : linkApart O { s with orig := id } x v = true)
    (h1 : 6 * s.h.size + 3 ≤ f1) (h2 : 6 * s.h.size + 3 ≤ f2) :
    stepX f1 s O (.setLink x v) = stepX f2 s O (.setLink x v) :=
  budget_irrelevant f1 f2 s O (.setLink x v) (link_terminates_closed f1 s O x v w ha h1)
    (link_terminates_closed f2 s O x v w ha h2)

/-- One bound for every operation: on a well-formed heap, under `opHyp`, a budget of
    `6 * size + 3` is never used up by any operation of the extended set. -/
theorem op_terminates_uniform (fuel : Nat) (s : X) (O : Oracle) (op : XOp) (w : WF s.h)
    (hh : opHyp s O op = true) (hf : 6 * s.h.size + 3 ≤ fuel) : (stepX fuel s O op).2 ≠ .fuel := by
  cases op with
  | setLink x v =>
    simp only [opHyp, Bool.or_eq_true, bne_iff_ne] at hh
    rcases hh with hk | ha
    · exact setLink_refused fuel s O x v hk
    · exact link_terminates_closed fuel s O x v w ha hf
  | prim p => exact op_terminates fuel s O _ w hh (Nat.zero_le _)
  | clone x ch kid => exact op_terminates fuel s O _ w hh (show s.h.size ≤ fuel by omega)
  | merge dest src => exact op_terminates fuel s O _ w hh (show 2 * s.h.size + 2 ≤ fuel by omega)
  | clean x => exact op_terminates fuel s O _ w hh (show 3 * s.h.size + 2 ≤ fuel by omega)

/-! ### Non-vacuity of the extended part -/

def demoOracle : Oracle :=
  { ty := fun _ => "t", secOk := fun _ _ => true, propOk := fun _ _ => true,
    eq := fun a b => a == b, relOk := fun _ _ => true, ids := fun i => s!"n{i}" }

/-- doc(0) / a(1) / x(3), doc / b(2); clone a, attach the copy to b; merge a into b/a'. -/
def demoXOps : List (Oracle × XOp) := [
  (demoOracle, .prim (.construct .doc "" "d" none true)),
  (demoOracle, .prim (.construct .sec "a" "i1" (some 0) true)),
  (demoOracle, .prim (.construct .sec "b" "i2" (some 0) true)),
  (demoOracle, .prim (.construct .sec "x" "i3" (some 1) true)),
  (demoOracle, .clone 1 true false),          -- copy 4 with child 5
  (demoOracle, .prim (.append 2 4)),
  (demoOracle, .merge 2 0),                   -- refused: the source is not a Section
  (demoOracle, .merge 2 1),                   -- b gets a copy of x (6)
  (demoOracle, .setLink 4 (.path (some 1))),
  (demoOracle, .clean 0)
]

example : ((runX 10 X.empty (demoXOps.take 6)).h.node 2).secs = [4] ∧
    ((runX 10 X.empty (demoXOps.take 6)).h.node 4).secs = [5] := by decide +kernel
example : (stepX 10 (runX 10 X.empty (demoXOps.take 6)) demoOracle (.merge 2 0)).2 =
    .raised .attributeError := by decide +kernel
example : ((runX 10 X.empty (demoXOps.take 8)).h.node 2).secs = [4, 6] := by decide +kernel
example : (runX 10 X.empty (demoXOps.take 9)).merged 4 = some 1 := by decide +kernel
example : (runX 10 X.empty demoXOps).merged 4 = none := by decide +kernel

/-! #### The hypotheses are satisfiable, and what they exclude -/

-- the state after the first eight operations of `demoXOps`: doc(0) / a(1) / x(3),
-- doc / b(2) / a'(4) / x'(5), b / x''(6): a' and a are apart, x and a are not
example : WF (runX 10 X.empty (demoXOps.take 8)).h := wf_run_ext _ _ Heap.wf_empty _
example : apart (runX 10 X.empty (demoXOps.take 8)).h 4 1 = true := by decide +kernel
example : linkApart demoOracle { runX 10 X.empty (demoXOps.take 8) with orig := id } 4
    (.path (some 1)) = true := by decide +kernel
example : apart (runX 10 X.empty (demoXOps.take 8)).h 3 1 = false := by decide +kernel

-- the whole demo history satisfies the hypothesis, with a budget of 24
example : histHyp X.empty demoXOps = true ∧ histBudget X.empty demoXOps = 24 := by decide +kernel

/-- doc(0) / a(1) / x(2), and `x` carries a stored link to `a`, its own parent. -/
def ancestorLinkState : X :=
  { (runX 10 X.empty [
      (demoOracle, .prim (.construct .doc "" "d" none true)),
      (demoOracle, .prim (.construct .sec "a" "i1" (some 0) true)),
      (demoOracle, .prim (.construct .sec "x" "i2" (some 1) true))]) with
    link := fun i => i == 2 }

def ancestorRound1 : X × XOut := stepX 50 ancestorLinkState demoOracle (.setLink 2 (.path (some 1)))
def ancestorRound2 : X × XOut := stepX 50 ancestorRound1.1 demoOracle (.setLink 3 (.path (some 1)))
def ancestorRound3 : X × XOut := stepX 50 ancestorRound2.1 demoOracle (.setLink 5 (.path (some 1)))

/-- The case the hypothesis `apart` excludes, as a witness: a Section linked to its own ancestor.
    Every single assignment answers (here with budget 50), but resolving the link of `x` puts a copy
    of `x` - carrying the same stored link - below `x`; resolving the link of that copy puts a copy
    of the grown `x` below it, and so on: after the rounds 1, 2, 3 there are 4, 6, 10 objects, and
    the deepest one (3, 5, 9) is again a childless Section with a stored link. A traversal that
    resolves every stored link it meets (`Document.finalize()`) is handed a new one by every
    step. `apart` is false for this pair. -/
theorem ancestor_link_unfolds :
    apart ancestorLinkState.h 2 1 = false ∧
    (ancestorRound1.2 = .ok ∧ ancestorRound1.1.h.size = 4 ∧ (ancestorRound1.1.h.node 3).secs = [] ∧
      (ancestorRound1.1.h.node 3).parent = some 2 ∧ ancestorRound1.1.link 3 = true) ∧
    (ancestorRound2.2 = .ok ∧ ancestorRound2.1.h.size = 6 ∧ (ancestorRound2.1.h.node 5).secs = [] ∧
      (ancestorRound2.1.h.node 5).parent = some 4 ∧ ancestorRound2.1.link 5 = true ∧
      ancestorRound2.1.merged 5 = none) ∧
    (ancestorRound3.2 = .ok ∧ ancestorRound3.1.h.size = 10 ∧ (ancestorRound3.1.h.node 9).secs = [] ∧
      (ancestorRound3.1.h.node 9).parent = some 8 ∧ ancestorRound3.1.link 9 = true ∧
      ancestorRound3.1.merged 9 = none) := by
  decide +kernel

end C03
