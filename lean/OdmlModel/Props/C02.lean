/-
C02 — JSON and YAML save/load are lossless and keep the odML 1.1 layout.

Property theorems only; helper lemmas are in `Proofs/Dict*`.
Model: `Model/Dict.lean`, `Model/DictDoc.lean` (tied to /repo by `harness/c02.py`).
-/
import OdmlModel.Proofs.DictRefuse

namespace C02
open Dict

/-- Every key the three writers can emit is accepted by `is_valid_attribute` of the same format
    class, and the reader maps it to a keyword argument of the constructor (tables regenerated
    from /repo/odml/format.py on every run). -/
theorem format_keys_valid :
    (docLayoutKeys.all (isValidAttr Gen.Format.documentArgs Gen.Format.documentMap) = true) ∧
    (secLayoutKeys.all (isValidAttr Gen.Format.sectionArgs Gen.Format.sectionMap) = true) ∧
    (propLayoutKeys.all (isValidAttr Gen.Format.propertyArgs Gen.Format.propertyMap) = true) ∧
    ((docLayoutKeys.filter (· != "sections")).all
        (fun k => docKwargs.contains (mapKey Gen.Format.documentMap k)) = true) ∧
    ((secLayoutKeys.filter (fun k => k != "sections" && k != "properties")).all
        (fun k => secKwargs.contains (mapKey Gen.Format.sectionMap k)) = true) ∧
    (propLayoutKeys.all (fun k => propKwargs.contains (mapKey Gen.Format.propertyMap k)) = true) :=
  ⟨List.all_eq_true.2 docLayout_valid, List.all_eq_true.2 secLayout_valid,
   List.all_eq_true.2 propLayout_valid, by decide +kernel, by decide +kernel,
   List.all_eq_true.2 fun k hk => List.contains_iff_mem.2 (propFacts.kw k hk)⟩

/-- The written structure is the odML 1.1 dictionary layout: root keys exactly `Document` and
    `odml-version` (= FORMAT_VERSION), below only keys defined by the format tables, no key twice,
    for every document (any size, any attribute values). -/
theorem dict_layout (d : Doc) : layoutOK (wrap (writeDoc d)) = true :=
  layoutOK_write d

/-- A structure in the odML 1.1 layout produced elsewhere loads to the document it describes:
    whenever the independent look-up semantics `denote` assigns a document to a dictionary (any
    size, keys in any order), `DictReader.to_odml` returns exactly that document, with an empty
    warning list, with `ignore_errors` off and on. -/
theorem dict_denote (lib : Lib) (m : Mode) (j : J) (d : Doc) (h : denote lib j = some d) :
    readDict lib m j = .ok (d, []) :=
  readDict_denote lib m j d h

/-- On a dictionary in the layout the strict and the lenient reader return the same document. -/
theorem strict_lenient_agree (lib : Lib) (j : J) (d : Doc) (h : denote lib j = some d) :
    readDict lib .strict j = readDict lib .lenient j := by
  rw [dict_denote lib .strict j d h, dict_denote lib .lenient j d h]

/-- A key the format does not define: the strict reader raises `ParserException` at that key,
    the lenient reader records one warning and goes on with the remaining keys. -/
theorem foreign_key_strict (k : String) (v : J) (r attrs : List (String × J)) (ws : List Warn)
    (h : isValidAttr Gen.Format.propertyArgs Gen.Format.propertyMap k = false) :
    scanPropKeys .strict ((k, v) :: r) attrs ws = .error .parser := by
  simp [scanPropKeys, h, errorM]

theorem foreign_key_lenient (k : String) (v : J) (r attrs : List (String × J)) (ws : List Warn)
    (h : isValidAttr Gen.Format.propertyArgs Gen.Format.propertyMap k = false) :
    scanPropKeys .lenient ((k, v) :: r) attrs ws =
      scanPropKeys .lenient r attrs (ws ++ [.invalidAttr k]) := by
  simp [scanPropKeys, h, errorM]

/-! ## Round trip -/

/-- The full-strength statement of the property over the model: every valid document comes back
    unchanged (same tree, order, ids, attributes, dtypes, cardinalities, typed values), without
    warnings, through every transport that keeps the scalar classes, in both reader modes. -/
def C02_statement : Prop :=
  ∀ (lib : Lib) (t : Transport) (m : Mode) (d : Doc), ScalarCodec t → wfDoc lib d = true →
    readDict lib m (t.apply (wrap (writeDoc d))) = .ok (d, [])

/-- Save then load is the identity, for documents of any size:
    valid (`wfDoc`), attribute values among None / bool / int / float / str and no comma inside an
    item of an odML n-tuple (`dictRepr`; this includes the falsy attribute values 0, 0.0, False, ""
    and n-tuple values of any arity). `t` is any transport satisfying the json / yaml scalar
    contract, with any key order. -/
theorem dict_roundtrip_partial (lib : Lib) (t : Transport) (m : Mode) (d : Doc) (sc : ScalarCodec t)
    (hwf : wfDoc lib d = true) (hr : dictRepr d = true) :
    readDict lib m (t.apply (wrap (writeDoc d))) = .ok (d, []) :=
  readDict_denote lib m _ d (denote_write sc lib d hwf hr)

/-- The written dictionary is in the domain of `denote` and denotes the document itself. -/
theorem write_denotes (lib : Lib) (t : Transport) (d : Doc) (sc : ScalarCodec t)
    (hwf : wfDoc lib d = true) (hr : dictRepr d = true) :
    denote lib (t.apply (wrap (writeDoc d))) = some d :=
  denote_write sc lib d hwf hr

/-- The three concrete transports: the dictionary handed over in memory, JSON (date, time and
    datetime objects come back as strings), YAML (times come back as strings, keys sorted). -/
theorem roundtrip_direct (lib : Lib) (m : Mode) (d : Doc)
    (hwf : wfDoc lib d = true) (hr : dictRepr d = true) :
    readDict lib m (Transport.direct.apply (wrap (writeDoc d))) = .ok (d, []) :=
  dict_roundtrip_partial lib _ m d direct_codec hwf hr

theorem roundtrip_json (lib : Lib) (m : Mode) (d : Doc)
    (hwf : wfDoc lib d = true) (hr : dictRepr d = true) :
    readDict lib m (Transport.json.apply (wrap (writeDoc d))) = .ok (d, []) :=
  dict_roundtrip_partial lib _ m d json_codec hwf hr

theorem roundtrip_yaml (lib : Lib) (m : Mode) (d : Doc)
    (hwf : wfDoc lib d = true) (hr : dictRepr d = true) :
    readDict lib m (Transport.yaml.apply (wrap (writeDoc d))) = .ok (d, []) :=
  dict_roundtrip_partial lib _ m d yaml_codec hwf hr

/-- JSON and YAML always load to the same document as each other (both are `readDict` of the same
    written dictionary, seen through two transports), in any combination of reader modes.
    Remark: the XML pipeline (C01) yields the same document up to its whitespace trimming. -/
theorem json_yaml_agree (lib : Lib) (m₁ m₂ : Mode) (d : Doc)
    (hwf : wfDoc lib d = true) (hr : dictRepr d = true) :
    readDict lib m₁ (Transport.json.apply (wrap (writeDoc d))) =
    readDict lib m₂ (Transport.yaml.apply (wrap (writeDoc d))) := by
  rw [roundtrip_json lib m₁ d hwf hr, roundtrip_yaml lib m₂ d hwf hr]

/-- Round trip of one Property dictionary (the unit the key loop works on). -/
theorem prop_roundtrip (lib : Lib) (t : Transport) (m : Mode) (p : Prp) (ws : List Warn)
    (sc : ScalarCodec t) (hwf : wfProp lib p = true) (hr : reprProp p = true) :
    parseProp lib m (t.apply (writeProp p)) ws = .ok (some p, ws) :=
  parseProp_denote lib m _ p ws (denoteProp_write sc lib p hwf hr)

/-- Stored cardinalities survive: the list form written for a cardinality is parsed and
    re-formatted to the same cardinality (reuses C09.persist_list and C09.stored_fixpoint). -/
theorem card_roundtrip (t : Transport) (sc : ScalarCodec t) (c : Card.Card) (h : cardOk c = true) :
    readCard ((optOf (cardJ c)).map t.apply) = .ok c :=
  readCard_cardJ sc c h

/-! ## Witnesses -/

/-- A library instance for closed examples (identity on the canonical tokens). -/
def idLib : Lib :=
  { uuid := some, pyInt := fun _ => none, pyFloat := fun _ => none, floatOfInt := fun _ => none,
    intOfFloat := fun _ => none, dateOfStr := some, timeOfStr := some, datetimeOfStr := some,
    timeNorm := some, datetimeNorm := some }

/-- A Property with every falsy-but-set attribute (uncertainty 0, dependency value False,
    unit "") and YAML-retypable strings as values. -/
def falsyProp : Prp :=
  { id := "i", name := .str "yes", values := [.str "null", .str "1e3", .str " x "],
    unit := .str "", definition := .null, dependency := .null, dependencyValue := .bool false,
    uncertainty := .int 0, reference := .null, dtype := some "string", valueOrigin := .float "0.0",
    valCard := some (some 2, some 2) }

def falsyDoc : Doc :=
  { id := "d", version := .int 0, author := .str "", date := .date "2020-01-02", repository := .null,
    secs := [.mk "s" (.str "null") (.str "t") .null .null .null .null .null none (some (none, some 3))
              [falsyProp] []] }

theorem falsyDoc_valid : wfDoc idLib falsyDoc = true ∧ dictRepr falsyDoc = true := by
  decide +kernel

/-- The hypotheses of the round-trip theorem are satisfiable by a document full of falsy
    attribute values, which therefore survives JSON and YAML (fixed defect: they were dropped). -/
example : wfDoc idLib falsyDoc = true ∧ dictRepr falsyDoc = true :=
  falsyDoc_valid

theorem falsy_attributes_kept (m : Mode) :
    readDict idLib m (Transport.json.apply (wrap (writeDoc falsyDoc))) = .ok (falsyDoc, []) ∧
    readDict idLib m (Transport.yaml.apply (wrap (writeDoc falsyDoc))) = .ok (falsyDoc, []) :=
  ⟨roundtrip_json idLib m falsyDoc falsyDoc_valid.1 falsyDoc_valid.2,
   roundtrip_yaml idLib m falsyDoc falsyDoc_valid.1 falsyDoc_valid.2⟩

example : denote idLib (wrap (writeDoc falsyDoc)) = some falsyDoc :=
  apply_direct (wrap (writeDoc falsyDoc)) ▸
    write_denotes idLib Transport.direct falsyDoc direct_codec falsyDoc_valid.1 falsyDoc_valid.2

/-- A Property holding two 2-tuples (items with spaces, quotes, brackets inside). -/
def tupleProp : Prp :=
  { id := "i", name := .str "p", values := [.arr [.str "a b", .str "(c"], .arr [.str "\"", .str "]"]],
    unit := .null, definition := .null, dependency := .null, dependencyValue := .null,
    uncertainty := .null, reference := .null, dtype := some "2-tuple", valueOrigin := .null,
    valCard := none }

/-- n-tuple values are inside the proved round trip (non-vacuity of `dictRepr` for tuples). -/
example (m : Mode) : parseProp idLib m (Transport.json.apply (writeProp tupleProp)) [] =
    .ok (some tupleProp, []) :=
  prop_roundtrip idLib _ m tupleProp [] json_codec (by decide +kernel) (by decide +kernel)

/-- An n-tuple Property whose item contains a comma. -/
def commaProp : Prp :=
  { id := "i", name := .str "p", values := [.arr [.str "a,b", .str "c"]],
    unit := .null, definition := .null, dependency := .null, dependencyValue := .null,
    uncertainty := .null, reference := .null, dtype := some "2-tuple", valueOrigin := .null,
    valCard := none }

/-- Never written in altered form: for every valid document whose optional attributes are
    None / bool / int / float / str, the writer either raises `ParserException` (`writeRefused`,
    nothing is written) or the saved text loads back to the very same document, without warnings,
    in both reader modes, through every transport satisfying the scalar contract. -/
theorem dict_roundtrip_or_refused (lib : Lib) (t : Transport) (m : Mode) (d : Doc)
    (sc : ScalarCodec t) (hwf : wfDoc lib d = true) (ha : atomsDoc d = true) :
    writeRefused d = true ∨ readDict lib m (t.apply (wrap (writeDoc d))) = .ok (d, []) := by
  cases hnr : writeRefused d with
  | true => exact Or.inl rfl
  | false =>
    exact Or.inr (dict_roundtrip_partial lib t m d sc hwf (dictRepr_of_not_refused lib d hwf ha hnr))

/-- The refusal is exact: on valid documents the writer refuses precisely those the bracketed
    tuple text cannot carry (a comma inside an n-tuple item). -/
theorem refused_iff_not_repr (lib : Lib) (d : Doc) (hwf : wfDoc lib d = true)
    (ha : atomsDoc d = true) : writeRefused d = false ↔ dictRepr d = true :=
  ⟨dictRepr_of_not_refused lib d hwf ha, not_refused_of_dictRepr d⟩

/-- `C02_statement` at full strength is false of the code as it is: a valid n-tuple Property
    whose item contains a comma is refused by the writer (ParserException, since fix 0846f56) -
    so such a document cannot be saved as JSON / YAML at all; the text the unfixed writer produced,
    `[(a,b;c)]`, is split at every comma by the values setter (strict reader: ParserException,
    lenient reader: the Property is dropped with a warning). Known finding C02-tuple-item-comma. -/
theorem tuple_comma_counterexample :
    wfProp idLib commaProp = true ∧ propWriteRefused commaProp = true ∧
    parseProp idLib .strict (writeProp commaProp) [] = .error .parser ∧
    parseProp idLib .lenient (writeProp commaProp) [] = .ok (none, [.propNotCreated]) := by
  have h : ∀ m, parseProp idLib m (.obj (pairs (propSlots commaProp))) [] =
      (errorM m .propNotCreated []).map fun w => (none, w) := fun _ => rfl
  rw [writeProp_eq]
  exact ⟨by decide +kernel, by decide +kernel, h .strict, h .lenient⟩

end C02
