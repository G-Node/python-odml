/-
C18 — Background loading of terminologies/templates is transparent in every schedule.

The model is `Model/Loader.lean` (small-step interleaving semantics of load / _load /
deferred_load / refresh / cache_load for one caller and the loader threads it spawns, tied to
/repo by `harness/c18.py` + `harness/sched.py`).  Helpers: `Proofs/Loader.lean` (base
invariant), `LoaderProgress` (deadlock freedom), `LoaderMeasure` (termination), `LoaderNode`
(node values), `LoaderFinal` (no `refresh`).

Every theorem quantifies over every acyclic include graph `g` (`Acyclic g rank`), every
initial cache, every caller program (any sequence of deferred_load / load / refresh) and
every schedule.

Outside the model (*partial* w.r.t. the property text): fairness-based termination of
real threads, the GIL, OS scheduling, network timeouts.
-/
import OdmlModel.Proofs.LoaderMeasure
import OdmlModel.Proofs.LoaderNode
import OdmlModel.Proofs.LoaderFinal

namespace C18
open Loader

/-- A state reachable from the initial state of a caller program under some schedule. -/
def Reachable (g : Url → Res) (cache0 : Url → CacheSt) (prog : List Op) (s : State) : Prop :=
  ∃ sched : List Nat, s = runSched g (init cache0 prog) sched

theorem reachable_inv (g : Url → Res) (rank : Url → Nat) (acyc : Acyclic g rank)
    (cache0 : Url → CacheSt) (prog : List Op) (s : State) (hs : Reachable g cache0 prog s) :
    Inv g rank cache0 s := by
  obtain ⟨sched, rfl⟩ := hs
  exact runSched_inv acyc sched _ (init_inv g rank cache0 prog)

/-! ## 0. The specification is "parse the resource directly and finalise it" -/

/-- `resolve` of a parsable resource is the document with every include resolved in document
    order; of an unfetchable or unparsable one it is `None`. -/
theorem resolve_is_direct_parse (g : Url → Res) (rank : Url → Nat) (acyc : Acyclic g rank) (u : Url) :
    (∀ incs, g u = .doc incs → resolve g rank u = .node u (incs.map (resolve g rank))) ∧
    (g u = .missing → resolve g rank u = .fail) ∧ (g u = .garbage → resolve g rank u = .fail) :=
  ⟨fun _ h => resolve_doc acyc h, fun h => resolve_fail (by simp [h]), fun h => resolve_fail (by simp [h])⟩

/-! ## 1. The result of a load does not depend on the schedule -/

/-- Whatever the schedule, whatever deferred loads ran before or run concurrently: what a
    completed `load(k)` returned has the content `resolve g k` (for a parsable resource: the
    fully resolved document; otherwise `None`). -/
theorem load_result_schedule_independent (g : Url → Res) (rank : Url → Nat) (acyc : Acyclic g rank)
    (cache0 : Url → CacheSt) (prog : List Op) (s : State) (hs : Reachable g cache0 prog s)
    (r : Result) (hr : r ∈ s.results) (k : Key) (hop : r.op = .load k) :
    r.val.content = resolve g rank k.url ∧
    (∀ incs, g k.url = .doc incs →
      ∃ o, r.val = some o ∧ o.tree = .node k.url (incs.map (resolve g rank))) ∧
    ((∀ incs, g k.url ≠ .doc incs) → r.val.content = .fail) := by
  have hi := reachable_inv g rank acyc cache0 prog s hs
  have hc := ((hi.results r hr).2 k hop).1
  refine ⟨hc, ?_, ?_⟩
  · intro incs hg
    rw [resolve_doc acyc hg] at hc
    cases hv : r.val with
    | none => rw [hv] at hc; cases hc
    | some o => rw [hv] at hc; exact ⟨o, rfl, hc⟩
  · exact fun hne => hc.trans (resolve_fail hne)

/-- `load(k)` returns `None` itself exactly when the resource cannot be fetched or parsed (a
    document object is only ever built from a parsed document: no completed operation, and no
    table entry, is an object without content). -/
theorem load_none_iff_unloadable (g : Url → Res) (rank : Url → Nat) (acyc : Acyclic g rank)
    (cache0 : Url → CacheSt) (prog : List Op) (s : State) (hs : Reachable g cache0 prog s)
    (r : Result) (hr : r ∈ s.results) (k : Key) (hop : r.op = .load k) :
    (r.val = none ↔ ∀ incs, g k.url ≠ .doc incs) := by
  have h3 : NodeInv s := by
    obtain ⟨sched, rfl⟩ := hs
    exact runSched_nodeInv acyc sched _ (init_inv g rank cache0 prog) (init_nodeInv cache0 prog)
  obtain ⟨_, hdoc, hfail⟩ := load_result_schedule_independent g rank acyc cache0 prog s hs r hr k hop
  constructor
  · intro hnone incs hg
    obtain ⟨o, ho, _⟩ := hdoc incs hg
    rw [hnone] at ho
    cases ho
  · intro hne
    have hc := hfail hne
    cases hv : r.val with
    | none => rfl
    | some o =>
      obtain ⟨u, kids, ht⟩ := h3.resNV r hr o hv
      rw [hv] at hc
      simp [Val.content, ht] at hc

/-- Two schedules of the same program give the same content for the same load. -/
example (g : Url → Res) (rank : Url → Nat) (acyc : Acyclic g rank) (cache0 : Url → CacheSt)
    (prog : List Op) (s1 s2 : State) (h1 : Reachable g cache0 prog s1) (h2 : Reachable g cache0 prog s2)
    (r1 r2 : Result) (hr1 : r1 ∈ s1.results) (hr2 : r2 ∈ s2.results) (k : Key)
    (ho1 : r1.op = .load k) (ho2 : r2.op = .load k) : r1.val.content = r2.val.content := by
  rw [(load_result_schedule_independent g rank acyc cache0 prog s1 h1 r1 hr1 k ho1).1,
      (load_result_schedule_independent g rank acyc cache0 prog s2 h2 r2 hr2 k ho2).1]

/-- Every entry ever published in one of the tables is the fully resolved document. -/
theorem table_entries_resolved (g : Url → Res) (rank : Url → Nat) (acyc : Acyclic g rank)
    (cache0 : Url → CacheSt) (prog : List Op) (s : State) (hs : Reachable g cache0 prog s)
    (k : Key) (v : Val) (hv : s.sh.loaded k = some v) : v.content = resolve g rank k.url :=
  (reachable_inv g rank acyc cache0 prog s hs).table k v hv

/-! ## 2. Later loads return the same cached object until refresh -/

/-- Two loads of the same key completed in the same refresh epoch (no `clear()` in between)
    returned the very same object (same identity, not just equal content); and while the epoch
    lasts that object is the table entry. -/
theorem cached_identity (g : Url → Res) (rank : Url → Nat) (acyc : Acyclic g rank)
    (cache0 : Url → CacheSt) (prog : List Op) (s : State) (hs : Reachable g cache0 prog s)
    (r r' : Result) (hr : r ∈ s.results) (hr' : r' ∈ s.results) (k : Key)
    (hop : r.op = .load k) (hop' : r'.op = .load k) (o o' : Obj)
    (hv : r.val = some o) (hv' : r'.val = some o') (he : r.epoch = r'.epoch) :
    o = o' ∧ (r.epoch = s.sh.epoch → s.sh.loaded k = some (some o)) := by
  have hi := reachable_inv g rank acyc cache0 prog s hs
  exact ⟨hi.resSame r hr r' hr' k o o' hop hop' hv hv' he, ((hi.results r hr).2 k hop).2 o hv⟩

/-! ## 3. A failed fetch never creates or overwrites a cache file -/

/-- The cache file of an unfetchable URL is in every reachable state exactly what it was
    initially (absent stays absent, stale stays stale) and has never been written. -/
theorem cache_monotone (g : Url → Res) (rank : Url → Nat) (acyc : Acyclic g rank)
    (cache0 : Url → CacheSt) (prog : List Op) (s : State) (hs : Reachable g cache0 prog s)
    (u : Url) (hu : g u = .missing) : s.sh.cache u = cache0 u ∧ s.sh.wcount u = 0 :=
  (reachable_inv g rank acyc cache0 prog s hs).cache u hu

/-- The statement-order fact behind it: `cache_load` of an unfetchable URL changes no cache file. -/
theorem failed_fetch_writes_nothing (g : Url → Res) (sh : Shared) (k : Key) (hk : g k.url = .missing) :
    (fetch g sh k).1.cache = sh.cache ∧ (fetch g sh k).1.wcount = sh.wcount :=
  ⟨funext fun _ => (fetch_frame g sh k (.inr hk)).1, funext fun _ => (fetch_frame g sh k (.inr hk)).2⟩

/-! ## 4. No call raises (the model's error transitions are unreachable) -/

/-- The model turns into its error state when a frame returns to a caller that does not wait
    for it (in Python: the include setter would receive a value it cannot use) or when a frame
    that waits for a callee is asked to run.  No schedule reaches such a state: the call/return
    discipline of load / _load / finalize / include holds in every interleaving.  (Look-ups are
    total in the modelled code - `loading.get`, `pop(url, None)`, the `None` check of the
    include setter - so these are the only raising transitions of the model; joining a thread
    that does not exist is modelled as never enabled, see `join_names_started_thread`.) -/
theorem no_exception (g : Url → Res) (rank : Url → Nat) (acyc : Acyclic g rank)
    (cache0 : Url → CacheSt) (prog : List Op) (s : State) (hs : Reachable g cache0 prog s) :
    s.sh.err = false :=
  (reachable_inv g rank acyc cache0 prog s hs).noErr

/-- The error transitions exist in the model (the theorem is not vacuous): a state outside the
    invariant, with an awaiting frame on top, steps into the error state. -/
example : (step (fun _ => .missing)
    { sh := initShared (fun _ => .absent), caller := [.fin (tkey 0) [1] [] 0 true], prog := [.load (tkey 0)],
      results := [], threads := [] } 0).sh.err = true := by
  decide

/-! ## 5. No call blocks forever: deadlock freedom (`progress`) -/

theorem reachable_progressInv (g : Url → Res) (rank : Url → Nat) (acyc : Acyclic g rank)
    (cache0 : Url → CacheSt) (prog : List Op) (s : State) (hs : Reachable g cache0 prog s) :
    ProgressInv s := by
  obtain ⟨sched, rfl⟩ := hs
  exact runSched_progressInv acyc sched _ (init_inv g rank cache0 prog) (init_progressInv cache0 prog)

/-- Every `Thread.join` is a join of an existing, started loader thread that was started for the
    very key the joining `load` asks for, and so is every thread recorded in `loading` (a join of
    a thread that does not exist or was not started is modelled as "never enabled"; it cannot
    happen). -/
theorem join_names_started_thread (g : Url → Res) (rank : Url → Nat) (acyc : Acyclic g rank)
    (cache0 : Url → CacheSt) (prog : List Op) (s : State) (hs : Reachable g cache0 prog s) :
    (∀ t k j, Frame.join k j ∈ stackOf s t →
      ∃ i th, j = i + 1 ∧ s.threads[i]? = some th ∧ th.root = k) ∧
    (∀ k j, s.sh.loading k = some j →
      ∃ i th, j = i + 1 ∧ s.threads[i]? = some th ∧ th.root = k) := by
  have hp := reachable_progressInv g rank acyc cache0 prog s hs
  refine ⟨?_, fun k j hl => thrRef_get (hp.loadingThr k j hl)⟩
  intro t k j hj
  cases hstk : stackOf s t with
  | nil => rw [hstk] at hj; cases hj
  | cons f rest =>
    obtain ⟨_, hjoin, _⟩ := hp.stacks.pick hstk
    exact thrRef_get (hjoin k j (hstk ▸ hj))

/-- Deadlock freedom, for every acyclic include graph, every initial cache, every caller program
    and every schedule: in every reachable state either all threads have finished (the caller
    has completed its whole program, every loader thread has exited) or some thread is enabled.
    No reachable state is stuck with unfinished threads. -/
theorem progress (g : Url → Res) (rank : Url → Nat) (acyc : Acyclic g rank)
    (cache0 : Url → CacheSt) (prog : List Op) (s : State) (hs : Reachable g cache0 prog s) :
    allDone s = true ∨ ∃ t, enabled s t = true :=
  progress_of_inv acyc (reachable_inv g rank acyc cache0 prog s hs)
    (reachable_progressInv g rank acyc cache0 prog s hs)

/-- Waits-for edges go strictly down `rank`: a loader thread that waits at a `join` waits for a
    thread whose root resource is (transitively) included by its own root resource. -/
theorem waits_for_decreases_rank (g : Url → Res) (rank : Url → Nat) (acyc : Acyclic g rank)
    (cache0 : Url → CacheSt) (prog : List Op) (s : State) (hs : Reachable g cache0 prog s)
    (i : Nat) (th : Thr) (hth : s.threads[i]? = some th) (k : Key) (j : Nat) (rest : List Frame)
    (hstk : th.stack = .join k j :: rest) :
    ∃ i' th', j = i' + 1 ∧ s.threads[i']? = some th' ∧ th'.root = k ∧
      rank th'.root.url < rank th.root.url :=
  waits_lower acyc (reachable_inv g rank acyc cache0 prog s hs)
    (reachable_progressInv g rank acyc cache0 prog s hs) hth hstk

/-! ## 6. No call blocks forever: every schedule is finite, fair schedules terminate -/

theorem reachable_step (g : Url → Res) (cache0 : Url → CacheSt) (prog : List Op) (s : State)
    (hs : Reachable g cache0 prog s) (t : Nat) : Reachable g cache0 prog (step g s t) := by
  obtain ⟨sched, rfl⟩ := hs
  exact ⟨sched ++ [t], (runSched_append g sched t _).symm⟩

/-- The measure `mu` (remaining work: `4 * phi1² + phi2`, `phi1` = cost of everything the frames
    on all stacks and the not yet begun operations of the program can still cause, `phi2` =
    position of the `load` frames in the load/join/pop cycle) strictly decreases with every step
    of an enabled thread, in every reachable state. -/
theorem measure_decreases (g : Url → Res) (rank : Url → Nat) (acyc : Acyclic g rank)
    (cache0 : Url → CacheSt) (prog : List Op) (s : State) (hs : Reachable g cache0 prog s)
    (t : Nat) (hen : enabled s t = true) : mu g rank (step g s t) < mu g rank s :=
  step_dec acyc (reachable_inv g rank acyc cache0 prog s hs) t hen

/-- Every schedule is finite: whatever the schedule (of any length), the number of its picks
    that make a thread take a step (all other picks are no-ops) is bounded by a number that
    depends only on the include graph and the caller's program: `4 * W²`, `W` = the sum over the
    program's operations of the cost of loading their resource. -/
theorem effective_steps_bounded (g : Url → Res) (rank : Url → Nat) (acyc : Acyclic g rank)
    (cache0 : Url → CacheSt) (prog : List Op) (sched : List Nat) :
    effSteps g (init cache0 prog) sched ≤ 4 * (progW g rank prog * progW g rank prog) := by
  have := effSteps_bound acyc sched _ (init_inv g rank cache0 prog)
  rw [mu_init] at this
  omega

/-- The run of an infinite schedule `σ` (pick `σ n` at time `n`). -/
def runInf (g : Url → Res) (s0 : State) (σ : Nat → Nat) : Nat → State
  | 0 => s0
  | n + 1 => step g (runInf g s0 σ n) (σ n)

/-- Weak fairness, in the model's terms: whenever some thread can take a step, the scheduler
    eventually picks a thread that can take a step (it does not pick blocked or finished threads
    only, forever). -/
def Fair (g : Url → Res) (s0 : State) (σ : Nat → Nat) : Prop :=
  ∀ n, (∃ t, enabled (runInf g s0 σ n) t = true) →
    ∃ m, n ≤ m ∧ enabled (runInf g s0 σ m) (σ m) = true

theorem runInf_reachable (g : Url → Res) (cache0 : Url → CacheSt) (prog : List Op) (σ : Nat → Nat) :
    ∀ n, Reachable g cache0 prog (runInf g (init cache0 prog) σ n) := by
  intro n
  induction n with
  | zero => exact ⟨[], rfl⟩
  | succ n ih => exact reachable_step g cache0 prog _ ih (σ n)

/-- Termination under fairness: under every fair infinite schedule the system reaches a state in
    which all threads have finished - the caller has completed its whole program (no call blocks
    forever), every loader thread has exited - and stays there. -/
theorem fair_schedule_terminates (g : Url → Res) (rank : Url → Nat) (acyc : Acyclic g rank)
    (cache0 : Url → CacheSt) (prog : List Op) (σ : Nat → Nat)
    (hfair : Fair g (init cache0 prog) σ) :
    ∃ n, allDone (runInf g (init cache0 prog) σ n) = true ∧
      ∀ m, n ≤ m → runInf g (init cache0 prog) σ m = runInf g (init cache0 prog) σ n := by
  have hreach := runInf_reachable g cache0 prog σ
  have hle : ∀ n m, n ≤ m → mu g rank (runInf g (init cache0 prog) σ m) ≤
      mu g rank (runInf g (init cache0 prog) σ n) := by
    intro n m hnm
    induction hnm with
    | refl => exact Nat.le_refl _
    | step _ ih =>
      exact Nat.le_trans (step_mu_le acyc (reachable_inv g rank acyc cache0 prog _ (hreach _)) (σ _)) ih
  have hdone : ∀ B n, mu g rank (runInf g (init cache0 prog) σ n) < B →
      ∃ n', allDone (runInf g (init cache0 prog) σ n') = true := by
    intro B
    induction B with
    | zero => intro n h; omega
    | succ B ih =>
      intro n hB
      rcases progress g rank acyc cache0 prog _ (hreach n) with hd | hen
      · exact ⟨n, hd⟩
      · obtain ⟨m, hnm, hm⟩ := hfair n hen
        have h1 := hle n m hnm
        have h2 := measure_decreases g rank acyc cache0 prog _ (hreach m) (σ m) hm
        exact ih (m + 1) (by simp only [runInf]; omega)
  obtain ⟨n, hn⟩ := hdone _ 0 (Nat.lt_succ_self _)
  refine ⟨n, hn, fun m hnm => ?_⟩
  induction hnm with
  | refl => rfl
  | step _ ih =>
    simp only [runInf]
    rw [ih]
    exact step_not_enabled g (allDone_not_enabled hn (σ _))

/-! ## 7. Every maximal run completes the whole program -/

/-- A maximal run (a schedule after which no thread can take a step) ends in a state where all
    threads have finished, the completed operations are exactly the caller's program, in order,
    and every requested `load(k)` has returned: the fully resolved document of a parsable
    resource (loaded), `None` otherwise (failed). -/
theorem maximal_run_completes (g : Url → Res) (rank : Url → Nat) (acyc : Acyclic g rank)
    (cache0 : Url → CacheSt) (prog : List Op) (s : State) (hs : Reachable g cache0 prog s)
    (hmax : ∀ t, enabled s t = false) :
    allDone s = true ∧ (s.results.reverse.map fun r => r.op) = prog ∧
    ∀ k, Op.load k ∈ prog → ∃ r ∈ s.results, r.op = .load k ∧
      r.val.content = resolve g rank k.url ∧
      (∀ incs, g k.url = .doc incs →
        ∃ o, r.val = some o ∧ o.tree = .node k.url (incs.map (resolve g rank))) ∧
      ((∀ incs, g k.url ≠ .doc incs) → r.val.content = .fail) := by
  have hd : allDone s = true := by
    rcases progress g rank acyc cache0 prog s hs with hd | ⟨t, ht⟩
    · exact hd
    · rw [hmax t] at ht; cases ht
  have htr : (s.results.reverse.map fun r => r.op) = prog := by
    obtain ⟨sched, rfl⟩ := hs
    have h1 := runSched_trace g sched (init cache0 prog)
    rw [init_trace, trace, (allDone_iff.1 hd).2.1, List.append_nil] at h1
    exact h1
  refine ⟨hd, htr, ?_⟩
  intro k hk
  rw [← htr] at hk
  simp only [List.mem_map, List.mem_reverse] at hk
  obtain ⟨r, hr, hop⟩ := hk
  exact ⟨r, hr, hop, load_result_schedule_independent g rank acyc cache0 prog s hs r hr k hop⟩

/-- For a caller program without `refresh` (after a `clear()` the table may of course lack a
    key published before): a maximal run ends in a state where every requested resource -
    requested by `load` or by `deferred_load` - is loaded (it is in the table, with the fully
    resolved content) or has failed (the table has no entry and there will never be one: the
    resource cannot be fetched, or it is a template that cannot be parsed). -/
theorem maximal_run_requested_loaded_or_failed (g : Url → Res) (rank : Url → Nat) (acyc : Acyclic g rank)
    (cache0 : Url → CacheSt) (prog : List Op) (hnr : ∀ op ∈ prog, ∀ k, op ≠ .refresh k)
    (s : State) (hs : Reachable g cache0 prog s) (hmax : ∀ t, enabled s t = false)
    (k : Key) (hk : Op.load k ∈ prog ∨ Op.deferred k ∈ prog) :
    (∃ v, s.sh.loaded k = some v ∧ v.content = resolve g rank k.url) ∨
    (s.sh.loaded k = none ∧ (g k.url = .missing ∨ (g k.url = .garbage ∧ k.tpl = true))) := by
  obtain ⟨hd, htr, _⟩ := maximal_run_completes g rank acyc cache0 prog s hs hmax
  have h4 : Inv4 g s := by
    obtain ⟨sched, rfl⟩ := hs
    exact runSched_inv4 acyc sched _ (init_inv g rank cache0 prog)
      (init_progressInv cache0 prog) (init_inv4 g cache0 prog hnr)
  have hdone : Done g s.sh k := by
    rw [← htr] at hk
    simp only [List.mem_map, List.mem_reverse] at hk
    rcases hk with ⟨r, hr, hop⟩ | ⟨r, hr, hop⟩
    · exact h4.done_of_allDone hd hr (.inl hop)
    · exact h4.done_of_allDone hd hr (.inr hop)
  cases hl : s.sh.loaded k with
  | some v => left; exact ⟨v, rfl, table_entries_resolved g rank acyc cache0 prog s hs k v hl⟩
  | none =>
    right
    refine ⟨rfl, ?_⟩
    rcases hdone with h1 | h1
    · rw [hl] at h1; cases h1
    · exact h1

/-! ## Hypotheses are satisfiable, conclusions are not vacuous -/

/-- The diamond R→A,B; A→D; B→D (R=0, A=1, B=2, D=3) with rank = height. -/
def diamond : Url → Res
  | 0 => .doc [1, 2]
  | 1 => .doc [3]
  | 2 => .doc [3]
  | 3 => .doc []
  | _ => .missing

def diamondRank : Url → Nat
  | 0 => 2
  | 1 => 1
  | 2 => 1
  | _ => 0

theorem diamond_acyclic : Acyclic diamond diamondRank := by
  intro u incs v hu hv
  match u with
  | 0 | 1 | 2 | 3 => cases hu; revert v; decide
  | n + 4 => cases hu

theorem diamond_run :
    let s := runSched diamond
      (init (fun _ => .absent) [.deferred (tkey 1), .deferred (tkey 2), .load (tkey 0), .load (tkey 0)])
      (List.replicate 30 [0, 1, 2, 3, 4]).flatten
    ((s.results.map fun r => (r.val.map (·.id))) = [some 3, some 3, none, none]
      ∧ s.sh.err = false ∧ allDone s = true ∧ s.threads.length = 3) ∧
    ∀ t, t < 6 → enabled s t = false := by
  decide +kernel

/-- A concrete schedule (round robin over thread ids 0-4, four of which exist) with two concurrent loaders, a completed
    load and a repeated load: the results list really contains loads that returned one and the
    same document object, so theorems 1 and 2 speak about something. -/
example :
    let s := runSched diamond
      (init (fun _ => .absent) [.deferred (tkey 1), .deferred (tkey 2), .load (tkey 0), .load (tkey 0)])
      (List.replicate 30 [0, 1, 2, 3, 4]).flatten
    (s.results.map fun r => (r.val.map (·.id))) = [some 3, some 3, none, none]
      ∧ s.sh.err = false ∧ allDone s = true ∧ s.threads.length = 3 :=
  diamond_run.1

/-- The round-robin schedule is fair (it picks every thread again and again), and a maximal run
    exists: the state reached above has no enabled thread, so `maximal_run_completes` and
    `fair_schedule_terminates` speak about something.  The bound of `effective_steps_bounded`
    for this program on the diamond is a concrete number. -/
example :
    let s := runSched diamond
      (init (fun _ => .absent) [.deferred (tkey 1), .deferred (tkey 2), .load (tkey 0), .load (tkey 0)])
      (List.replicate 30 [0, 1, 2, 3, 4]).flatten
    (∀ t, t < 6 → enabled s t = false) ∧
    progW diamond diamondRank [.deferred (tkey 1), .deferred (tkey 2), .load (tkey 0), .load (tkey 0)] = 112 :=
  ⟨diamond_run.2, by decide⟩

/-- The program of that run contains no `refresh`: the hypothesis of
    `maximal_run_requested_loaded_or_failed` is met by it. -/
example : ∀ op ∈ [Op.deferred (tkey 1), Op.deferred (tkey 2), Op.load (tkey 0), Op.load (tkey 0)],
    ∀ k, op ≠ Op.refresh k := by
  intro op h k
  simp only [List.mem_cons, List.not_mem_nil, or_false] at h
  rcases h with rfl | rfl | rfl | rfl <;> simp

end C18
