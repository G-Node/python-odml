/-
C16 — Readers are total: a document, or a ParserException — never anything else.

Property theorems only; helper lemmas are in `Proofs/Reader*.lean`.
Model: `Model/Reader.lean`, `Model/ReaderXml.lean` (tied to /repo by `harness/c16.py`).

`Guards.fixed` is the code on branch `work-C16` (the `fix:` commits); the `original_*` theorems
show, on the model of the code before those commits, that each guard is needed: the property is
false there, with the witness replayed on the real library by the harness (corpus/C16).
All statements hold for every `Env` / `DEnv`, i.e. whatever the odML constructors, `from_csv` and
`uuid` do.
-/
import OdmlModel.Proofs.ReaderDictFull
import OdmlModel.Proofs.ReaderCount

namespace C16
open Reader

/-! ## 1. XML reader -/

/-- Well-formed XML with an `<odML>` root of the current format version
    (`_handle_version` accepts the root). -/
def RootOk (x : Xml) : Prop := rootVerdict x = .ok

theorem rootOk_of_attrs (attrs : List (Str × Str)) (text : Option Str) (kids : List Xml) (k : Str)
    (h : attrs.find? (fun p => p.1 == "version".toList) = some (k, Gen.Format.formatVersion.toList)) :
    RootOk (.elem "odML".toList attrs text kids) := by
  simp only [RootOk, rootVerdict, h]
  simp

/-! `Reader.denoteTag` (`Proofs/ReaderDenote.lean`) is the specification of "the valid parts of the
input": every Section / Property element becomes the object its argument elements describe (the
default object when the constructor refuses them) and is attached to its parent unless the parent
cannot hold that sort or an earlier kept sibling of its sort carries its name
(`Reader.keepValid` / `Reader.kept`) — recursively, for trees of any depth. `Reader.tagProblems`
counts what the reader objects to, `Reader.tagRepeats` the "given multiple times" warnings (a
warning in both modes). `Reader.fullTag` is the input's full content: all children attached. -/

/-- the valid parts of a document tree -/
def validParts (env : Env) (x : Xml) : Obj Str := denoteTag env .doc true x
/-- the number of problems of a document tree (calls of `self.error`) -/
def problems (env : Env) (x : Xml) : Nat := tagProblems env .doc true "odML".toList x
/-- the number of "given multiple times" warnings -/
def repeats (env : Env) (x : Xml) : Nat := tagRepeats env .doc x
/-- the full content of a document tree: every Section and Property element, none left out -/
def fullContent (env : Env) (x : Xml) : Obj Str := fullTag env .doc true x

theorem readXml_eq_outcome (env : Env) (m : Mode) (x : Xml) (h : RootOk x) :
    readXml Guards.fixed env m x
      = outcome m (problems env x) (validParts env x, problems env x + repeats env x) := by
  cases x with
  | other k => simp [RootOk, rootVerdict] at h
  | elem tag attrs text kids =>
    have ht : tag = "odML".toList := by
      simp only [RootOk, rootVerdict] at h
      split at h
      · cases h
      · rename_i hq
        exact Decidable.of_not_not (fun hne => hq (bne_iff_ne.mpr hne))
    subst ht
    unfold readXml
    rw [h]
    simp only [parseRoot, problems, validParts, repeats]
    rw [(parse_spec Guards.fixed_xmlOk).1 _ _ _ _ _ ⟨_, _, _, _, rfl⟩]
    exact congrArg (outcome m _) (by congr 1; omega)

/-- `_handle_version`, then `parse_element` on a root it accepts -/
def xmlReading (env : Env) (x : Xml) : Reading (Obj Str × Nat) :=
  match rootVerdict x with
  | .ok => .read (problems env x) (validParts env x, problems env x + repeats env x)
  | .wrongVersion => .otherVersion
  | _ => .refused

/-- **The XML reader, completely.** -/
theorem readXml_eq (env : Env) (m : Mode) (x : Xml) :
    readXml Guards.fixed env m x = (xmlReading env x).ends m := by
  unfold xmlReading
  cases h : rootVerdict x with
  | ok => exact readXml_eq_outcome env m x h
  | _ => unfold readXml; rw [h]; rfl

/-- Totality on trees: whatever tree lxml delivers, in both modes, the XML reader ends with a
    document, a ParserException or an InvalidVersionException — no other exception escapes. -/
theorem readXml_total (env : Env) (m : Mode) (x : Xml) :
    ∀ c, readXml Guards.fixed env m x ≠ .error (.leak c) := by
  rw [readXml_eq]
  exact Reading.no_leak _ m

/-- Lenient mode never raises on well-formed input with a current odML root:
    every problem becomes a warning. -/
theorem lenient_never_raises (env : Env) (x : Xml) (h : RootOk x) :
    ∃ d w, readXml Guards.fixed env .lenient x = .ok (d, w) :=
  ⟨_, _, (readXml_eq_outcome env .lenient x h).trans (outcome_lenient _ _)⟩

/-- Strict mode: the only exception from inside the tree is ParserException. -/
theorem strict_only_parser_exception (env : Env) (x : Xml) (h : RootOk x) (e : Err)
    (he : readXml Guards.fixed env .strict x = .error e) : e = .parserException := by
  rw [readXml_eq_outcome env .strict x h] at he
  exact (Conv.outcome .strict _ _ e he).1

/-- `from_string`: text → tree failures of lxml are converted as well. -/
theorem readXmlText_total (env : Env) (m : Mode) (p : Parsed) :
    ∀ c, readXmlText Guards.fixed env m p ≠ .error (.leak c) := by
  intro c
  cases p with
  | syntaxError => simp [readXmlText]
  | valueError => simp [readXmlText, Guards.fixed]
  | tree x => exact readXml_total env m x c

/-- InvalidVersionException is raised exactly when `_handle_version` finds an `<odML>` root whose
    version attribute is not the current format version. -/
theorem invalid_version_iff (env : Env) (m : Mode) (x : Xml) :
    readXml Guards.fixed env m x = .error .invalidVersion ↔ rootVerdict x = .wrongVersion := by
  rw [readXml_eq, xmlReading]
  cases rootVerdict x with
  | ok => exact ⟨(fun h => nomatch (Conv.outcome m _ _ _ h).1), (fun h => nomatch h)⟩
  | wrongVersion => exact ⟨fun _ => rfl, fun _ => rfl⟩
  | _ => exact ⟨(fun h => nomatch h), (fun h => nomatch h)⟩

/-- `_handle_version` hard-codes the tag `odML`; the format tables agree with it
    (re-checked against `odml/format.py` on every run). -/
theorem root_tag_in_tables :
    kindOfTag "odML".toList = some .doc ∧ kindOfTag "section".toList = some .sec ∧
    kindOfTag "property".toList = some .prop ∧
    inMapKeys .doc "section".toList = true ∧ inMapKeys .sec "section".toList = true ∧
    inMapKeys .sec "property".toList = true ∧ isArgKey .doc "property".toList = false := by decide +kernel

/-! ## 2. Dictionary reader -/

/-- A dictionary with a `Document` dictionary and the current `odml-version`. -/
def DictRootOk (x : J) : Prop := ∃ kvs, dictVerdict Guards.fixed x = .ok (.obj kvs)

theorem readDict_eq_outcome (env : DEnv) (m : Mode) (x : J) (kvs : List (Str × J))
    (h : dictVerdict Guards.fixed x = .ok (.obj kvs)) :
    readDict Guards.fixed env m x
      = outcome m (docProblems env kvs) (dDoc env kvs, docProblems env kvs) := by
  unfold readDict
  rw [h]
  exact readDoc_spec Guards.fixed_dictOk kvs

/-- the root checks of `to_odml`, then the `Document` dictionary they accept -/
def dictReading (env : DEnv) (x : J) : Reading (Obj J × Nat) :=
  match dictVerdict Guards.fixed x with
  | .ok (.obj kvs) => .read (docProblems env kvs) (dDoc env kvs, docProblems env kvs)
  | .wrongVersion => .otherVersion
  | _ => .refused

theorem readDict_eq (env : DEnv) (m : Mode) (x : J) :
    readDict Guards.fixed env m x = (dictReading env x).ends m := by
  unfold dictReading
  rcases dictVerdict_cases Guards.fixed rfl x with h | h | ⟨kvs, h⟩
  · unfold readDict; rw [h]; rfl
  · unfold readDict; rw [h]; rfl
  · rw [readDict_eq_outcome env m x kvs h, h]; rfl

/-- Totality of `DictReader.to_odml` on *every* JSON-like value (not only dictionaries). -/
theorem readDict_total (env : DEnv) (m : Mode) (x : J) :
    ∀ c, readDict Guards.fixed env m x ≠ .error (.leak c) := by
  rw [readDict_eq]
  exact Reading.no_leak _ m

/-- Lenient mode never raises on a dictionary with a `Document` dictionary and the current
    version. -/
theorem dict_lenient_never_raises (env : DEnv) (x : J) (h : DictRootOk x) :
    ∃ d w, readDict Guards.fixed env .lenient x = .ok (d, w) := by
  obtain ⟨kvs, hk⟩ := h
  exact ⟨_, _, (readDict_eq_outcome env .lenient x kvs hk).trans (outcome_lenient _ _)⟩

theorem dict_strict_only_parser_exception (env : DEnv) (x : J) (h : DictRootOk x) (e : Err)
    (he : readDict Guards.fixed env .strict x = .error e) : e = .parserException := by
  obtain ⟨kvs, hk⟩ := h
  rw [readDict_eq_outcome env .strict x kvs hk] at he
  exact (Conv.outcome .strict _ _ e he).1

/-! ## 2b. What a lenient read keeps; sibling names of what it returns

Statements about the child-insertion step of `parse_tag` / `parse_sections` (the only place where
a parsed object can be left out) — for the whole loop, any number of children. A freshly created
object has no children (`UniqKids` holds trivially, see the `example`). -/

example (k : Kind) (n : Name Str) (b : Bool) : UniqKids (· == ·) (Obj.mk k n b [] []) :=
  ⟨List.Pairwise.nil, List.Pairwise.nil⟩

theorem insertChildren_ok {m : Mode} {obj o : Obj Str} {cs : List (Obj Str)} {w w' : Nat}
    (h : insertChildren Guards.fixed m obj cs w = .ok (o, w')) : o = keepValid (· == ·) obj cs := by
  rw [insertChildren_eq _ rfl] at h
  exact (Prod.mk.inj (outcome_eq_ok h)).1.symm

theorem insertEach_ok {m : Mode} {obj o : Obj J} {cs : List (Obj J)} {w w' : Nat}
    (h : insertEach m obj cs w = .ok (o, w')) : o = keepValid J.pyEq obj cs := by
  rw [insertEach_eq] at h
  exact (Prod.mk.inj (outcome_eq_ok h)).1.symm

/-- XML reader: after the insertion loop every parsed child is in the object, or it was refused —
    and then a kept sibling of its sort carries the same name (or the parent cannot hold that
    sort at all). Nothing that was in the object before is lost. -/
theorem insert_keeps_valid_parts (m : Mode) (obj : Obj Str) (cs : List (Obj Str)) (w : Nat)
    (o : Obj Str) (w' : Nat) (h : insertChildren Guards.fixed m obj cs w = .ok (o, w'))
    (hu : UniqKids (· == ·) obj) :
    (∀ x ∈ obj.props, x ∈ o.props) ∧ (∀ x ∈ obj.secs, x ∈ o.secs) ∧
    (∀ c ∈ cs, c ∈ o.props ∨ c ∈ o.secs ∨ Refused (· == ·) o c) := by
  rw [insertChildren_ok h]
  exact (keepValid_spec _ obj cs hu).2

/-- XML reader: the insertion loop never produces two Sections or two Properties of one parent
    with the same name (C04 for loaded documents, per parent). -/
theorem insert_keeps_names_unique (m : Mode) (obj : Obj Str) (cs : List (Obj Str)) (w : Nat)
    (o : Obj Str) (w' : Nat) (h : insertChildren Guards.fixed m obj cs w = .ok (o, w'))
    (hu : UniqKids (· == ·) obj) : UniqKids (· == ·) o := by
  rw [insertChildren_ok h]
  exact (keepValid_spec _ obj cs hu).1

theorem insert_lenient_total (obj : Obj Str) (cs : List (Obj Str)) (w : Nat) :
    ∃ o w', insertChildren Guards.fixed .lenient obj cs w = .ok (o, w') :=
  ⟨_, _, (insertChildren_eq _ rfl .lenient obj cs w).trans (outcome_lenient _ _)⟩

/-- Dictionary reader: the same for `sec.append(child)` in `parse_sections`. -/
theorem dict_insert_keeps_valid_parts (m : Mode) (obj : Obj J) (cs : List (Obj J)) (w : Nat)
    (o : Obj J) (w' : Nat) (h : insertEach m obj cs w = .ok (o, w')) (hu : UniqKids J.pyEq obj) :
    (∀ x ∈ obj.props, x ∈ o.props) ∧ (∀ x ∈ obj.secs, x ∈ o.secs) ∧
    (∀ c ∈ cs, c ∈ o.props ∨ c ∈ o.secs ∨ Refused J.pyEq o c) := by
  rw [insertEach_ok h]
  exact (keepValid_spec _ obj cs hu).2

theorem dict_insert_keeps_names_unique (m : Mode) (obj : Obj J) (cs : List (Obj J)) (w : Nat)
    (o : Obj J) (w' : Nat) (h : insertEach m obj cs w = .ok (o, w')) (hu : UniqKids J.pyEq obj) :
    UniqKids J.pyEq o := by
  rw [insertEach_ok h]
  exact (keepValid_spec _ obj cs hu).1

/-! ## 3. The code before the `fix:` commits violates the property (one witness per guard) -/

/-- The exception class that escaped, if one did. -/
def leakOf : Except Err α → Option Leak
  | .error (.leak c) => some c
  | _ => none

theorem leakOf_some {r : Except Err α} {c : Leak} (h : leakOf r = some c) : r = .error (.leak c) := by
  cases r with
  | ok a => cases h
  | error e => cases e <;> simp [leakOf] at h; subst h; rfl

/-- How a call ended, if not with a document. -/
def errOf : Except Err α → Option Err
  | .error e => some e
  | .ok _ => none

/-- constructors never fail, `from_csv` refuses exactly the text `[a\rb,c]` -/
def env0 : Env := ⟨fun s => s == "[a\rb,c]".toList, fun _ _ => false, fun _ _ => .fresh⟩
def denv0 : DEnv := ⟨fun _ _ => false, fun _ _ => .fresh⟩
/-- the Document constructor refuses the date `foo` -/
def denvDate : DEnv :=
  ⟨fun k a => k == .doc && a.any (fun p => p.1 == "date".toList), fun _ _ => .fresh⟩

def leaf (t : String) (x : String) : Xml := .elem t.toList [] (some x.toList) []
def secX (name : String) (more : List Xml) : Xml :=
  .elem "section".toList [] none ([leaf "name" name, leaf "type" "t"] ++ more)
def docX (kids : List Xml) : Xml := .elem "odML".toList [("version".toList, "1.1".toList)] none kids

/-- `<odML version="1.1"><section>a</section><section>a</section></odML>` -/
def dupSections : Xml := docX [secX "a" [], secX "a" []]
def withPi : Xml := docX [.other .pi]
def badCsv : Xml := docX [secX "a" [.elem "property".toList [] none [leaf "name" "p", leaf "value" "[a\rb,c]"]]]
def superCard : Xml := docX [secX "a" [leaf "sec_cardinality" "(²,3)"]]
/-- Two Sections `a` (the second with a Subsection), then a valid Section `c` with a Property:
    the second `a` is the one problem, everything else is returned. -/
def dupThenValid : Xml :=
  docX [secX "a" [], secX "a" [secX "b" []],
        secX "c" [.elem "property".toList [] none [leaf "name" "p"]]]
/-- a document without a problem, two levels deep -/
def cleanDoc : Xml :=
  docX [secX "a" [secX "b" [], .elem "property".toList [] none [leaf "name" "p"]], secX "c" []]

theorem rootOk_docX (kids : List Xml) : RootOk (docX kids) :=
  rootOk_of_attrs _ _ _ "version".toList (by decide +kernel)

example : RootOk dupSections := rootOk_docX _
example : RootOk withPi := rootOk_docX _

/-- One statement: the kernel then converts the strings of the format tables once, not once per read. -/
theorem xml_tests :
    ((leakOf (readXml { Guards.fixed with guardAppend := false } env0 .lenient dupSections) = some .keyError ∧
      (readXml Guards.fixed env0 .lenient dupSections).toOption.map (·.2) = some 1 ∧
      errOf (readXml Guards.fixed env0 .strict dupSections) = some .parserException) ∧
    (leakOf (readXml { Guards.fixed with skipNonElem := false } env0 .lenient withPi) = some .attributeError ∧
      (readXml Guards.fixed env0 .lenient withPi).toOption.map (·.2) = some 0) ∧
    (leakOf (readXml { Guards.fixed with guardCsv := false } env0 .lenient badCsv) = some .csvError ∧
      (readXml Guards.fixed env0 .lenient badCsv).toOption.map (·.2) = some 1) ∧
    leakOf (readXml { Guards.fixed with decimalCard := false } env0 .strict superCard) = some .valueError) ∧
    (problems env0 dupThenValid = 1 ∧
      ((validParts env0 dupThenValid).secs.map (·.name)) = [.given "a".toList, .given "c".toList]) ∧
    problems env0 cleanDoc = 0 ∧
    Obj.count (validParts env0 dupSections) = 2 ∧
    (callsTag Guards.fixed env0 .doc dupSections).length = 3 := by
  decide +kernel

theorem original_leaks_duplicate_names :
    ¬ (∀ m x c, readXml { Guards.fixed with guardAppend := false } env0 m x ≠ .error (.leak c)) :=
  fun h => h _ _ _ (leakOf_some xml_tests.1.1.1)

theorem original_leaks_processing_instruction :
    ¬ (∀ m x c, readXml { Guards.fixed with skipNonElem := false } env0 m x ≠ .error (.leak c)) :=
  fun h => h _ _ _ (leakOf_some xml_tests.1.2.1.1)

theorem original_leaks_csv_error :
    ¬ (∀ m x c, readXml { Guards.fixed with guardCsv := false } env0 m x ≠ .error (.leak c)) :=
  fun h => h _ _ _ (leakOf_some xml_tests.1.2.2.1.1)

theorem original_leaks_superscript_cardinality :
    ¬ (∀ m x c, readXml { Guards.fixed with decimalCard := false } env0 m x ≠ .error (.leak c)) :=
  fun h => h _ _ _ (leakOf_some xml_tests.1.2.2.2)

theorem original_leaks_encoding_declaration :
    ¬ (∀ m p c, readXmlText { Guards.fixed with convertValueError := false } env0 m p ≠ .error (.leak c)) := by
  intro h
  exact h .strict .valueError .valueError rfl

/-- the same trees are read without a leak by the fixed code: a warning each in lenient mode -/
example : (readXml Guards.fixed env0 .lenient dupSections).toOption.map (·.2) = some 1 := xml_tests.1.1.2.1
example : (readXml Guards.fixed env0 .lenient withPi).toOption.map (·.2) = some 0 := xml_tests.1.2.1.2
example : (readXml Guards.fixed env0 .lenient badCsv).toOption.map (·.2) = some 1 := xml_tests.1.2.2.1.2
example : errOf (readXml Guards.fixed env0 .strict dupSections) = some .parserException := xml_tests.1.1.2.2

def jstr (s : String) : J := .str s.toList
def secJ (name : String) (more : List (Str × J)) : J :=
  .obj ([("name".toList, jstr name), ("type".toList, jstr "t")] ++ more)
def docJ (kvs : List (Str × J)) : J :=
  .obj [("Document".toList, .obj kvs), ("odml-version".toList, jstr "1.1")]

def dupTop : J := docJ [("sections".toList, .arr [secJ "a" [], secJ "a" []])]
def badDate : J := docJ [("date".toList, jstr "foo")]
def sectionsNull : J := docJ [("sections".toList, .null)]
/-- Section `a` with Properties `p`, `p` and a valid Subsection `b` -/
def dupProps : J := docJ [("sections".toList, .arr [secJ "a"
  [("properties".toList, .arr [.obj [("name".toList, jstr "p")], .obj [("name".toList, jstr "p")]]),
   ("sections".toList, .arr [secJ "b" []])]])]

/-- decidable form of `DictRootOk` -/
def dictRootOkB (x : J) : Bool :=
  match dictVerdict Guards.fixed x with
  | .ok (.obj _) => true
  | _ => false

theorem dictRootOk_of_B (x : J) (h : dictRootOkB x = true) : DictRootOk x := by
  unfold dictRootOkB at h
  split at h
  · rename_i kvs hk; exact ⟨kvs, hk⟩
  · cases h

/-- number of top-level Sections of the returned document -/
def topCount : Except Err (Obj J × Nat) → Option Nat
  | .ok (o, _) => some o.secs.length
  | .error _ => none

theorem dict_tests :
    (dictRootOkB dupTop = true ∧
      leakOf (readDict { Guards.fixed with guardDocAppend := false } denv0 .lenient dupTop) = some .keyError) ∧
    leakOf (readDict { Guards.fixed with guardDocCreate := false } denvDate .lenient badDate) = some .ctorError ∧
    leakOf (readDict { Guards.fixed with rootIsDict := false } denv0 .strict .null) = some .typeError ∧
    leakOf (readDict { Guards.fixed with shapeChecks := false } denv0 .lenient sectionsNull) = some .typeError ∧
    (dictRootOkB dupProps = true ∧
      topCount (readDict { Guards.fixed with perChildAppend := false } denv0 .lenient dupProps) = some 0 ∧
      topCount (readDict Guards.fixed denv0 .lenient dupProps) = some 1) ∧
    docProblems denv0
      [("sections".toList, .arr [secJ "a"
        [("properties".toList, .arr [.obj [("name".toList, jstr "p")], .obj [("name".toList, jstr "p")]]),
         ("sections".toList, .arr [secJ "b" []])]])] = 1 := by
  decide +kernel

example : DictRootOk dupTop := dictRootOk_of_B _ dict_tests.1.1
example : DictRootOk dupProps := dictRootOk_of_B _ dict_tests.2.2.2.2.1.1

theorem original_dict_leaks_duplicate_names :
    ¬ (∀ m x c, readDict { Guards.fixed with guardDocAppend := false } denv0 m x ≠ .error (.leak c)) :=
  fun h => h _ _ _ (leakOf_some dict_tests.1.2)

theorem original_dict_leaks_document_creation :
    ¬ (∀ m x c, readDict { Guards.fixed with guardDocCreate := false } denvDate m x ≠ .error (.leak c)) :=
  fun h => h _ _ _ (leakOf_some dict_tests.2.1)

theorem original_dict_leaks_non_dict_root :
    ¬ (∀ m x c, readDict { Guards.fixed with rootIsDict := false } denv0 m x ≠ .error (.leak c)) :=
  fun h => h _ _ _ (leakOf_some dict_tests.2.2.1)

theorem original_dict_leaks_wrong_shapes :
    ¬ (∀ m x c, readDict { Guards.fixed with shapeChecks := false } denv0 m x ≠ .error (.leak c)) :=
  fun h => h _ _ _ (leakOf_some dict_tests.2.2.2.1)

/-- Before the fix, a lenient read dropped the whole Section `a` (with its valid Subsection)
    because one of its Properties was a duplicate; now only the duplicate is left out. -/
theorem original_dict_drops_valid_section :
    topCount (readDict { Guards.fixed with perChildAppend := false } denv0 .lenient dupProps) = some 0 ∧
    topCount (readDict Guards.fixed denv0 .lenient dupProps) = some 1 := dict_tests.2.2.2.2.1.2

/-! ## 4. Nesting depth and the interpreter's stack

A `RecursionError` is neither a Document nor a ParserException. The XML reader recurses once per
nested object with three frames (`stackTag`), libxml2 accepts at most 256 nested elements and
Python allows 1000 frames: whatever the tree, the reader's own frames stay below the limit as long
as the caller and the library code below the innermost `parse_tag` (constructors, lxml callbacks)
together need at most 222 frames (measured by the harness on every deep tie case: at most 17). -/

/-- libxml2 without `XML_PARSE_HUGE` ("Excessive depth in document: 256" for the 257th level) -/
def libxmlMaxDepth : Nat := 256
/-- CPython's default `sys.getrecursionlimit()` -/
def pyRecursionLimit : Nat := 1000

theorem readerStack_le_depth (x : Xml) : readerStack x ≤ 3 * Xml.depth x + 9 := by
  have h := stack_le_depth.1 x .doc
  simp only [readerStack, helperFrames]
  omega

/-- Every tree libxml2 can hand to the reader is parsed within the recursion limit. -/
theorem nesting_within_recursion_limit (x : Xml) (h : Xml.depth x ≤ libxmlMaxDepth)
    (caller inner : Nat) (hc : caller + inner ≤ 222) :
    caller + readerStack x + inner < pyRecursionLimit := by
  have h1 := readerStack_le_depth x
  simp only [libxmlMaxDepth] at h
  simp only [pyRecursionLimit]
  omega

/-- `n` Sections inside each other -/
def nestKids : Nat → List Xml
  | 0 => []
  | n + 1 => [.elem "section".toList [] none (nestKids n)]

/-- a document with a chain of `n` nested Sections -/
def nestDoc (n : Nat) : Xml :=
  .elem "odML".toList [("version".toList, Gen.Format.formatVersion.toList)] none (nestKids n)

theorem section_is_object :
    kidClass .doc (Py.lower "section".toList) = .object .sec ∧
    kidClass .sec (Py.lower "section".toList) = .object .sec := by
  decide +kernel

theorem stackKids_nestKids (kind : Kind) (hk : kind = .doc ∨ kind = .sec) (n : Nat) :
    stackKids kind (nestKids n) = 3 * n := by
  induction n generalizing kind with
  | zero => rfl
  | succ n ih =>
    have hc : kidClass kind (Py.lower "section".toList) = .object .sec := by
      rcases hk with rfl | rfl
      · exact section_is_object.1
      · exact section_is_object.2
    obtain ⟨a1, a2, a3⟩ := (kidClass_object_iff kind _ .sec).mp hc
    simp only [nestKids, stackKids, a1, a2, a3, stackTag, framesPerObject, ih .sec (Or.inr rfl)]
    omega

/-- The bound of `stack_le_depth` is attained: a chain of `n` Sections costs three frames per
    level (so a fourth frame per level would need `4 * 256 > 1000` frames below libxml2's limit). -/
theorem chain_needs_three_per_level (n : Nat) :
    stackTag .doc (nestDoc n) = 3 * Xml.depth (nestDoc n) ∧ Xml.depth (nestDoc n) = n + 1 := by
  have hd : ∀ n, Xml.depthList (nestKids n) = n := by
    intro n
    induction n with
    | zero => simp [nestKids, Xml.depthList]
    | succ n ih => simp only [nestKids, Xml.depthList, Xml.depth, ih]; omega
  simp only [nestDoc, stackTag, Xml.depth, framesPerObject, stackKids_nestKids .doc (Or.inl rfl) n, hd n]
  omega

/-! ## 5. What a read returns, as a statement about the whole returned tree (XML reader) -/

/-- **`lenient_keeps_valid_parts`, whole tree.** A lenient read of well-formed XML with a current
    odML root returns exactly the valid parts of the input — nothing valid is lost, nothing else is
    added, at any depth — and has recorded one warning per problem (plus one per repeated element). -/
theorem lenient_returns_valid_parts (env : Env) (x : Xml) (h : RootOk x) :
    readXml Guards.fixed env .lenient x
      = .ok (validParts env x, problems env x + repeats env x) := by
  rw [readXml_eq_outcome env .lenient x h, outcome_lenient]

theorem strict_returns_valid_parts_or_raises (env : Env) (x : Xml) (h : RootOk x) :
    readXml Guards.fixed env .strict x
      = if problems env x = 0 then .ok (validParts env x, repeats env x)
        else .error .parserException := by
  rw [readXml_eq_outcome env .strict x h, outcome_strict]
  split
  · rename_i hp
    rw [hp, Nat.zero_add]
  · rfl

theorem readXml_ok (env : Env) (m : Mode) (x : Xml) (r : Obj Str × Nat)
    (h : readXml Guards.fixed env m x = .ok r) :
    RootOk x ∧ r = (validParts env x, problems env x + repeats env x) := by
  rw [readXml_eq] at h
  obtain ⟨p, hp⟩ := Reading.of_ok h
  unfold xmlReading at hp
  cases hv : rootVerdict x <;> rw [hv] at hp <;> cases hp
  exact ⟨hv, rfl⟩

/-- Whatever strict mode returns, lenient mode returns too (same document, same warnings). -/
theorem strict_result_is_lenient_result (env : Env) (x : Xml) (r : Obj Str × Nat)
    (h : readXml Guards.fixed env .strict x = .ok r) : readXml Guards.fixed env .lenient x = .ok r := by
  rw [readXml_eq] at h ⊢
  exact Reading.lenient_of_ok h

/-- **Nothing invalid ⇒ lenient = strict = the full content.** For an input without a problem both
    modes return the document with *every* Section and Property of the input, in document order. -/
theorem valid_input_read_in_full (env : Env) (x : Xml) (h : RootOk x) (hv : problems env x = 0) :
    readXml Guards.fixed env .lenient x = .ok (fullContent env x, repeats env x) ∧
    readXml Guards.fixed env .strict x = .ok (fullContent env x, repeats env x) := by
  have hf : validParts env x = fullContent env x := denote_eq_full env x .doc true _ hv
  rw [lenient_returns_valid_parts env x h, strict_returns_valid_parts_or_raises env x h, hv, hf]
  simp

/-- **`reader_output_wf`, whole tree.** Every document the XML reader returns, in either mode, is a
    well-formed tree at every level: non-empty names, pairwise different names among sibling
    Sections and among sibling Properties, Sections in Section lists and Properties in Property
    lists, no children below a Property, no Property directly in the Document. -/
theorem returned_document_wf (env : Env) (he : env.NamesOk) (m : Mode) (x : Xml) (d : Obj Str)
    (w : Nat) (h : readXml Guards.fixed env m x = .ok (d, w)) :
    TreeWF (· == ·) strOk d ∧ d.kind = .doc := by
  obtain ⟨hr, hd⟩ := readXml_ok env m x (d, w) h
  cases hd
  exact ⟨denote_wf env he x .doc true, denoteTag_kind env .doc true x⟩

/-- the hypothesis on `Env` is satisfiable: constructors that never invent an empty name -/
example : env0.NamesOk := by intro k a s h; cases h
/-- … or hand out a non-empty id as the name of an object created without one -/
example : (⟨fun _ => false, fun _ _ => false, fun _ _ => .given "4f2a".toList⟩ : Env).NamesOk := by
  intro k a s h; cases h; decide

example : RootOk dupThenValid := rootOk_docX _
example : problems env0 dupThenValid = 1 := xml_tests.2.1.1
example : ((validParts env0 dupThenValid).secs.map (·.name)) = [.given "a".toList, .given "c".toList] :=
  xml_tests.2.1.2

example : RootOk cleanDoc := rootOk_docX _
example : problems env0 cleanDoc = 0 := xml_tests.2.2.1

/-! ## 6. What a read returns, whole tree (dictionary reader: JSON / YAML)

`Reader.dDoc` (`Proofs/ReaderDictSpec.lean`, `ReaderDictDenote.lean`) is the specification of the valid
parts of a `Document` dictionary: every dictionary entry of a `sections` list whose Section the
constructor accepts, with the valid parts of its `properties` and `sections` attached unless an
earlier kept sibling of the sort has the name; every dictionary entry of a `properties` list
whose Property the constructor accepts; nothing else — recursively, any depth.
`Reader.docProblems` counts the calls of `self.error`. -/

/-- **Lenient dictionary read, whole tree**: for a dictionary with a `Document` dictionary `kvs`
    and the current version, exactly the valid parts are returned, one warning per problem. -/
theorem dict_lenient_returns_valid_parts (env : DEnv) (x : J) (kvs : List (Str × J))
    (h : dictVerdict Guards.fixed x = .ok (.obj kvs)) :
    readDict Guards.fixed env .lenient x = .ok (dDoc env kvs, docProblems env kvs) := by
  rw [readDict_eq_outcome env .lenient x kvs h, outcome_lenient]

theorem dict_strict_returns_valid_parts_or_raises (env : DEnv) (x : J) (kvs : List (Str × J))
    (h : dictVerdict Guards.fixed x = .ok (.obj kvs)) :
    readDict Guards.fixed env .strict x
      = if docProblems env kvs = 0 then .ok (dDoc env kvs, 0) else .error .parserException := by
  rw [readDict_eq_outcome env .strict x kvs h, outcome_strict]
  split
  · rename_i hp
    rw [hp]
  · rfl

theorem dict_strict_result_is_lenient_result (env : DEnv) (x : J) (r : Obj J × Nat)
    (h : readDict Guards.fixed env .strict x = .ok r) : readDict Guards.fixed env .lenient x = .ok r := by
  rw [readDict_eq] at h ⊢
  exact Reading.lenient_of_ok h

/-- **`reader_output_wf`, whole tree, dictionary reader**: every returned document is well-formed
    at every level (truthy names, pairwise different sibling names per sort, sorts in their lists,
    nothing below a Property, no Property directly in the Document). -/
theorem dict_returned_document_wf (env : DEnv) (he : env.NamesOk) (m : Mode) (x : J) (d : Obj J)
    (w : Nat) (h : readDict Guards.fixed env m x = .ok (d, w)) :
    TreeWF J.pyEq J.truthy d ∧ d.kind = .doc := by
  rw [readDict_eq] at h
  obtain ⟨p, hp⟩ := Reading.of_ok h
  unfold dictReading at hp
  split at hp <;> cases hp
  exact dDoc_wf he _

example : denv0.NamesOk := by intro k a j h; cases h
example : (⟨fun _ _ => false, fun _ _ => .given (jstr "4f2a")⟩ : DEnv).NamesOk := by
  intro k a j h; cases h; decide

/-- `dupProps`: Section `a` with Properties `p`, `p` and Subsection `b` — one problem (the second
    `p`); the returned Section keeps one Property and the Subsection. -/
example : docProblems denv0
    [("sections".toList, .arr [secJ "a"
      [("properties".toList, .arr [.obj [("name".toList, jstr "p")], .obj [("name".toList, jstr "p")]]),
       ("sections".toList, .arr [secJ "b" []])]])] = 1 := dict_tests.2.2.2.2.2

/-- **Nothing invalid ⇒ lenient = strict = the full content (dictionary reader).** For a `Document`
    dictionary without a problem both modes return the document in which *every* dictionary entry
    of every `sections` / `properties` list is a Section / Property (`Reader.dDocFull`), without a
    warning. -/
theorem dict_valid_input_read_in_full (env : DEnv) (x : J) (kvs : List (Str × J))
    (h : dictVerdict Guards.fixed x = .ok (.obj kvs)) (hv : docProblems env kvs = 0) :
    readDict Guards.fixed env .lenient x = .ok (dDocFull env kvs, 0) ∧
    readDict Guards.fixed env .strict x = .ok (dDocFull env kvs, 0) := by
  rw [dict_lenient_returns_valid_parts env x kvs h, dict_strict_returns_valid_parts_or_raises env x kvs h,
    hv, dDoc_eq_full kvs hv]
  simp

/-- **Every object constructed once (XML reader).** A returned document has at most as many objects
    as the read made constructor calls (`callsTag`, the calls the harness replays on the real
    constructors, one per object element of the input): no object of the tree is there twice. -/
theorem returned_objects_le_constructor_calls (env : Env) (m : Mode) (x : Xml) (d : Obj Str) (w : Nat)
    (h : readXml Guards.fixed env m x = .ok (d, w)) :
    Obj.count d ≤ (callsTag Guards.fixed env .doc x).length := by
  obtain ⟨hr, hd⟩ := readXml_ok env m x (d, w) h
  cases hd
  cases x with
  | other k => simp [RootOk, rootVerdict] at hr
  | elem t a tx ks =>
    exact denote_count_le_calls _ Guards.fixed_xmlOk env _ .doc true ⟨_, _, _, _, rfl⟩

/-- two Sections `a`: three constructor calls (Document, `a`, `a`), two objects returned -/
example : Obj.count (validParts env0 dupSections) = 2 := xml_tests.2.2.2.1
example : (callsTag Guards.fixed env0 .doc dupSections).length = 3 := xml_tests.2.2.2.2

end C16
