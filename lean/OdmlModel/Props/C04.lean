/-
C04 — Sibling names stay unique; names and ids are never empty or malformed.

Model: `Model/Heap.lean` (structural operations, `rename`, `new_id`, constructors) and
`Py/Uuid.lean` (`str(uuid.UUID(s))` as the constructors and `new_id` use it).
Uniqueness is a conjunct of the invariant `Heap.WF` (`namesS`, `namesP`) proved for every
operation in `Proofs/Heap*.lean`; this file states it in the property's words, adds the
refusal theorems, the non-empty-name invariant and the id theorems.
-/
import OdmlModel.Proofs.HeapIds
import OdmlModel.Proofs.Uuid
import OdmlModel.Props.C03

namespace C04
open Heap

/-! ## 1. Sibling names are unique after any history -/

/-- Within one Document or Section no two child Sections have the same name, and within one
    Section no two Properties - in every state reachable by any sequence of operations,
    whether each of them succeeded or was refused. -/
theorem sibling_names_unique (ops : List Op) (p a b : Nat) :
    let h := run empty ops
    (a ∈ (h.node p).secs → b ∈ (h.node p).secs → (h.node a).name = (h.node b).name → a = b) ∧
    (a ∈ (h.node p).props → b ∈ (h.node p).props → (h.node a).name = (h.node b).name → a = b) := by
  intro h
  have w := C03.wf_reachable_partial ops
  exact ⟨w.namesS p a b, w.namesP p a b⟩

/-! ## 2. An operation that would create a clash is refused -/

theorem append_clash_refused (h : H) (p x : Nat)
    (hclash : ((h.node x).kind = .sec ∧ nameIn h (h.node p).secs (h.node x).name = true) ∨
      ((h.node x).kind = .prop ∧ nameIn h (h.node p).props (h.node x).name = true)) :
    ∃ e, append h p x = (h, .raised e) := by
  unfold append
  rcases hclash with ⟨hk, hn⟩ | ⟨hk, hn⟩
  · cases hp : (h.node p).kind <;> simp only [hk] <;> first
      | exact ⟨_, rfl⟩
      | (by_cases hc : cycleCheck h p x = true <;> simp [hc, hn])
  · cases hp : (h.node p).kind <;> simp only [hk] <;> first
      | exact ⟨_, rfl⟩
      | simp [hn]

theorem insert_clash_refused (h : H) (p : Nat) (pos : Int) (x : Nat)
    (hclash : ((h.node x).kind = .sec ∧ nameIn h (h.node p).secs (h.node x).name = true) ∨
      ((h.node x).kind = .prop ∧ nameIn h (h.node p).props (h.node x).name = true)) :
    ∃ e, Heap.insert h p pos x = (h, .raised e) := by
  unfold Heap.insert
  rcases hclash with ⟨hk, hn⟩ | ⟨hk, hn⟩
  · cases hp : (h.node p).kind <;> simp only [hk] <;> first
      | exact ⟨_, rfl⟩
      | simp [hn]
  · cases hp : (h.node p).kind <;> simp only [hk] <;> first
      | exact ⟨_, rfl⟩
      | simp [hn]

set_option linter.unusedVariables false in
/-- Renaming to a name a sibling already has is refused and changes nothing. -/
theorem rename_clash_refused (h : H) (w : WF h) (x p : Nat) (new : String) (hxs : x < h.size)
    (hp : (h.node x).parent = some p) (hnew : new ≠ "") (hne : (h.node x).name ≠ new)
    (hclash : ((h.node x).kind = .sec ∧ nameIn h (h.node p).secs new = true) ∨
      ((h.node x).kind = .prop ∧ nameIn h (h.node p).props new = true)) :
    rename h x new = (h, .raised .keyError) := by
  unfold rename
  have hkd : (h.node x).kind ≠ .doc := by
    rcases hclash with ⟨hk, _⟩ | ⟨hk, _⟩ <;> rw [hk] <;> decide
  simp only [hkd, if_false, hne, hnew, hp, decide_false, Bool.false_and, Bool.false_eq_true]
  rcases hclash with ⟨hk, hn⟩ | ⟨hk, hn⟩
  · simp [hk, hn]
  · have hpk : (h.node p).kind = .sec := w.parP x p hp hk
    simp [hk, hn, hpk]

/-- Clearing the name of a detached object falls back to the id. -/
theorem rename_empty_falls_back_to_id (h : H) (x : Nat) (hk : (h.node x).kind ≠ .doc)
    (hne : (h.node x).name ≠ "") (hid : (h.node x).name ≠ (h.node x).id)
    (hfree : (h.node x).parent = none) :
    rename h x "" = (upd h x (fun n => { n with name := (h.node x).id }), .ok) := by
  unfold rename
  simp [hk, hne, hid, hfree]

/-- An `extend` argument that holds the same object (or the same name) twice is refused. -/
theorem extend_duplicate_refused (h : H) (p x : Nat) (rest : List Nat)
    (hk : (h.node x).kind = .sec) (hpk : (h.node p).kind ≠ .prop) :
    ∃ e, extend h p (x :: x :: rest) = (h, .raised e) := by
  unfold extend
  simp only [hpk, if_false]
  simp only [extendCheck, hk]
  by_cases h1 : (nameIn h (h.node p).secs (h.node x).name || ([] : List String).contains (h.node x).name) = true
  · simp only [h1, if_true]; exact ⟨_, rfl⟩
  · simp only [h1]
    by_cases h2 : cycleCheck h p x = true
    · simp only [h2, if_true]; exact ⟨_, rfl⟩
    · simp only [h2]
      have : (nameIn h (h.node p).secs (h.node x).name || [(h.node x).name].contains (h.node x).name) = true := by
        simp
      simp only [this, if_true]; exact ⟨_, rfl⟩

/-! ## 3. Names and ids are never empty -/

/-- After any history whose id texts are rendered UUIDs (hence non-empty), every object has a
    non-empty name and a non-empty id. -/
theorem names_never_empty (ops : List Op) (hid : ∀ op ∈ ops, op.IdsOk) :
    NamesNE (run empty ops) := by
  suffices ∀ h, NamesNE h → NamesNE (run h ops) from this empty namesNE_empty
  induction ops with
  | nil => intro h w; exact w
  | cons op ops ih =>
    intro h w
    exact ih (fun o ho => hid o (List.mem_cons_of_mem _ ho)) _
      (namesNE_step w op (hid op (List.mem_cons_self)))

/-! ## 4. Ids are canonical UUID strings -/

open Py.Uuid in
/-- Whatever `oid` a constructor is given (absent, valid in any accepted spelling, malformed),
    the id it assigns is in canonical 8-4-4-4-12 lower-case form. -/
theorem ctor_id_canonical (oid : Option (List Char)) (fresh : Nat) : Canonical (ctorId oid fresh) :=
  ctorId_canonical oid fresh

open Py.Uuid in
/-- A malformed id passed at creation is replaced by the fresh one. -/
theorem ctor_malformed_id_replaced (s : List Char) (fresh : Nat) (h : parse s = none) :
    ctorId (some s) fresh = render fresh := ctorId_malformed s fresh h

open Py.Uuid in
/-- A malformed id passed to `new_id` is rejected (ValueError), and the object keeps its id. -/
theorem new_id_malformed_rejected (s : List Char) (fresh : Nat) (hp : parse s = none) (h : H) (x : Nat) :
    newId (some s) fresh = none ∧ Heap.newId h x none = (h, .raised .valueError) :=
  ⟨newId_malformed s fresh hp, rfl⟩

open Py.Uuid in
/-- An accepted `new_id` assigns a canonical id. -/
theorem new_id_canonical (oid : Option (List Char)) (fresh : Nat) (s : List Char)
    (h : newId oid fresh = some s) : Canonical s := newId_canonical oid fresh s h

open Py.Uuid in
/-- A canonical id is not empty (so the fallback name is never empty). -/
theorem canonical_nonempty (s : List Char) (h : Canonical s) : s ≠ [] := canonical_ne_nil h

/-! ## 5. Ids stay canonical along every history -/

open Py.Uuid in
/-- The id texts an operation brings in are canonical UUID strings. -/
def CanonOp (op : Op) : Prop := op.IdsSat (fun s => Canonical s.toList)

open Py.Uuid in
/-- "its id is always a canonical UUID string", over the full quantifier: in every state reachable
    by any history of structural operations, renames and `new_id` calls - accepted or refused -
    whose constructors and `new_id` calls assign ids the way `ctorId` / `newId` do, every
    allocated object carries a canonical id.  No operation other than a constructor or an
    accepted `new_id` ever writes an id (the frame lemmas of `HeapNames.lean`). -/
theorem ids_canonical_after_any_history (ops : List Op) (hid : ∀ op ∈ ops, CanonOp op)
    (x : Nat) (hx : x < (run empty ops).size) :
    Canonical ((run empty ops).node x).id.toList :=
  idsSat_run (P := fun s => Canonical s.toList) ops hid x hx

open Py.Uuid in
/-- A constructor call, whatever `oid` it is handed, meets the hypothesis of
    `ids_canonical_after_any_history`. -/
theorem ctor_op_canonical (k : Kind) (name : String) (oid : Option (List Char)) (fresh : Nat)
    (parent : Option Nat) (argsOk : Bool) :
    CanonOp (.construct k name (String.ofList (ctorId oid fresh)) parent argsOk) := by
  show Canonical (String.ofList (ctorId oid fresh)).toList
  rw [String.toList_ofList]; exact ctorId_canonical oid fresh

open Py.Uuid in
/-- An accepted `new_id` call meets it too; a rejected one (`none`) brings in no id at all. -/
theorem new_id_op_canonical (x : Nat) (oid : Option (List Char)) (fresh : Nat) :
    CanonOp (.newId x ((newId oid fresh).map String.ofList)) := by
  cases h : newId oid fresh with
  | none => exact trivial
  | some s =>
    show Canonical (String.ofList s).toList
    rw [String.toList_ofList]; exact newId_canonical oid fresh s h

/-- The fallback name is the id: after clearing the name of a free object in a reachable state
    the name is a canonical UUID string, hence not empty. -/
theorem cleared_name_is_canonical_id (ops : List Op) (hid : ∀ op ∈ ops, CanonOp op) (x : Nat)
    (hx : x < (run empty ops).size) (hk : ((run empty ops).node x).kind ≠ .doc)
    (hne : ((run empty ops).node x).name ≠ "")
    (hidn : ((run empty ops).node x).name ≠ ((run empty ops).node x).id)
    (hfree : ((run empty ops).node x).parent = none) :
    Py.Uuid.Canonical (((rename (run empty ops) x "").1.node x).name).toList := by
  rw [rename_empty_falls_back_to_id _ x hk hne hidn hfree]
  simp only [upd_same]
  exact ids_canonical_after_any_history ops hid x hx

/-- The hypothesis of `names_never_empty` is not an assumption about the caller: a history whose
    id texts are canonical (as every constructor and accepted `new_id` call produces them) has
    non-empty names and ids throughout. -/
theorem names_never_empty_of_canonical (ops : List Op) (hid : ∀ op ∈ ops, CanonOp op) :
    NamesNE (run empty ops) := by
  apply names_never_empty
  intro op hop
  have hne : ∀ s : String, Py.Uuid.Canonical s.toList → s ≠ "" := by
    intro s hc he
    subst he
    exact Py.Uuid.canonical_ne_nil hc rfl
  have h := hid op hop
  cases op with
  | construct k name id parent argsOk => exact hne id h
  | newId x idText =>
    cases idText with
    | none => exact trivial
    | some s => exact hne s h
  | _ => exact trivial

/-! ## Non-vacuity -/

open Py.Uuid in
example : parse "{9B6C0F1E-0000-4000-8000-00000000ABCD}".toList =
    some 0x9b6c0f1e00004000800000000000abcd := by decide +kernel
open Py.Uuid in
example : parse "garbage".toList = none := by decide +kernel
open Py.Uuid in
example : String.ofList (render 0x9b6c0f1e00004000800000000000abcd) =
    "9b6c0f1e-0000-4000-8000-00000000abcd" := by decide +kernel
example : (step (run empty C03.demoOps) (.rename 2 "a")).2 = .ok := by decide +kernel

open Py.Uuid in
example : ∀ op ∈ [Op.construct .doc "" (String.ofList (ctorId none 5)) none true,
      Op.construct .sec "s" (String.ofList (ctorId (some "GARBAGE".toList) 6)) (some 0) true,
      Op.newId 1 ((newId (some "{9B6C0F1E-0000-4000-8000-00000000ABCD}".toList) 7).map String.ofList)],
    CanonOp op := by
  intro op hop
  simp only [List.mem_cons, List.mem_nil_iff, or_false] at hop
  rcases hop with rfl | rfl | rfl
  · exact ctor_op_canonical ..
  · exact ctor_op_canonical ..
  · exact new_id_op_canonical ..

end C04
