/-
C07 — Save never writes an invalid document and a failed save harms no file.

  "A document with at least one validation error is never written: save raises ParserException
   for every output format. Whenever a save raises, for whatever reason, no file is created and
   a file already present at the target path keeps its previous content; a document with
   warnings only is written and the warnings are reported."

Lemmas about the model: `Proofs/FS.lean`.
Model: `Model/FS.lean` (tied to the repository by `harness/c07.py`).

Every theorem is stated for an arbitrary document type `Doc` and an arbitrary environment
`env : Env Doc` — the validation, the renderers of all backends, the XML decoration, `open`
and the warnings filter are arbitrary functions that may fail — so "for whatever reason" is
literally a universal quantifier.
-/
import OdmlModel.Proofs.FS
import OdmlModel.Proofs.Uuid

namespace C07
open FS

/-- The public ways of writing a document to a file. -/
inductive Entry where
  | fileio (backend : List Char) (rdfFormat : Option (List Char))     -- odml.save(doc, path, backend, rdf_format=…)
  | odmlWriter (b : Backend) (rdfFormat : Option (List Char))          -- ODMLWriter(b).write_file(doc, path, …)
  | xmlWriter                                                           -- XMLWriter(doc).write_file(path, …)
  | rdfWriter (fmt : List Char)                                         -- RDFWriter(doc).write_file(path, fmt)

def Entry.run {Doc} (env : Env Doc) : Entry → Doc → Path → Fs → Fs × Outcome
  | .fileio backend f, d, p, fs => fileioSave env backend f d p fs
  | .odmlWriter b f, d, p, fs => odmlWriterWriteFile env b f d p fs
  | .xmlWriter, d, p, fs => xmlWriterWriteFile env d p fs
  | .rdfWriter fmt, d, p, fs => rdfWriterWriteFile env fmt d p fs

/-- The one path an entry point may write to. -/
def Entry.target : Entry → Path → Path
  | .fileio backend _, p => savePath p backend
  | .odmlWriter _ _, p => p
  | .xmlWriter, p => p
  | .rdfWriter fmt, p => rdfTarget fmt p

theorem Entry.run_atomic {Doc} (env : Env Doc) (ep : Entry) (d : Doc) (p : Path) (fs : Fs) :
    Atomic fs (ep.target p) (ep.run env d p fs) := by
  cases ep with
  | fileio backend f =>
    show Atomic fs _ (fileioSave env backend f d p fs)
    unfold fileioSave
    cases parseBackend backend with
    | none => exact .inl ⟨_, rfl⟩
    | some b => exact odml_atomic ..
  | odmlWriter b f => exact odml_atomic ..
  | xmlWriter =>
    show Atomic fs p (xmlWriterWriteFile env d p fs)
    exact xml_spec env d p fs false ▸ commit_atomic ..
  | rdfWriter fmt => exact rdfw_atomic ..

/-- `ODMLWriter(b).write_file`: a document with at least one validation error is refused with
    `ParserException`, for every backend (and RDF sub-format), every target and every state of
    the file system — which is returned untouched. -/
theorem invalid_never_written {Doc} (env : Env Doc) (d : Doc) (issues : List Rank)
    (hv : env.validate d = .ok issues) (he : hasError issues = true)
    (b : Backend) (f : Option (List Char)) (p : Path) (fs : Fs) :
    odmlWriterWriteFile env b f d p fs = (fs, .raised .parserException) := by
  rw [odml_spec, gate_refuses hv he]

/-- The same through `odml.save`, for every backend name that `ODMLWriter` accepts. -/
theorem invalid_never_written_save {Doc} (env : Env Doc) (d : Doc) (issues : List Rank)
    (hv : env.validate d = .ok issues) (he : hasError issues = true)
    (backend : List Char) (hb : (parseBackend backend).isSome = true)
    (f : Option (List Char)) (p : Path) (fs : Fs) :
    fileioSave env backend f d p fs = (fs, .raised .parserException) := by
  unfold fileioSave
  cases hp : parseBackend backend with
  | none => simp [hp] at hb
  | some b => exact invalid_never_written env d issues hv he b f _ fs

example : hasError [.warning, .error] = true := by decide

/-- **Whenever a save raises, for whatever reason, the file system is exactly as before**:
    all four entry points, any backend, any document, any target, any failure of validation,
    rendering, decoration, warning or `open`. -/
theorem failed_save_frame {Doc} (env : Env Doc) (ep : Entry) (d : Doc) (p : Path) (fs : Fs)
    (e : Exc) (h : (ep.run env d p fs).2 = .raised e) : (ep.run env d p fs).1 = fs :=
  (Entry.run_atomic env ep d p fs).frame h

/-- In the words of the property: no file is created … -/
theorem failed_save_creates_no_file {Doc} (env : Env Doc) (ep : Entry) (d : Doc) (p : Path)
    (fs : Fs) (e : Exc) (h : (ep.run env d p fs).2 = .raised e) (q : Path) (hq : fs q = none) :
    (ep.run env d p fs).1 q = none := by
  rw [failed_save_frame env ep d p fs e h]; exact hq

/-- … and a file already present (the target or any other) keeps its previous content. -/
theorem failed_save_keeps_content {Doc} (env : Env Doc) (ep : Entry) (d : Doc) (p : Path)
    (fs : Fs) (e : Exc) (h : (ep.run env d p fs).2 = .raised e) (q : Path) (old : Bytes)
    (hq : fs q = some old) : (ep.run env d p fs).1 q = some old := by
  rw [failed_save_frame env ep d p fs e h]; exact hq

/-- Whatever the outcome, a save touches at most its one target path. -/
theorem save_touches_only_target {Doc} (env : Env Doc) (ep : Entry) (d : Doc) (p : Path)
    (fs : Fs) (q : Path) (hq : q ≠ ep.target p) : (ep.run env d p fs).1 q = fs q :=
  (Entry.run_atomic env ep d p fs).other hq

/-- A renderer that raises `e` (text XML cannot hold, an attribute object json cannot encode, a
    serializer plug-in that refuses the graph, …) makes the save raise the same `e`; nothing is
    opened. -/
theorem render_failure_propagates {Doc} (env : Env Doc) (d : Doc) (b : Backend)
    (f : Option (List Char)) (w : Bool) (hg : gate env d = .ok w) (e : Exc)
    (hr : textOf env b f d = .error e) (p : Path) (fs : Fs) :
    odmlWriterWriteFile env b f d p fs = (fs, .raised e) := by
  rw [odml_spec, hg, hr]; rfl

/-- An RDF format outside `RDF_CONVERSION_FORMATS` is refused with `ValueError` before anything is
    opened (checked against the regenerated table), whatever rdflib would have done. -/
theorem unsupported_rdf_format_refused {Doc} (env : Env Doc) (d : Doc) (fmt : List Char)
    (hf : rdfFormatKnown fmt = false) (w : Bool) (hg : gate env d = .ok w) (p : Path) (fs : Fs) :
    odmlWriterWriteFile env .rdf (some fmt) d p fs = (fs, .raised .valueError) ∧
    rdfWriterWriteFile env fmt d p fs = (fs, .raised .valueError) := by
  constructor
  · exact render_failure_propagates env d .rdf (some fmt) w hg _
      (by simp [textOf, toStr, getRdfStr, hf]) p fs
  · simp [rdfWriterWriteFile, getRdfStr, hf]

/-- The sub-formats the property names, the default of `to_string`, and all the others are in
    the regenerated table, each with a file extension; a made-up name is not. -/
theorem rdf_format_table :
    (∀ fmt ∈ ["xml", "turtle", "nt", "json-ld", "n3", "pretty-xml", "trix", "ttl", "ntriples",
              "nt11", "trig"], rdfFormatKnown fmt.toList = true) ∧
    rdfFormatKnown "bogus".toList = false ∧
    Gen.Misc.rdfFormats.all (fun e => !e.2.isEmpty) = true := by
  decide +kernel

/-- After the format check, `RDF_CONVERSION_FORMATS.get(fmt)` is never `None`. -/
theorem rdf_ext_defined (fmt : List Char) (h : rdfFormatKnown fmt = true) :
    (rdfExt fmt).isSome = true := by
  obtain ⟨⟨k, exts⟩, he⟩ := Option.isSome_iff_exists.mp
    (List.find?_isSome.mpr (List.any_eq_true.mp h))
  have hne := List.all_eq_true.mp rdf_format_table.2.2 _ (List.mem_of_find?_eq_some he)
  unfold rdfExt
  rw [he]
  cases exts with
  | nil => simp at hne
  | cons x xs => rfl

/-- `ODMLWriter` accepts exactly the four backends of SUPPORTED_PARSERS (in any letter case),
    and each backend is reachable. -/
theorem supported_backends :
    Gen.Misc.supportedParsers.map (fun s => parseBackend s.toList) =
      [some .xml, some .yaml, some .json, some .rdf] ∧
    parseBackend "xml".toList = some .xml ∧ parseBackend "Json".toList = some .json ∧
    parseBackend "odml".toList = none := by
  decide +kernel

/-- No error-rank issue, the text can be computed and the target opened (and warnings are not
    configured to raise): the target then holds exactly the rendered text, every other path is
    as before, and the outcome says whether a warning was issued — it was iff there is an issue. -/
theorem warnings_only_written {Doc} (env : Env Doc) (d : Doc) (issues : List Rank)
    (hv : env.validate d = .ok issues) (he : hasError issues = false)
    (hw : (!issues.isEmpty && env.warnRaises) = false)
    (b : Backend) (f : Option (List Char)) (text : Bytes) (ht : textOf env b f d = .ok text)
    (p : Path) (hc : env.canOpen p = true) (fs : Fs) :
    odmlWriterWriteFile env b f d p fs = (fs.write p text, .ok (!issues.isEmpty)) := by
  rw [odml_spec, gate_passes hv he hw, ht]
  simp [commit, hc]

/-- Exactly when is a save successful: iff every step succeeds (`wouldWrite`, which knows nothing
    about the order of effects); and then the file holds that text. -/
theorem save_ok_iff {Doc} (env : Env Doc) (b : Backend) (f : Option (List Char)) (d : Doc)
    (p : Path) (fs : Fs) (w : Bool) :
    (odmlWriterWriteFile env b f d p fs).2 = .ok w ↔
      ∃ t, wouldWrite env b f d p = some (t, w) ∧
           (odmlWriterWriteFile env b f d p fs).1 = fs.write p t := by
  have h := odml_wouldWrite env b f d p fs
  split at h
  · rename_i t w' hw
    rw [h, hw]
    constructor
    · rintro ⟨⟩
      exact ⟨t, rfl, rfl⟩
    · rintro ⟨t', ⟨⟩, _⟩
      rfl
  · rename_i hw
    obtain ⟨e', he'⟩ := h
    rw [he', hw]; simp

example : ∃ (env : Env Unit), hasError [Rank.warning] = false ∧
    env.validate () = .ok [.warning] ∧ textOf env .json none () = .ok "T".toList ∧
    env.canOpen "f".toList = true ∧ (!([Rank.warning].isEmpty) && env.warnRaises) = false :=
  ⟨{ validate := fun _ => .ok [.warning], render := fun _ _ => .ok "T".toList,
     serialize := fun _ _ => .ok [], decorate := fun x => .ok x, canOpen := fun _ => true,
     warnRaises := false }, by decide, rfl, rfl, rfl, rfl⟩

/-! ### Which issues are warnings: by the rule they come from

The property names the ways of being invalid; every other thing the validation can say about a
document is a warning. Over the table regenerated from the source of the registered rules this is
a decidable fact, and with it "warnings only" does not depend on what the validation is *told*
to rank as an error: a document all of whose issues come from registered rules other than the
four blocking ones is written. -/

/-- Every rule the library registers either is one of the four rules that detect the ways of being
    invalid the property names — and then all its issues are errors — or can only warn. -/
theorem nonblocking_rules_rank_warning :
    (∀ r ∈ registeredRules, (r ∈ blockingRules ∧ ruleRank r = some .error) ∨
                            (r ∉ blockingRules ∧ ruleRank r = some .warning)) ∧
    (∀ r ∈ blockingRules, r ∈ registeredRules) := by
  decide +kernel

theorem ruleRank_blocking {r : String} (hb : r ∈ blockingRules) : ruleRank r = some .error :=
  (nonblocking_rules_rank_warning.1 r (nonblocking_rules_rank_warning.2 r hb)).elim (·.2)
    (absurd hb ·.1)

theorem ruleRank_nonblocking {r : String} (hr : r ∈ registeredRules) (hb : r ∉ blockingRules) :
    ruleRank r = some .warning :=
  (nonblocking_rules_rank_warning.1 r hr).elim (absurd ·.1 hb) (·.2)

/-- The rules by which the property's three ways of being invalid are detected
    (missing Section type, duplicate ids, duplicate sibling names) are registered for documents /
    sections in the table regenerated from `Validation._handlers`, and none of them can yield a
    mere warning (regenerated from the source of each rule). -/
theorem blocking_rules_rank_error :
    (∀ r ∈ ["object_required_attributes", "document_unique_ids", "section_unique_name_type",
            "property_unique_names"],
        (Gen.Validation.handlers.any (fun e => e.2.contains r)) = true ∧
        ((Gen.Validation.ranks.find? (fun e => e.1 == r)).map
            (fun e => e.2.contains "LABEL_WARNING")) = some false) ∧
    Gen.Validation.labelError = "error" := by
  refine ⟨fun r hr => ?_, by decide⟩
  have hrank := ruleRank_blocking hr
  obtain ⟨e, he, hre⟩ := List.mem_flatMap.mp (nonblocking_rules_rank_warning.2 r hr)
  refine ⟨List.any_eq_true.mpr ⟨e, he, List.contains_iff_mem.mpr hre⟩, ?_⟩
  -- `ruleRank r = some .error` says that the entry of `r` does not mention LABEL_WARNING
  unfold ruleRank at hrank
  cases hfind : Gen.Validation.ranks.find? (fun e => e.1 == r) with
  | none => rw [hfind] at hrank; cases hrank
  | some entry =>
    obtain ⟨k, labels⟩ := entry
    rw [hfind] at hrank
    cases hc : labels.contains "LABEL_WARNING" with
    | false => exact congrArg some hc
    | true => simp only [hc, if_true] at hrank; split at hrank <;> cases hrank

theorem ranksOf_nonblocking (rules : List String)
    (hr : ∀ r ∈ rules, r ∈ registeredRules ∧ r ∉ blockingRules) :
    hasError (ranksOf rules) = false := by
  simp only [hasError, ranksOf, List.any_eq_false, List.mem_map]
  rintro _ ⟨r, hm, rfl⟩
  simp [ruleRank_nonblocking (hr r hm).1 (hr r hm).2]

/-- **A document with warnings only is written**, with "warnings only" read off the rules: all
    its issues come from registered rules other than the blocking ones (untyped "n.s." Section,
    unnamed object, dependency that names no sibling or whose value does not match, values not of
    the dtype, text values that look like another dtype, violated cardinalities — whatever the
    table lists). For every backend / RDF sub-format, target and file system the target then
    holds exactly the rendered text and a warning is reported iff there is an issue. -/
theorem warning_rule_issues_written {Doc} (env : Env Doc) (d : Doc) (rules : List String)
    (hr : ∀ r ∈ rules, r ∈ registeredRules ∧ r ∉ blockingRules)
    (hv : env.validate d = .ok (ranksOf rules))
    (hw : (!rules.isEmpty && env.warnRaises) = false)
    (b : Backend) (f : Option (List Char)) (text : Bytes) (ht : textOf env b f d = .ok text)
    (p : Path) (hc : env.canOpen p = true) (fs : Fs) :
    odmlWriterWriteFile env b f d p fs = (fs.write p text, .ok (!rules.isEmpty)) := by
  have hem : (ranksOf rules).isEmpty = rules.isEmpty := List.isEmpty_map
  rw [← hem] at hw ⊢
  exact warnings_only_written env d _ hv (ranksOf_nonblocking rules hr) hw b f text ht p hc fs

/-- And the converse: one issue of a blocking rule among them and the document is refused with
    `ParserException`, nothing touched. -/
theorem blocking_rule_issue_refused {Doc} (env : Env Doc) (d : Doc) (rules : List String)
    (r : String) (hm : r ∈ rules) (hb : r ∈ blockingRules)
    (hv : env.validate d = .ok (ranksOf rules))
    (b : Backend) (f : Option (List Char)) (p : Path) (fs : Fs) :
    odmlWriterWriteFile env b f d p fs = (fs, .raised .parserException) := by
  apply invalid_never_written env d (ranksOf rules) hv
  simp only [hasError, ranksOf, List.any_eq_true, List.mem_map]
  exact ⟨.error, ⟨r, hm, by rw [ruleRank_blocking hb]; rfl⟩, rfl⟩

example : "property_dependency_check" ∈ registeredRules ∧
    "property_dependency_check" ∉ blockingRules ∧
    ranksOf ["property_dependency_check", "section_type_must_be_defined"] = [.warning, .warning] := by
  decide +kernel

/-- After **any sequence** of saves — valid and invalid documents, failing renderers, refused
    opens, in any order, to any targets — every path holds the text of the last *successful*
    save aimed at it, or what it held at the start. Failed saves leave no trace, ever. -/
theorem history_last_success {Doc} (cs : List (Call Doc)) (fs : Fs) (q : Path) :
    runCalls cs fs q = match lastWritten cs q with
                       | some t => some t
                       | none => fs q := by
  induction cs generalizing fs with
  | nil => rfl
  | cons c cs ih =>
    simp only [runCalls, lastWritten]
    rw [ih]
    cases hl : lastWritten cs q with
    | some t => rfl
    | none =>
      have h := odml_wouldWrite c.env c.b c.rdfFormat c.d c.p fs
      simp only [Call.run]
      split at h
      · rename_i t w hw
        rw [h, hw]
        by_cases hp : c.p = q
        · subst hp; simp
        · simp [hp, write_other _ _ _ _ (Ne.symm hp)]
      · rename_i hw
        obtain ⟨e', he'⟩ := h
        rw [he', hw]
        by_cases hp : c.p = q <;> simp [hp]

/-- Corollary: a history in which no save to `q` succeeds leaves `q` as it was. -/
theorem history_all_failed_keeps {Doc} (cs : List (Call Doc)) (fs : Fs) (q : Path)
    (h : ∀ c ∈ cs, c.p = q → wouldWrite c.env c.b c.rdfFormat c.d c.p = none) :
    runCalls cs fs q = fs q := by
  have : lastWritten cs q = none := by
    induction cs with
    | nil => rfl
    | cons c cs ih =>
      rw [lastWritten, ih (fun c' hc' => h c' (List.mem_cons_of_mem _ hc'))]
      by_cases hp : c.p = q
      · simp [hp, hp ▸ h c List.mem_cons_self hp]
      · simp [hp]
  rw [history_last_success, this]

/-! ## The order of effects matters: open before render -/

/-- Environment of the witness: a valid document whose JSON rendering raises `TypeError`. -/
def witnessEnv : Env Unit :=
  { validate := fun _ => .ok [], render := fun _ _ => .error (.other "TypeError"),
    serialize := fun _ _ => .ok [], decorate := fun x => .ok x, canOpen := fun _ => true,
    warnRaises := false }

/-- With the file opened before the text is computed (the code before the `fix:` commit), the
    frame property is false: the save raises and the earlier content of the target is gone. -/
theorem legacy_open_first_truncates :
    let fs := Fs.ofList [("f.json".toList, "OLD".toList)]
    let r := odmlWriterWriteFileLegacy witnessEnv .json none () "f.json".toList fs
    r.2 = .raised (.other "TypeError") ∧ fs "f.json".toList = some "OLD".toList ∧
    r.1 "f.json".toList = some [] := by
  -- literals become character lists by a lemma: the kernel is slow at decoding them (also below)
  repeat rw [String.toList_ofList]
  decide +kernel

theorem legacy_frame_false :
    ¬ (∀ (env : Env Unit) (b : Backend) (f : Option (List Char)) (p : Path) (fs : Fs) (e : Exc),
        (odmlWriterWriteFileLegacy env b f () p fs).2 = .raised e →
        (odmlWriterWriteFileLegacy env b f () p fs).1 = fs) := by
  intro h
  obtain ⟨h1, h2, h3⟩ := legacy_open_first_truncates
  have := congrFun (h witnessEnv .json none _ _ _ h1) "f.json".toList
  rw [h2, h3] at this
  cases this

/-- … and the same witness on the current statement order keeps the file. -/
theorem witness_now_harmless :
    let fs := Fs.ofList [("f.json".toList, "OLD".toList)]
    let r := odmlWriterWriteFile witnessEnv .json none () "f.json".toList fs
    r.2 = .raised (.other "TypeError") ∧ r.1 "f.json".toList = some "OLD".toList := by
  repeat rw [String.toList_ofList]
  decide +kernel

/-- Exactly where the old order did harm: a raising legacy save either left everything alone,
    or it was a non-XML backend whose rendering failed after a successful open — then the target
    is left empty (created if it did not exist). -/
theorem legacy_harm_exact {Doc} (env : Env Doc) (b : Backend) (f : Option (List Char)) (d : Doc)
    (p : Path) (fs : Fs) (e : Exc)
    (h : (odmlWriterWriteFileLegacy env b f d p fs).2 = .raised e) :
    (odmlWriterWriteFileLegacy env b f d p fs).1 = fs ∨
    (b ≠ .xml ∧ env.canOpen p = true ∧ toStr env b f d = .error e ∧
      (odmlWriterWriteFileLegacy env b f d p fs).1 = fs.write p []) := by
  cases b
  case xml =>
    exact .inl ((odml_atomic env .xml f d p fs).frame h)
  all_goals
    unfold odmlWriterWriteFileLegacy at h ⊢
    revert h
    cases gate env d with
    | error e' => exact fun _ => .inl rfl
    | ok w =>
      cases hc : env.canOpen p with
      | false => exact fun _ => .inl (by simp [openW, hc])
      | true =>
        simp only [openW, hc, if_true]
        cases toStr env _ f d with
        | error e' => rintro ⟨⟩; exact .inr ⟨by decide, trivial, rfl, rfl⟩
        | ok data => rintro ⟨⟩

/-! ## When `file.write` itself can fail

`WEnv` adds a `write` that may raise after the target has been opened (text the file's codec
cannot encode, device full). This is the one cause of failure `write_file` cannot make harmless;
the theorems below say that it is the *only* one. (The library opens every target as UTF-8, which
every serialiser's output can be encoded in.) -/

/-- If writes cannot fail, the fallible-write model coincides with the model without write failures. -/
theorem saveW_refines {Doc} (env : WEnv Doc) (hW : ∀ t, env.writeOk t = true) (b : Backend)
    (f : Option (List Char)) (d : Doc) (p : Path) (fs : Fs) :
    saveW env b f d p fs = odmlWriterWriteFile env.toEnv b f d p fs := by
  obtain ⟨cut, hcut, hcs⟩ := chunksOf_eq env b f d
  rw [odml_spec, saveW, hcs]
  cases gate env.toEnv d with
  | error e => rfl
  | ok w =>
    cases textOf env.toEnv b f d with
    | error e => rfl
    | ok t =>
      cases hc : env.canOpen p
      · simp [Except.map, commit, openW, hc]
      · simp [Except.map, commit, openW, hc,
          writeChunks_all_ok env p (cut t) [] _ (fun c _ => hW c) (write_same _ _ _), hcut]

/-- An invalid document is refused before anything is opened, whatever `write` would do. -/
theorem saveW_invalid_never_written {Doc} (env : WEnv Doc) (d : Doc) (issues : List Rank)
    (hv : env.validate d = .ok issues) (he : hasError issues = true)
    (b : Backend) (f : Option (List Char)) (p : Path) (fs : Fs) :
    saveW env b f d p fs = (fs, .raised .parserException) := by
  rw [saveW, gate_refuses hv he]

/-- A raising save changes something **only if** the target could be opened and `write` refused
    one of the chunks of this very save — and then nothing but the target is affected. Every
    other cause of failure (validation, rendering, decoration, warning filter, `open`) is
    harmless, also in this model. -/
theorem saveW_harm_exact {Doc} (env : WEnv Doc) (b : Backend) (f : Option (List Char)) (d : Doc)
    (p : Path) (fs : Fs) (e : Exc) (h : (saveW env b f d p fs).2 = .raised e) :
    (saveW env b f d p fs).1 = fs ∨
    (env.canOpen p = true ∧
     (∃ cs, chunksOf env b f d = .ok cs ∧ ∃ c ∈ cs, env.writeOk c = false) ∧
     ∀ q, q ≠ p → (saveW env b f d p fs).1 q = fs q) := by
  unfold saveW at h ⊢
  revert h
  cases gate env.toEnv d with
  | error e' => exact fun _ => .inl rfl
  | ok w =>
    cases chunksOf env b f d with
    | error e' => exact fun _ => .inl rfl
    | ok cs =>
      cases hc : env.canOpen p with
      | false => exact fun _ => .inl (by simp [openW, hc])
      | true =>
        simp only [openW, hc, if_true]
        generalize hr : writeChunks env p cs [] (fs.write p []) = r
        obtain ⟨fs2, _ | e'⟩ := r
        · rintro ⟨⟩
        · refine fun _ => .inr ⟨trivial, ⟨cs, rfl, Decidable.byContradiction fun hn => ?_⟩,
            fun q hq => ?_⟩
          · -- had every chunk been accepted, the writes would have gone through
            rw [writeChunks_all_ok env p cs [] _ (by simpa using hn) (write_same _ _ _)] at hr
            cases hr
          have h1 := writeChunks_other env p cs [] (fs.write p []) q hq
          rw [hr] at h1
          exact h1.trans (write_other fs p q [] hq)

/-- Hence, with writes that cannot fail, the frame property holds in this model too. -/
theorem saveW_frame {Doc} (env : WEnv Doc) (hW : ∀ t, env.writeOk t = true) (b : Backend)
    (f : Option (List Char)) (d : Doc) (p : Path) (fs : Fs) (e : Exc)
    (h : (saveW env b f d p fs).2 = .raised e) : (saveW env b f d p fs).1 = fs := by
  rw [saveW_refines env hW] at h ⊢
  exact (odml_atomic env.toEnv b f d p fs).frame h

/-- The residual risk is real: a `write` that refuses the text leaves the opened target empty. -/
theorem write_failure_truncates :
    let env : WEnv Unit :=
      { validate := fun _ => .ok [], render := fun _ _ => .ok "T".toList,
        serialize := fun _ _ => .ok "T".toList, decorate := fun x => .ok x,
        canOpen := fun _ => true, warnRaises := false,
        writeOk := fun _ => false, split := fun t => ([], t), split_ok := fun _ => rfl }
    let fs := Fs.ofList [("f".toList, "OLD".toList)]
    let r := saveW env .rdf none () "f".toList fs
    r.2 = .raised (.other "write failed") ∧ r.1 "f".toList = some [] := by
  repeat rw [String.toList_ofList]
  decide +kernel

/-- `odml.save` writes to the given path, or to that path with `.<backend>` appended when the
    last `os.pathsep` field of the name has no dot — never anywhere else. -/
theorem save_path_spec (filename backend : List Char) :
    savePath filename backend = filename ∨ savePath filename backend = filename ++ '.' :: backend := by
  unfold savePath; split <;> simp

theorem save_path_examples :
    savePath "/tmp/d/doc.xml".toList "XML".toList = "/tmp/d/doc.xml".toList ∧
    savePath "/tmp/d/doc".toList "JSON".toList = "/tmp/d/doc.JSON".toList ∧
    savePath "/tmp/d.1/doc".toList "yaml".toList = "/tmp/d.1/doc".toList ∧
    savePath "a.b:c".toList "xml".toList = "a.b:c.xml".toList := by
  repeat rw [String.toList_ofList]
  decide +kernel

/-! ## However many issues, wherever the error sits; whichever name the earlier file has

The refusal does not depend on how many issues of rank warning stand in front of or behind
the error, and a failing `odml.save` under a name that it completes itself (`session` →
`session.xml`) leaves the file of the completed name — written by an earlier save — alone. -/

/-- `ODMLWriter.write_file` and `odml.save` refuse a document whose validation yields an error
    behind `pre` and in front of `post`, for lists `pre`, `post` of any length and content
    (20 warnings, 1000 warnings, …): `ParserException`, the file system as it was. -/
theorem error_anywhere_never_written {Doc} (env : Env Doc) (d : Doc) (pre post : List Rank)
    (hv : env.validate d = .ok (pre ++ Rank.error :: post))
    (f : Option (List Char)) (p : Path) (fs : Fs) :
    (∀ b : Backend, odmlWriterWriteFile env b f d p fs = (fs, .raised .parserException)) ∧
    (∀ backend : List Char, (parseBackend backend).isSome = true →
      fileioSave env backend f d p fs = (fs, .raised .parserException)) :=
  ⟨fun b => invalid_never_written env d _ hv (hasError_anywhere pre post) b f p fs,
   fun backend hb => invalid_never_written_save env d _ hv (hasError_anywhere pre post) backend hb f p fs⟩

/-- A failing `odml.save` harms neither the file of the name handed in nor the file of the name it
    derives from it (`savePath`), whether or not either exists. -/
theorem failed_save_keeps_completed_name {Doc} (env : Env Doc) (backend : List Char)
    (f : Option (List Char)) (d : Doc) (p : Path) (fs : Fs) (e : Exc)
    (h : (fileioSave env backend f d p fs).2 = .raised e) :
    (fileioSave env backend f d p fs).1 (savePath p backend) = fs (savePath p backend) ∧
    (fileioSave env backend f d p fs).1 p = fs p := by
  have hfr := failed_save_frame env (.fileio backend f) d p fs e h
  simp only [Entry.run] at hfr
  rw [hfr]; exact ⟨rfl, rfl⟩

/-- Saved, then saved again under the same name by a save that fails (another document, another
    environment — the document has become invalid, a text cannot be rendered, …): the file the
    first save wrote holds the text of the first save. -/
theorem resave_failure_keeps_first_save {Doc} (env₁ env₂ : Env Doc) (backend : List Char)
    (f₁ f₂ : Option (List Char)) (d₁ d₂ : Doc) (p : Path) (fs : Fs) (e : Exc)
    (h₂ : (fileioSave env₂ backend f₂ d₂ p (fileioSave env₁ backend f₁ d₁ p fs).1).2 = .raised e) :
    (fileioSave env₂ backend f₂ d₂ p (fileioSave env₁ backend f₁ d₁ p fs).1).1 (savePath p backend)
      = (fileioSave env₁ backend f₁ d₁ p fs).1 (savePath p backend) :=
  (failed_save_keeps_completed_name env₂ backend f₂ d₂ p _ e h₂).1

example : hasError ((List.replicate 24 Rank.warning) ++ Rank.error :: []) = true := by decide

/-! ## Duplicate ids, however the id was written

The way "duplicate ids" of being invalid, carried by the model instead of being left to the
parameter `validate`: the rule compares the id *texts*; the public doors through which an id
comes in (`oid=` of the constructors, which the readers use too, and `new_id`) store
`str(uuid.UUID(oid))`. So two objects that were handed the same UUID - in whatever spelling
`uuid.UUID` reads: upper case, `urn:uuid:`, braces, no hyphens - hold the same text, the rule
yields an issue of rank error, and the document is never written. -/

/-- Two objects of one id text anywhere in the document: the rule yields an issue. -/
theorem duplicate_id_has_issue (a b c : List (List Char)) (x : List Char) :
    uniqueIdIssues (a ++ x :: b ++ x :: c) ≠ [] := by
  intro h
  exact (List.nodup_append.mp (dupIds_eq_nil.mp h).1).2.2 x
    (List.mem_append_right _ List.mem_cons_self) x List.mem_cons_self rfl

/-- No two objects of one id text: the rule yields nothing (it never blocks a document for its ids). -/
theorem distinct_ids_no_issue (ids : List (List Char)) (h : ids.Nodup) : uniqueIdIssues ids = [] :=
  dupIds_eq_nil.mpr ⟨h, by simp⟩

/-- Whatever the spelling: a door that is handed a text `uuid.UUID` reads as the UUID `n` stores
    the canonical text of `n`. -/
theorem stored_text_of_spelling {s x : List Char} {n : Nat} (hs : Py.Uuid.parse s = some n)
    (hx : StoredFrom s x) : x = Py.Uuid.render n := by
  rcases hx with ⟨fresh, h⟩ | ⟨fresh, h⟩
  · exact h.trans (Py.Uuid.ctorId_valid s fresh n hs)
  · exact Option.some.inj (h.symm.trans (Py.Uuid.newId_valid s fresh n hs))

/-- **Duplicate ids, any spelling, any door, any format.** Two objects of a document (in either
    order, anything before, between and behind them) got their ids through the constructor argument
    or `new_id` from two texts `s₁`, `s₂` that `uuid.UUID` reads as the same UUID; the validation
    returns the issues of the id rule among any others. Then `ODMLWriter.write_file` (every
    backend, every RDF sub-format) and `odml.save` raise `ParserException` and leave the file
    system as it was. -/
theorem respelled_duplicate_id_never_written {Doc} (env : Env Doc) (d : Doc)
    (a b c : List (List Char)) (x y s₁ s₂ : List Char) (n : Nat)
    (h₁ : Py.Uuid.parse s₁ = some n) (h₂ : Py.Uuid.parse s₂ = some n)
    (hx : StoredFrom s₁ x) (hy : StoredFrom s₂ y)
    (pre post : List Rank)
    (hv : env.validate d = .ok (pre ++ idRanks (a ++ x :: b ++ y :: c) ++ post))
    (f : Option (List Char)) (p : Path) (fs : Fs) :
    (∀ bk : Backend, odmlWriterWriteFile env bk f d p fs = (fs, .raised .parserException)) ∧
    (∀ backend : List Char, (parseBackend backend).isSome = true →
      fileioSave env backend f d p fs = (fs, .raised .parserException)) := by
  obtain rfl : y = x := (stored_text_of_spelling h₂ hy).trans (stored_text_of_spelling h₁ hx).symm
  cases hi : uniqueIdIssues (a ++ y :: b ++ y :: c) with
  | nil => exact absurd hi (duplicate_id_has_issue a b c y)
  | cons i rest =>
    rw [idRanks, hi, List.map_cons, List.append_assoc, List.cons_append] at hv
    exact error_anywhere_never_written env d pre _ hv f p fs

/-- A text `uuid.UUID` does not read is refused by `new_id`: the object keeps its id. -/
theorem unreadable_id_refused (s : List Char) (fresh : Nat) (h : Py.Uuid.parse s = none) :
    Py.Uuid.newId (some s) fresh = none := Py.Uuid.newId_malformed s fresh h

/-- The hypotheses are satisfiable: four spellings of one UUID, one stored text; the rule at work. -/
example : Py.Uuid.parse "12345678-9abc-4def-8123-456789abcdef".toList
    = some 0x123456789abc4def8123456789abcdef := by
  repeat rw [String.toList_ofList]
  decide +kernel
example : Py.Uuid.parse "12345678-9ABC-4DEF-8123-456789ABCDEF".toList
    = some 0x123456789abc4def8123456789abcdef := by
  repeat rw [String.toList_ofList]
  decide +kernel
example : Py.Uuid.parse "urn:uuid:12345678-9abc-4def-8123-456789abcdef".toList
    = some 0x123456789abc4def8123456789abcdef := by
  repeat rw [String.toList_ofList]
  decide +kernel
example : Py.Uuid.parse "{123456789abc4def8123456789abcdef}".toList
    = some 0x123456789abc4def8123456789abcdef := by
  repeat rw [String.toList_ofList]
  decide +kernel
example : Py.Uuid.render 0x123456789abc4def8123456789abcdef
    = "12345678-9abc-4def-8123-456789abcdef".toList := by
  repeat rw [String.toList_ofList]
  decide +kernel
example : Py.Uuid.parse "URN:UUID:12345678-9abc-4def-8123-456789abcdef".toList = none := by
  repeat rw [String.toList_ofList]
  decide +kernel

example : uniqueIdIssues ["d".toList, "p".toList, "s".toList, "p".toList, "d".toList]
    = ["p".toList, "d".toList] := by
  repeat rw [String.toList_ofList]
  decide +kernel

end C07
