/-
C08 - Validation reports exactly the issues the documented rules prescribe.

Lemmas that the rules share (visits, scans, the registry) are in `Proofs/Valid.lean`.
Model: `Model/Valid.lean` (+ `Model/Card.lean`), tied to /repo by `harness/c08.py`.

`issues n` is the list of issues of `Validation(n)` with the default registry (regenerated from
the source), `validate n` the same with the explicit `.crash` outcome.  All statements hold for
every tree: no bound on depth, width, string length, number of values.
-/
import OdmlModel.Model.ValidWriter
import OdmlModel.Proofs.Valid
import OdmlModel.Props.C09
namespace C08
open Valid

theorem registry_default_exact :
    Gen.Validation.handlers =
      [("odML", ["document_unique_ids", "object_required_attributes", "section_unique_name_type"]),
       ("property", ["object_name_readable", "object_required_attributes", "property_dependency_check",
                     "property_values_cardinality", "property_values_check",
                     "property_values_string_check"]),
       ("section", ["object_name_readable", "object_required_attributes", "property_unique_names",
                    "section_properties_cardinality", "section_sections_cardinality",
                    "section_type_must_be_defined", "section_unique_name_type"])] := rfl

theorem registry_modelled :
    ∀ e ∈ Gen.Validation.handlers, ∀ n ∈ e.2, (Rule.ofName n).isSome = true := registry_eval.1

theorem required_table :
    requiredArgs .odML = [] ∧ requiredArgs .section = ["type", "name"] ∧
    requiredArgs .property = ["name"] := by decide

theorem mem_issues (n : Node) (iss : Issue) :
    iss ∈ issues n ↔ ∃ v ∈ visits n, ∃ r ∈ defaultReg v.obj.klass, iss ∈ applyRule r v :=
  Valid.mem_issues n iss

/-- Missing required attribute (error): a Section without name or without type, a Property
    without name. -/
theorem required_sound_complete (n : Node) (o : Ref) :
    ⟨o, .objectRequiredAttributes, .error⟩ ∈ issues n ↔
      (∃ p s, o = .sec p ∧ n.secAt p = some s ∧ (s.name = [] ∨ falsy s.type = true)) ∨
      (∃ p k sibs q, o = .prop p k ∧ PropAt n p k sibs q ∧ q.name = []) := by
  rw [mem_issues_rule n _ .objectRequiredAttributes rfl]
  simp only [applyRule, mem_ruleRequired, Obj.klass, required_table, List.mem_cons,
    List.not_mem_nil, or_false, false_and, and_false, exists_false, false_or, exists_eq_or_imp,
    exists_eq_left, attrMissing_sec_type, attrMissing_sec_name, attrMissing_prop_name,
    List.isEmpty_iff, Issue.mk.injEq, and_true]
  constructor
  · rintro (⟨p, s, hs, _, h, rfl⟩ | ⟨p, k, sibs, q, hq, _, h, rfl⟩)
    · exact Or.inl ⟨p, s, rfl, hs, h.symm⟩
    · exact Or.inr ⟨p, k, sibs, q, rfl, hq, h⟩
  · rintro (⟨p, s, rfl, hs, h⟩ | ⟨p, k, sibs, q, rfl, hq, h⟩)
    · exact Or.inl ⟨p, s, hs, by decide, h.symm, rfl⟩
    · exact Or.inr ⟨p, k, sibs, q, hq, by decide, h, rfl⟩

/-- Unspecified Section type (warning): the type is the placeholder `n.s.`. -/
theorem type_undefined_sound_complete (n : Node) (o : Ref) :
    ⟨o, .sectionTypeMustBeDefined, .warning⟩ ∈ issues n ↔
      ∃ p s, o = .sec p ∧ n.secAt p = some s ∧ s.type = some ['n', '.', 's', '.'] := by
  rw [sec_rule n _ .sectionTypeMustBeDefined]
  simp only [applyRule, ruleTypeDefined, mem_ite_issue, beq_iff_eq]
  exact exists₂_congr fun _ _ => and_left_comm

/-- Name equal to id (warning), for Sections and Properties. -/
theorem name_readable_sound_complete (n : Node) (o : Ref) :
    ⟨o, .objectNameReadable, .warning⟩ ∈ issues n ↔
      (∃ p s, o = .sec p ∧ n.secAt p = some s ∧ s.name = s.id) ∨
      (∃ p k sibs q, o = .prop p k ∧ PropAt n p k sibs q ∧ q.name = q.id) := by
  rw [mem_issues_rule n _ .objectNameReadable rfl]
  simp only [applyRule, ruleNameReadable, mem_ite_issue, beq_iff_eq, List.not_mem_nil, and_false,
    exists_false, false_or, (by decide : Rule.objectNameReadable ∈ defaultRules .section),
    (by decide : Rule.objectNameReadable ∈ defaultRules .property), true_and]
  exact or_congr (exists₂_congr fun _ _ => and_left_comm)
    (exists₂_congr fun _ _ => exists₂_congr fun _ _ => and_left_comm)

/-- `t` is the Property a dependency named `dep` refers to: the first sibling of that name. -/
def FirstNamed (sibs : List Prp) (dep : Str) (t : Prp) : Prop :=
  ∃ pre post, sibs = pre ++ t :: post ∧ t.name = dep ∧ ∀ x ∈ pre, x.name ≠ dep

/-- The dependency of `q` is not satisfied among its siblings: it names no sibling Property, or
    a required `dependency_value` is not among the values of the Property it names. -/
def Unsatisfied (sibs : List Prp) (q : Prp) : Prop :=
  ∃ dep, q.dependency = some dep ∧
    ((∀ t ∈ sibs, t.name ≠ dep) ∨
     (∃ t dv, FirstNamed sibs dep t ∧ q.depValue = some dv ∧ Val.str dv ∉ t.values))

theorem _root_.Valid.findProp_none (sibs : List Prp) (dep : Str) :
    findProp sibs dep = none ↔ ∀ t ∈ sibs, t.name ≠ dep := by
  simp [findProp, List.find?_eq_none]

theorem findProp_some (sibs : List Prp) (dep : Str) (t : Prp) :
    findProp sibs dep = some t ↔ FirstNamed sibs dep t := by
  simp only [findProp, List.find?_eq_some_iff_append, FirstNamed]
  constructor
  · rintro ⟨ht, pre, post, hl, hpre⟩
    exact ⟨pre, post, hl, by simpa using ht, fun x hx => by simpa using hpre x hx⟩
  · rintro ⟨pre, post, hl, ht, hpre⟩
    exact ⟨by simpa using ht, pre, post, hl, fun x hx => by simpa using hpre x hx⟩

theorem ruleDependency_iff (ref ref' : Ref) (sibs? : Option (List Prp)) (q : Prp) :
    (⟨ref', .propertyDependencyCheck, .warning⟩ : Issue) ∈ ruleDependency ⟨ref, .prop sibs? q⟩ ↔
      ref' = ref ∧ ∃ sibs, sibs? = some sibs ∧ Unsatisfied sibs q := by
  -- both sides are read off `findProp sibs dep`
  simp only [Unsatisfied, ← findProp_none, ← findProp_some]
  rcases sibs? with _ | sibs <;> simp only [ruleDependency]
  · simp
  · generalize q.dependency = od, q.depValue = ov
    rcases od with _ | dep
    · simp
    · simp only [Option.some.injEq, exists_eq_left']
      rcases findProp sibs dep with _ | t <;> rcases ov with _ | dv <;> simp [and_comm]

/-- Unsatisfied dependency (warning). -/
theorem dependency_sound_complete (n : Node) (o : Ref) :
    ⟨o, .propertyDependencyCheck, .warning⟩ ∈ issues n ↔
      ∃ p k sibs q, o = .prop p k ∧ PropAt n p k (some sibs) q ∧ Unsatisfied sibs q := by
  rw [prop_rule n _ .propertyDependencyCheck]
  simp only [applyRule, ruleDependency_iff]
  constructor
  · rintro ⟨p, k, sibs?, q, hq, rfl, sibs, rfl, hu⟩
    exact ⟨p, k, sibs, q, rfl, hq, hu⟩
  · rintro ⟨p, k, sibs, q, rfl, hq, hu⟩
    exact ⟨p, k, some sibs, q, hq, rfl, sibs, rfl, hu⟩

/-- The values the rule looks at: those before the first `None`. -/
def Checked (vs : List Val) : List Val := vs.takeWhile (· != .none)

/-- The value fits the dtype: an `n-tuple` dtype wants a value of length `n`; any other dtype
    wants `dtypes.get(value, dtype)` to return. -/
def fits (d : Str) (v : Val) : Bool :=
  if isTupleDtype d then
    match pyIntParse (d.take (d.length - 6)) with
    | some n => (valLen v).map Int.ofNat == some n
    | none => false
  else getOk d v

/-- The tuple dtype (if it is one) has a readable length: `int(dtype[:-6])` does not raise. -/
def TupleLenReadable (d : Str) : Prop :=
  isTupleDtype d = true → (pyIntParse (d.take (d.length - 6))).isSome = true

theorem valuesLoop_cons (d : Str) (hd : TupleLenReadable d) {v : Val} (hv : v ≠ .none)
    (vs : List Val) :
    valuesLoop d (v :: vs) = (valuesLoop d vs).map (· + if fits d v then 0 else 1) := by
  rw [valuesLoop.eq_3 d v vs (fun h => hv h)]
  unfold fits
  by_cases ht : isTupleDtype d = true
  · obtain ⟨n, hn⟩ := Option.isSome_iff_exists.mp (hd ht)
    simp only [ht, hn, if_true]
  · simp only [ht, Bool.false_eq_true, if_false]

theorem valuesLoop_some (d : Str) (hd : TupleLenReadable d) (vs : List Val) :
    valuesLoop d vs = some ((Checked vs).filter (fun v => !fits d v)).length := by
  induction vs with
  | nil => rfl
  | cons v vs ih =>
    by_cases hv : v = .none
    · subst hv; rfl
    · have hb : (v != .none) = true := bne_iff_ne.mpr hv
      rw [valuesLoop_cons d hd hv, ih]
      simp only [Checked, List.takeWhile_cons, hb, if_true, List.filter_cons, Option.map_some]
      cases fits d v <;> rfl

theorem valuesLoop_none (d : Str) (vs : List Val) (h : valuesLoop d vs = none) :
    ¬ TupleLenReadable d := by
  intro hd
  rw [valuesLoop_some d hd] at h
  cases h

theorem effDtype_readable (q : Prp) (d : Str) (he : effDtype q = some d)
    (hq : ∀ d', q.dtype = some d' → TupleLenReadable d') : TupleLenReadable d := by
  -- an inferred dtype is never a tuple dtype
  have inferred : (match q.values with
      | v :: _ => some (inferDtype v)
      | [] => none) = some d → TupleLenReadable d := by
    intro h ht
    split at h
    · cases h; rw [inferDtype_not_tuple] at ht; cases ht
    · cases h
  unfold effDtype at he
  cases hdt : q.dtype with
  | none => simp only [hdt] at he; exact inferred he
  | some d' =>
    simp only [hdt] at he
    split at he
    · cases he; exact hq _ hdt
    · exact inferred he

theorem valuesCheckCount_eq (q : Prp) (hq : ∀ d, q.dtype = some d → TupleLenReadable d) :
    valuesCheckCount q = some (match effDtype q with
      | none => 0
      | some d => ((Checked q.values).filter (fun v => !fits d v)).length) := by
  unfold valuesCheckCount
  cases he : effDtype q with
  | none => rfl
  | some d => exact valuesLoop_some d (effDtype_readable q d he hq) _

/-- Values inconsistent with the dtype (warning): some value before the first `None` does not
    fit the effective dtype (the Property's, or the one inferred from the first value).
    Hypothesis: a tuple dtype has a readable length (guaranteed by `dtypes.valid_type`). -/
theorem values_check_sound_complete (n : Node) (o : Ref)
    (hn : ∀ p k sibs q d, PropAt n p k sibs q → q.dtype = some d → TupleLenReadable d) :
    ⟨o, .propertyValuesCheck, .warning⟩ ∈ issues n ↔
      ∃ p k sibs q d, o = .prop p k ∧ PropAt n p k sibs q ∧ effDtype q = some d ∧
        ∃ v ∈ Checked q.values, fits d v = false := by
  rw [prop_rule n _ .propertyValuesCheck]
  have key : ∀ p k sibs q, PropAt n p k sibs q →
      ((valuesCheckCount q).getD 0 ≠ 0 ↔
        ∃ d, effDtype q = some d ∧ ∃ v ∈ Checked q.values, fits d v = false) := by
    intro p k sibs q hq
    rw [valuesCheckCount_eq q (fun d => hn p k sibs q d hq), Option.getD_some]
    split <;> simp [*, List.length_eq_zero_iff, List.filter_eq_nil_iff]
  simp only [applyRule, ruleValuesCheck, List.mem_replicate, Issue.mk.injEq, and_true]
  constructor
  · rintro ⟨p, k, sibs, q, hq, h, rfl⟩
    obtain ⟨d, h⟩ := (key p k sibs q hq).mp h
    exact ⟨p, k, sibs, q, d, rfl, hq, h⟩
  · rintro ⟨p, k, sibs, q, d, rfl, hq, h⟩
    exact ⟨p, k, sibs, q, hq, (key p k sibs q hq).mpr ⟨d, h⟩, rfl⟩

theorem stringCheckFires_iff (q : Prp) : stringCheckFires q = true ↔
    (q.dtype = some ['s', 't', 'r', 'i', 'n', 'g'] ∧
      ∃ (c : StrClass) (ss : List Str), ss ≠ [] ∧ q.values = ss.map Val.str ∧ c ≠ .string ∧
        ∀ s ∈ ss, strClass s = c) := by
  unfold stringCheckFires
  rw [Bool.and_eq_true, beq_iff_eq]
  refine and_congr_right fun _ => ⟨fun h => ?_, ?_⟩
  · split at h
    · rename_i c cs _ hc
      obtain ⟨_ | ⟨s, ss⟩, hv, hcs⟩ := (strClasses_some _ _).mp hc
      · cases hcs
      · obtain ⟨rfl, rfl⟩ := List.cons.inj hcs
        simp only [Bool.and_eq_true, List.all_eq_true, List.mem_map, beq_iff_eq, bne_iff_ne,
          forall_exists_index, and_imp, forall_apply_eq_imp_iff₂] at h
        exact ⟨_, s :: ss, List.cons_ne_nil _ _, hv, h.2, List.forall_mem_cons.mpr ⟨rfl, h.1⟩⟩
    · cases h
  · rintro ⟨c, _ | ⟨s, ss⟩, hne, hv, hc, hall⟩
    · exact absurd rfl hne
    · obtain ⟨rfl, hall⟩ := List.forall_mem_cons.mp hall
      rw [hv, strClasses_map]
      simpa [List.all_eq_true] using ⟨hall, hc⟩

/-- The prototype rule (warning): a `string` Property all of whose values are strings that look
    like one and the same other dtype. -/
theorem string_check_sound_complete (n : Node) (o : Ref) :
    ⟨o, .propertyValuesStringCheck, .warning⟩ ∈ issues n ↔
      ∃ p k sibs q, o = .prop p k ∧ PropAt n p k sibs q ∧ q.dtype = some ['s', 't', 'r', 'i', 'n', 'g'] ∧
        ∃ (c : StrClass) (ss : List Str), ss ≠ [] ∧ q.values = ss.map Val.str ∧ c ≠ .string ∧
          ∀ s ∈ ss, strClass s = c := by
  rw [prop_rule n _ .propertyValuesStringCheck]
  simp only [applyRule, ruleValuesStringCheck, mem_ite_issue, stringCheckFires_iff]
  exact exists₂_congr fun _ _ => exists₂_congr fun _ _ => and_left_comm

/-! ### cardinalities (via `Card.cardIssue`, the model of `_cardinality_validation` of C09) -/

/-- Unmet Property cardinality of a Section (warning). -/
theorem props_card_sound_complete (n : Node) (o : Ref) :
    ⟨o, .sectionPropertiesCardinality, .warning⟩ ∈ issues n ↔
      ∃ p s, o = .sec p ∧ n.secAt p = some s ∧
        (Card.cardIssue s.propCard s.props.length).isSome = true := by
  rw [sec_rule n _ .sectionPropertiesCardinality]
  simp only [applyRule, rulePropsCard, cardRule_iff]
  exact exists₂_congr fun _ _ => and_left_comm

/-- Unmet sub-Section cardinality of a Section (warning). -/
theorem secs_card_sound_complete (n : Node) (o : Ref) :
    ⟨o, .sectionSectionsCardinality, .warning⟩ ∈ issues n ↔
      ∃ p s, o = .sec p ∧ n.secAt p = some s ∧
        (Card.cardIssue s.secCard s.subs.length).isSome = true := by
  rw [sec_rule n _ .sectionSectionsCardinality]
  simp only [applyRule, ruleSecsCard, cardRule_iff]
  exact exists₂_congr fun _ _ => and_left_comm

/-- Unmet values cardinality of a Property (warning). -/
theorem vals_card_sound_complete (n : Node) (o : Ref) :
    ⟨o, .propertyValuesCardinality, .warning⟩ ∈ issues n ↔
      ∃ p k sibs q, o = .prop p k ∧ PropAt n p k sibs q ∧
        (Card.cardIssue q.valCard q.values.length).isSome = true := by
  rw [prop_rule n _ .propertyValuesCardinality]
  simp only [applyRule, ruleValsCard, cardRule_iff]
  exact exists₂_congr fun _ _ => exists₂_congr fun _ _ => and_left_comm

/-- For every cardinality a setter can store (`C09.Stored`, see `C09.slot_always_stored`),
    "the rule reports" is "the child count lies outside [min, max]". -/
theorem card_report_is_outside (c : Card.Card) (hc : C09.Stored c) (k : Nat) :
    (Card.cardIssue c k).isSome = true ↔ Card.Outside c k :=
  C09.report_iff_outside c hc k

/-- Duplicate name/type among sibling Sections (error): reported for a child Section iff an
    earlier sibling (under the Document or under any Section) has the same name and type. -/
theorem unique_name_type_sound_complete (n : Node) (o : Ref) :
    ⟨o, .sectionUniqueNameType, .error⟩ ∈ issues n ↔
      ∃ p l pre x post, n.childSecs p = some l ∧ l = pre ++ x :: post ∧
        o = .sec (p ++ [pre.length]) ∧ ∃ y ∈ pre, y.name = x.name ∧ y.type = x.type := by
  rw [mem_issues_rule n _ .sectionUniqueNameType rfl]
  simp only [applyRule, ruleUniqueNameType, List.mem_map, Issue.mk.injEq, and_true,
    exists_eq_right, mem_scan_labelled, Prod.mk.injEq, List.not_mem_nil, and_false, exists_false,
    or_false, childSecs_iff]
  constructor
  · rintro (⟨d, rfl, _, pre, x, post, h⟩ | ⟨p, s, hs, _, pre, x, post, h⟩)
    · exact ⟨[], d.secs, pre, x, post, Or.inl ⟨d, rfl, rfl, rfl⟩, h⟩
    · exact ⟨p, s.subs, pre, x, post, Or.inr ⟨s, hs, rfl⟩, h⟩
  · rintro ⟨p, l, pre, x, post, ⟨d, rfl, rfl, rfl⟩ | ⟨s, hs, rfl⟩, h⟩
    · exact Or.inl ⟨d, rfl, by decide, pre, x, post, h⟩
    · exact Or.inr ⟨p, s, hs, by decide, pre, x, post, h⟩

/-- Duplicate names among the Properties of a Section (error): reported for a Property iff an
    earlier Property of the same Section has the same name. -/
theorem unique_prop_names_sound_complete (n : Node) (o : Ref) :
    ⟨o, .propertyUniqueName, .error⟩ ∈ issues n ↔
      ∃ p s pre x post, n.secAt p = some s ∧ s.props = pre ++ x :: post ∧
        o = .prop p pre.length ∧ ∃ y ∈ pre, y.name = x.name := by
  rw [sec_rule n _ .propertyUniqueNames rfl (by decide)
    (by intro ref d; cases ref <;> rfl) (by intro ref sibs q; cases ref <;> rfl)]
  simp only [applyRule, ruleUniquePropNames, List.mem_map, Issue.mk.injEq, and_true,
    exists_eq_right, mem_scan_labelled, exists_and_left]

/-- Document order of the objects below a Document, with their ids: per Section its Properties,
    then the Section, then its sub-Sections. -/
def docIdEntries (d : Doc) : List (Ref × Str) := secsIdEntries [] 0 d.secs

/-- The issue kind a duplicate id is reported with: by the kind of object. -/
def dupIdKind : Ref → IssueId
  | .prop _ _ => .propertyUniqueIds
  | _ => .sectionUniqueIds

/-- Duplicate ids (error): validating a Document reports an object iff its id is the
    Document's or that of an object earlier in document order. -/
theorem unique_ids_sound_complete (d : Doc) (o : Ref) (iid : IssueId)
    (hi : iid = .sectionUniqueIds ∨ iid = .propertyUniqueIds) :
    ⟨o, iid, .error⟩ ∈ issues (.doc d) ↔
      iid = dupIdKind o ∧
      ∃ pre k post, docIdEntries d = pre ++ (o, k) :: post ∧ (k = d.id ∨ k ∈ pre.map (·.2)) := by
  have hr : (⟨o, iid, .error⟩ : Issue).id.rule = some .documentUniqueIds := by
    rcases hi with rfl | rfl <;> rfl
  have hid : ∀ r : Ref, idIssue r = ⟨r, dupIdKind r, .error⟩ := fun r => by cases r <;> rfl
  simp only [mem_issues_rule _ _ _ hr, Node.doc.injEq, applyRule, ruleDocumentUniqueIds,
    List.mem_map, hid, Issue.mk.injEq, and_true, secsUniqueIds_eq, mem_scanM, List.mem_singleton,
    docIdEntries, exists_eq_left', (by decide : Rule.documentUniqueIds ∉ defaultRules .section),
    (by decide : Rule.documentUniqueIds ∉ defaultRules .property), false_and, and_false,
    exists_false, or_false]
  constructor
  · rintro ⟨_, r, h, rfl, rfl⟩; exact ⟨rfl, h⟩
  · rintro ⟨rfl, h⟩; exact ⟨by decide, o, h, rfl, rfl⟩

/-- The document order used by the duplicate-id rule lists exactly the Sections and Properties
    of the Document, each with its id. -/
theorem id_entries_cover (d : Doc) (r : Ref) (k : Str) :
    (r, k) ∈ docIdEntries d ↔
      (∃ p s, r = .sec p ∧ (Node.doc d).secAt p = some s ∧ k = s.id) ∨
      (∃ p i s q, r = .prop p i ∧ (Node.doc d).secAt p = some s ∧ s.props[i]? = some q ∧
        k = q.id) := by
  unfold docIdEntries
  simp only [mem_secsIdEntries, below_root (doc_secAt_cons d), LocalVisit]
  constructor
  · rintro ⟨v, ⟨j, p, t, ht, rfl | ⟨i, q, hq, rfl⟩⟩, rfl, rfl⟩
    · exact Or.inl ⟨_, t, rfl, ht, rfl⟩
    · exact Or.inr ⟨_, i, t, q, rfl, ht, hq, rfl⟩
  · rintro (⟨_ | ⟨j, p⟩, s, rfl, hs, rfl⟩ | ⟨_ | ⟨j, p⟩, i, s, q, rfl, hs, hq, rfl⟩)
    · cases hs
    · exact ⟨_, ⟨j, p, s, hs, Or.inl rfl⟩, rfl, rfl⟩
    · cases hs
    · exact ⟨_, ⟨j, p, s, hs, Or.inr ⟨i, q, hq, rfl⟩⟩, rfl, rfl⟩

/-- Ids are only compared when a Document is validated: a stand-alone Section or Property
    never gets a duplicate-id issue. -/
theorem unique_ids_only_documents (n : Node) (hn : ∀ d, n ≠ .doc d) (o : Ref) (iid : IssueId)
    (hi : iid = .sectionUniqueIds ∨ iid = .propertyUniqueIds) (r : Rank) :
    ⟨o, iid, r⟩ ∉ issues n := by
  have hr : (⟨o, iid, r⟩ : Issue).id.rule = some .documentUniqueIds := by
    rcases hi with rfl | rfl <;> rfl
  rw [mem_issues_rule _ _ _ hr]
  rintro (⟨d, hd, _⟩ | ⟨_, _, _, h, _⟩ | ⟨_, _, _, _, _, h, _⟩)
  · exact hn d hd
  · exact absurd h (by decide)
  · exact absurd h (by decide)

/-- An issue kind always comes with its documented rank. -/
theorem rank_by_id (n : Node) (iss : Issue) (h : iss ∈ issues n) : iss.rank = iss.id.rank := by
  obtain ⟨v, _, r, _, hi⟩ := (mem_issues n iss).mp h
  exact (applyRule_sound r v iss hi).2

/-- Errors and warnings are never confused: no issue kind is reported with both ranks,
    whatever the objects. -/
theorem rank_never_confused (n n' : Node) (o o' : Ref) (i : IssueId) :
    ¬ (⟨o, i, .error⟩ ∈ issues n ∧ ⟨o', i, .warning⟩ ∈ issues n') := by
  rintro ⟨h1, h2⟩
  cases (rank_by_id n _ h1).trans (rank_by_id n' _ h2).symm

/-- The kinds that carry rank error: exactly the five the property lists. -/
def errorKinds : List IssueId :=
  [.objectRequiredAttributes, .sectionUniqueIds, .propertyUniqueIds, .sectionUniqueNameType,
   .propertyUniqueName]

theorem error_kinds (i : IssueId) : i.rank = .error ↔ i ∈ errorKinds := by
  cases i <;> decide

/-- Saving is refused iff the Document has an issue of one of the five error kinds; warnings
    alone never block saving. -/
theorem blocks_save_iff (d : Doc) :
    blocksSave d = true ↔ ∃ iss ∈ issues (.doc d), iss.id ∈ errorKinds := by
  simp only [blocksSave, List.any_eq_true, beq_iff_eq]
  refine exists_congr fun iss => and_congr_right fun h => ?_
  rw [rank_by_id _ _ h, error_kinds]

/-- The rank a rule function yields. -/
def ruleRank : Rule → Rank
  | .documentUniqueIds | .objectRequiredAttributes | .propertyUniqueNames
  | .sectionUniqueNameType => .error
  | _ => .warning

def rankLabelName : Rank → String
  | .error => "LABEL_ERROR"
  | .warning => "LABEL_WARNING"

/-- One evaluation for both tables: the kernel meets the same string literals in both. -/
theorem tables_eval :
    (∀ i ∈ IssueId.all, (i.name, i.code) ∈ Gen.Validation.issueIds) ∧
    (∀ e ∈ Gen.Validation.ranks, ∀ r ∈ Rule.all, r.name = e.1 → e.2 ≠ [] →
      e.2 = [rankLabelName (ruleRank r)]) := by decide +kernel

theorem issue_ids_agree :
    (∀ i : IssueId, i ∈ IssueId.all) ∧
    (∀ i ∈ IssueId.all, (i.name, i.code) ∈ Gen.Validation.issueIds) :=
  ⟨fun i => by cases i <;> decide, tables_eval.1⟩

/-- The rank literals found in the source of each registered rule (regenerated table; rules
    that delegate to a helper have an empty entry) are the ranks of the model. -/
theorem ranks_agree :
    (∀ e ∈ Gen.Validation.ranks, ∀ r ∈ Rule.all, r.name = e.1 → e.2 ≠ [] →
      e.2 = [rankLabelName (ruleRank r)]) ∧
    (∀ i : IssueId, ∀ r, i.rule = some r → i.rank = ruleRank r) := by
  refine ⟨tables_eval.2, fun i r h => ?_⟩
  cases i <;> simp [IssueId.rule] at h <;> subst h <;> rfl

theorem labels_distinct :
    Gen.Validation.labelError = Rank.error.label ∧ Gen.Validation.labelWarning = Rank.warning.label ∧
    Rank.error.label ≠ Rank.warning.label := by decide

/-- Validating any Document, Section or Property returns (never raises) and yields exactly
    `issues n`, provided tuple dtypes have a readable length. -/
theorem validate_total (n : Node)
    (hn : ∀ p k sibs q d, PropAt n p k sibs q → q.dtype = some d → TupleLenReadable d) :
    validate n = .ok (issues n) := by
  have hc : crashesWith ruleCrashes defaultReg n = false := by
    simp only [crashesWith, List.any_eq_false, List.any_eq_true, not_exists, not_and,
      Bool.not_eq_true]
    intro v hv r _
    -- only `property_values_check` on a Property can raise
    rcases (mem_visits n v).mp hv with ⟨d, _, rfl⟩ | ⟨p, s, _, rfl⟩ | ⟨p, k, sibs, q, hq, rfl⟩ <;>
      cases r <;> try rfl
    simp [ruleCrashes, valuesCheckCount_eq q (fun d => hn p k sibs q d hq)]
  simp [validate, runWith, hc, issues]

/-- Without the hypothesis the statement is false: `int("x")` raises inside the rule. -/
theorem validate_total_counterexample :
    validate (.prop { id := ['i'], name := ['p'], dtype := some ['x', '-', 't', 'u', 'p', 'l', 'e'],
                      values := [.int 1], dependency := none, depValue := none,
                      valCard := none }) = .crash := by rw [validate_eq]; decide

/-- Every reported issue is of one of the thirteen kinds of the default rules (never
    `custom_validation`), so the rule-by-rule theorems above account for every issue. -/
theorem every_issue_accounted (n : Node) (iss : Issue) (h : iss ∈ issues n) :
    iss.id ∈ [IssueId.objectRequiredAttributes, .sectionTypeMustBeDefined, .sectionUniqueIds,
      .propertyUniqueIds, .sectionUniqueNameType, .propertyUniqueName, .objectNameReadable,
      .propertyDependencyCheck, .propertyValuesCheck, .propertyValuesStringCheck,
      .sectionPropertiesCardinality, .sectionSectionsCardinality, .propertyValuesCardinality] := by
  obtain ⟨v, _, r, _, hi⟩ := (mem_issues n iss).mp h
  have : iss.id ≠ .custom := fun hc => by
    have := (applyRule_sound r v iss hi).1
    rw [hc] at this
    cases this
  revert this
  cases iss.id <;> decide

section Examples

def p2 : Prp := { id := ['2'], name := ['p', '2'], dtype := some ['s', 't', 'r', 'i', 'n', 'g'],
                  values := [.str ['a', 'b', 'c']], dependency := none, depValue := none,
                  valCard := none }

/-- depends on the existing sibling `p2`, required value present -/
def p1 : Prp := { id := ['1'], name := ['p', '1'], dtype := some ['i', 'n', 't'],
                  values := [.int 1], dependency := some ['p', '2'],
                  depValue := some ['a', 'b', 'c'], valCard := none }

/-- depends on a name that only a sub-Section has -/
def p3 : Prp := { p1 with id := ['3'], name := ['p', '3'], dependency := some ['q'], depValue := none }

def sub : Sec := .mk ['5'] ['q'] (some ['t']) none none [] []

def sec0 : Sec := .mk ['4'] ['s'] (some ['t']) none none [p2, p1, p3] [sub]

def doc0 : Doc := { id := ['0'], secs := [sec0] }

/-- The witness of the defect fixed on branch work-C08: a dependency on an existing sibling
    Property is satisfied, a dependency on a sub-Section's name is an ordinary "missing"
    warning (it used to raise `AttributeError`), and nothing else is reported. -/
example : validate (.doc doc0) =
    .ok [⟨.prop [0] 2, .propertyDependencyCheck, .warning⟩] := by rw [validate_eq]; decide +kernel

example : PropAt (.doc doc0) [0] 1 (some [p2, p1, p3]) p1 := Or.inl ⟨sec0, rfl, by simp, rfl, rfl⟩

/-- The hypothesis of `validate_total` / `values_check_sound_complete` is met by every dtype
    `valid_type` accepts, e.g. `3-tuple`, and by non-tuple dtypes trivially. -/
example : TupleLenReadable ['3', '-', 't', 'u', 'p', 'l', 'e'] := by unfold TupleLenReadable; decide
example : TupleLenReadable ['i', 'n', 't'] := by unfold TupleLenReadable; decide

/-- A date value in an `int` Property, an `int` in a `2-tuple` Property: warnings, no crash. -/
example : validate (.prop { p1 with dependency := none, values := [.date, .int 1] }) =
    .ok [⟨.prop [] 0, .propertyValuesCheck, .warning⟩] := by rw [validate_eq]; decide
example : validate (.prop { id := ['1'], name := ['p'], dtype := some ['2', '-', 't', 'u', 'p', 'l', 'e'],
                            values := [.int 1, .list 2], dependency := none, depValue := none,
                            valCard := none }) =
    .ok [⟨.prop [] 0, .propertyValuesCheck, .warning⟩] := by rw [validate_eq]; decide

/-- Duplicate ids, duplicate name/type, missing type, `n.s.`: errors and warnings side by side. -/
example : validate (.doc { id := ['0'], secs :=
      [.mk ['0'] ['a'] (some ['n', '.', 's', '.']) none none [] [],
       .mk ['1'] ['a'] (some ['n', '.', 's', '.']) none none [] [],
       .mk ['1'] ['b'] none none none [] []] }) =
    .ok [⟨.sec [0], .sectionUniqueIds, .error⟩, ⟨.sec [2], .sectionUniqueIds, .error⟩,
         ⟨.sec [1], .sectionUniqueNameType, .error⟩,
         ⟨.sec [0], .sectionTypeMustBeDefined, .warning⟩,
         ⟨.sec [1], .sectionTypeMustBeDefined, .warning⟩,
         ⟨.sec [2], .objectRequiredAttributes, .error⟩] := by rw [validate_eq]; decide +kernel

/-- A stand-alone Section: its own Properties are not validated (only their names compared). -/
example : validate (.sec (.mk ['4'] ['s'] (some ['t']) none none [p3, p3] [])) =
    .ok [⟨.prop [] 1, .propertyUniqueName, .error⟩] := by rw [validate_eq]; decide

end Examples

/-! ## The writer is an object: a save does not depend on what the writer was asked before

`Model/ValidWriter.lean`: an `ODMLWriter` with the attributes `__init__` creates, `write_file` as a
state transition, a session = one writer and the documents handed to it one after the other (the
states of one document between edits, or different documents).  "Only errors block saving" for a
writer that has been used: whatever it wrote or refused before, the document is refused iff it has
an issue of one of the five error kinds *now*, and written iff all its issues are warnings. -/

theorem validate_ok_or_crash (n : Node) : validate n = .crash ∨ validate n = .ok (issues n) := by
  unfold validate runWith issues
  split
  · exact Or.inl rfl
  · exact Or.inr rfl

/-- The one idea: `write_file` reads no attribute of the writer before the gate. -/
theorem write_outcome_stateless (w : Writer) (d : Doc) : (w.writeFile d).2 = saveOutcome d := by
  -- `rw`, not `unfold`, and `generalize` at once: else the kernel unfolds `validate (.doc d)` down to
  -- the string table of the registry
  rw [Writer.writeFile, saveOutcome]
  generalize validate (.doc d) = res
  cases res with
  | crash => rfl
  | ok iss =>
    simp only
    split
    · rfl
    · split <;> rfl

theorem write_session_pointwise (w : Writer) (ds : List Doc) :
    w.session ds = ds.map saveOutcome := by
  induction ds generalizing w with
  | nil => rfl
  | cons d ds ih => simp [Writer.session, write_outcome_stateless, ih]

theorem saveOutcome_of_ok (d : Doc) (hd : validate (.doc d) ≠ .crash) :
    saveOutcome d = if blocksSave d then .refused else .written := by
  rw [saveOutcome, (validate_ok_or_crash (.doc d)).resolve_left hd]
  rfl

theorem save_outcome_refused_iff (d : Doc) :
    saveOutcome d = .refused ↔
      validate (.doc d) ≠ .crash ∧ ∃ iss ∈ issues (.doc d), iss.id ∈ errorKinds := by
  rw [← blocks_save_iff]
  by_cases hd : validate (.doc d) = .crash
  · rw [saveOutcome, hd]
    simp
  · rw [saveOutcome_of_ok d hd]
    cases blocksSave d <;> simp [hd]

theorem session_getLast (w : Writer) (pre : List Doc) (d : Doc) :
    (w.session (pre ++ [d])).getLast? = some (saveOutcome d) := by
  rw [write_session_pointwise, List.map_append, List.map_singleton, List.getLast?_concat]

theorem save_refused_iff_after_any_history (w : Writer) (pre : List Doc) (d : Doc)
    (hd : validate (.doc d) ≠ .crash) :
    (w.session (pre ++ [d])).getLast? = some .refused ↔
      ∃ iss ∈ issues (.doc d), iss.id ∈ errorKinds := by
  rw [session_getLast, Option.some.injEq, save_outcome_refused_iff, and_iff_right hd]

theorem save_written_iff_after_any_history (w : Writer) (pre : List Doc) (d : Doc)
    (hd : validate (.doc d) ≠ .crash) :
    (w.session (pre ++ [d])).getLast? = some .written ↔
      ∀ iss ∈ issues (.doc d), iss.rank = .warning := by
  rw [session_getLast, Option.some.injEq, saveOutcome_of_ok d hd]
  have : blocksSave d = false ↔ ∀ iss ∈ issues (.doc d), iss.rank = .warning := by
    simp only [blocksSave, List.any_eq_false, beq_iff_eq]
    exact forall₂_congr fun iss _ => by cases iss.rank <;> simp
  rw [← this]
  cases blocksSave d <;> simp

/-- The history of the seeded change: refused, repaired, asked again. -/
example : (Writer.fresh .xml).session
    [{ id := ['0'], secs := [.mk ['1'] ['a'] none none none [] []] },
     { id := ['0'], secs := [.mk ['1'] ['a'] (some ['t']) none none [] []] }] =
    [.refused, .written] := by
  rw [write_session_pointwise, List.map_cons, List.map_singleton, saveOutcome, saveOutcome,
    validate_eq, validate_eq]
  decide +kernel

end C08
