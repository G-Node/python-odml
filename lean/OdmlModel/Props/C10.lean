/-
C10 — RDF export is a faithful, well-formed graph that imports back unchanged.

Property theorems only; the model is `Model/Rdf.lean` (tied to /repo by `harness/c10.py`),
helper lemmas are in `Proofs/Rdf.lean`.

Reading guide
  * graph            list of triples; an rdflib graph is a set with unspecified order, so every
                     statement about the reader is made for *every permutation* of the list
  * `exportRdf`      RDFWriter.convert_to_rdf       `importRdf`   RDFReader.to_odml
  * `flatGraph`      the union, over all Documents / Sections / Properties, of the triples of
                     that object alone: its type (or declared sub-class with the class triples),
                     one triple per set attribute of the regenerated `_rdf_map`, one link per
                     child, and for a Property with values one `rdf:Seq` node with `rdf:_1 …`
  * `WFDocs`         ids unique over all objects     `RdfRepr`  what the RDF route can carry
  * `docsEquiv b`    one imported document per exported one; equal ids, names, types,
                     definitions, references, units, value origins, dtypes, values in order,
                     siblings as multisets; uncertainties equal (`b = true`) or equal as text
-/
import OdmlModel.Proofs.RdfSubclass
import OdmlModel.Generated.MiscTables

namespace C10
open Rdf List

/-- The `_rdf_map` tables of `format.py` have distinct keys and distinct predicates, none of
    which is `rdf:type`, `rdfs:subClassOf`, `hasDocument` or `hasFileName`; they contain the
    structural keys the writer and reader dispatch on (`id`, `sections`, `properties`, `value`);
    Sections have neither date nor uncertainty, Properties no date. -/
theorem rdf_tables_wellformed : TablesOK where
  -- the literals are rewritten with `String.toList_ofList` first; evaluating `toList` is slow
  doc := .of_ns ⟨by decide +kernel, by decide +kernel⟩ (by
    unfold Gen.Format.documentRdfMap hasDocument hasFileName ns
    simp only [forall_mem_cons]
    repeat rw [String.toList_ofList]
    decide +kernel)
  sec := .of_ns ⟨by decide +kernel, by decide +kernel⟩ (by
    unfold Gen.Format.sectionRdfMap hasDocument hasFileName ns
    simp only [forall_mem_cons]
    repeat rw [String.toList_ofList]
    decide +kernel)
  prop := .of_ns ⟨by decide +kernel, by decide +kernel⟩ (by
    unfold Gen.Format.propertyRdfMap hasDocument hasFileName ns
    simp only [forall_mem_cons]
    repeat rw [String.toList_ofList]
    decide +kernel)
  docSecs := ⟨"https://g-node.org/odml-rdf#hasSection", by decide +kernel⟩
  secSecs := ⟨"https://g-node.org/odml-rdf#hasSection", by decide +kernel⟩
  secProps := ⟨"https://g-node.org/odml-rdf#hasProperty", by decide +kernel⟩
  propValue := ⟨"https://g-node.org/odml-rdf#hasValue", by decide +kernel⟩
  docId := by decide +kernel
  secId := by decide +kernel
  propId := by decide +kernel
  propNoDate := by decide +kernel
  secNoDate := by decide +kernel
  secNoUnc := by decide +kernel
  docNoUnc := by decide +kernel

/-- `DictReader.is_valid_attribute`: every key the RDF reader puts into its dictionaries is an
    `_args` key or the Python name of one (`revmap`), so `DictReader.to_odml` accepts it; and
    the RDF types are `ns + class name`. -/
theorem reader_accepts_rdf_keys :
    (∀ kp ∈ Gen.Format.documentRdfMap, (Gen.Format.documentArgs.map (·.1)).contains kp.1 ∨
        (Gen.Format.documentMap.map (·.2)).contains kp.1) ∧
    (∀ kp ∈ Gen.Format.sectionRdfMap, (Gen.Format.sectionArgs.map (·.1)).contains kp.1 ∨
        (Gen.Format.sectionMap.map (·.2)).contains kp.1) ∧
    (∀ kp ∈ Gen.Format.propertyRdfMap, (Gen.Format.propertyArgs.map (·.1)).contains kp.1 ∨
        (Gen.Format.propertyMap.map (·.2)).contains kp.1) ∧
    Gen.Format.documentRdfType.toList = ns ++ "Document".toList ∧
    Gen.Format.sectionRdfType.toList = ns ++ "Section".toList ∧
    Gen.Format.propertyRdfType.toList = ns ++ "Property".toList := by
  refine ⟨by decide +kernel, by decide +kernel, by decide +kernel, ?_, ?_, ?_⟩
  · unfold Gen.Format.documentRdfType ns
    rw [String.toList_ofList, String.toList_ofList, String.toList_ofList]; rfl
  · unfold Gen.Format.sectionRdfType ns
    rw [String.toList_ofList, String.toList_ofList, String.toList_ofList]; rfl
  · unfold Gen.Format.propertyRdfType ns
    rw [String.toList_ofList, String.toList_ofList, String.toList_ofList]; rfl

/-- `get_rdf_str` accepts exactly the formats of `RDF_CONVERSION_FORMATS`; the five of the
    property's quantifier are among them. -/
theorem formats_supported :
    ∀ f ∈ ["xml", "nt", "json-ld", "turtle", "n3"],
      formatAccepted (Gen.Misc.rdfFormats.map (·.1)) f = true := by decide +kernel

/-- The exported graph is, up to order, exactly the union of the per-object triples: nothing
    else is emitted and nothing is missing (all documents, trees and configurations). -/
theorem export_shape (cfg : Cfg) (ds : List DocT) : (exportRdf cfg ds).Perm (flatGraph cfg ds) :=
  export_flat cfg rdf_tables_wellformed.secOK rdf_tables_wellformed.docOK ds

/-- A single Hub: every `hasDocument` triple of the exported graph starts at the one node
    `ns + "Hub"` and points to the node of an exported document. -/
theorem export_one_hub (cfg : Cfg) (ds : List DocT) (t : Triple) (ht : t ∈ exportRdf cfg ds)
    (hp : t.p = hasDocument) : t.s = hub ∧ ∃ d ∈ ds, t.o = node d.id :=
  hasDocument_only_hub cfg rdf_tables_wellformed ds t ((export_shape cfg ds).mem_iff.mp ht) hp

set_option linter.unusedVariables false in
/-- … and the Hub links every exported document exactly once (`wf` is not needed: `hub_links`). -/
theorem export_hub_links_every_document (cfg : Cfg) (ds : List DocT) (wf : WFDocs ds)
    (g : Graph) (h : g.Perm (exportRdf cfg ds)) :
    (objects g hub hasDocument).Perm (ds.map (fun d => node d.id)) :=
  hub_links cfg ds rdf_tables_wellformed h

/-- Each object is one node `ns + id` carrying exactly its set attributes and the links to its
    children: all the lookups by (subject, predicate) that can be made at the node of a
    Document, Section or Property, on any permutation of the exported graph. -/
theorem export_object_nodes (cfg : Cfg) (ds : List DocT) (wf : WFDocs ds)
    (g : Graph) (h : g.Perm (exportRdf cfg ds)) : Facts g ds :=
  facts_export cfg wf rdf_tables_wellformed h

/-- The node of a Property carries, for every literal attribute key of the table, exactly one
    triple when the attribute is set (not `None`, not `""`) and none otherwise. -/
theorem export_property_node (cfg : Cfg) (ds : List DocT) (wf : WFDocs ds) (p : PropT)
    (hp : p ∈ docProps ds) (kp : String × String) (hk : kp ∈ Gen.Format.propertyRdfMap)
    (h1 : kp.1 ≠ "id") (h2 : kp.1 ≠ "value") :
    objects (exportRdf cfg ds) (node p.id) (.iri kp.2.toList) =
      (match p.attrs.lookup kp.1 with
       | some v => if v.isSet then [v.toLit] else []
       | none => []) := by
  have := (facts_export cfg wf rdf_tables_wellformed (Perm.refl _)).propAttr p hp kp hk h1 h2
  exact perm_small this (attrObjs_small PyVal.isSet propConv p.attrs kp.1)

/-- The values of a Property form one ordered sequence: reading the `rdf:Seq` node back (in any
    triple order) yields the values in their original order. -/
theorem export_values_ordered (cfg : Cfg) (ds : List DocT) (wf : WFDocs ds) (p : PropT)
    (hp : p ∈ docProps ds) (g : Graph) (h : g.Perm (exportRdf cfg ds)) :
    (seqPairs g (.seqn p.id)).Perm (pairs 1 p.values) ∧
    ∃ ts, readSeq g (.seqn p.id) = .ok ts ∧ ts.map termToLit = p.values := by
  have f := (facts_export cfg wf rdf_tables_wellformed h).propSeq p hp
  exact ⟨f, readSeq_ok f⟩

/-- A Section node is typed `odml:Section`, or — with sub-classing on and its type in the
    sub-class map — as `ns + <class name>`, together with the three class triples. -/
theorem export_section_typed (cfg : Cfg) (ds : List DocT) (s : SecT) (hs : s ∈ docSecs ds) :
    (⟨node s.id, rdfType, .iri Gen.Format.sectionRdfType.toList⟩ ∈ exportRdf cfg ds ∧
      (cfg.subclassing = false ∨ sectionSubclass cfg s.attrs = none)) ∨
    (∃ sub, cfg.subclassing = true ∧ sectionSubclass cfg s.attrs = some sub ∧
      ⟨node s.id, rdfType, sub⟩ ∈ exportRdf cfg ds ∧
      ⟨sub, rdfType, rdfsClass⟩ ∈ exportRdf cfg ds ∧
      ⟨.iri Gen.Format.sectionRdfType.toList, rdfType, rdfsClass⟩ ∈ exportRdf cfg ds ∧
      ⟨sub, rdfsSubClassOf, .iri Gen.Format.sectionRdfType.toList⟩ ∈ exportRdf cfg ds) := by
  have hsub : ∀ t ∈ sectionTypeTriples cfg (node s.id) s.attrs, t ∈ exportRdf cfg ds := fun t ht =>
    (export_shape cfg ds).mem_iff.mpr (mem_flat_of_block (sec_block cfg hs) (typeTriples_sub_ownSec ht))
  unfold sectionTypeTriples at hsub
  cases hc : cfg.subclassing with
  | false =>
    simp only [hc, Bool.false_eq_true, if_false] at hsub
    exact .inl ⟨hsub _ (by simp), .inl rfl⟩
  | true =>
    simp only [hc, if_true] at hsub
    cases hss : sectionSubclass cfg s.attrs with
    | none =>
      simp only [hss] at hsub
      exact .inl ⟨hsub _ (by simp), .inr rfl⟩
    | some sub =>
      simp only [hss] at hsub
      exact .inr ⟨sub, rfl, rfl, hsub _ (by simp), hsub _ (by simp), hsub _ (by simp), hsub _ (by simp)⟩

/-- `RDFWriter.__init__` keeps the switch it was given, whatever custom map comes with it (the
    custom map only changes the dictionary). -/
theorem writer_keeps_switch (b : Bool) (dflt custom : List (Str × Str)) (cfg : Cfg)
    (h : mkCfg b dflt custom = some cfg) : cfg.subclassing = b := by
  unfold mkCfg at h
  split at h
  · cases h; rfl
  · cases hp : parseCustomSubclasses dflt custom with
    | none => simp [hp] at h
    | some d => simp [hp] at h; subst h; rfl

/-- **Sub-classing switched off** (the configuration `off` and `off + custom map` of the
    quantifier; `cfg` is the configuration at the time of the export, so a writer whose switch was
    turned off after it was created is included): whatever sub-class map the writer holds — the
    default map, a custom map, both merged — the exported graph is the one of a writer without
    any map, no triple declares a sub-class (`rdfs:subClassOf`), and every Section node is typed
    `odml:Section`. -/
theorem export_subclassing_off (cfg : Cfg) (hc : cfg.subclassing = false) (ds : List DocT) :
    exportRdf cfg ds = exportRdf ⟨false, []⟩ ds ∧
    (∀ t ∈ exportRdf cfg ds, t.p ≠ rdfsSubClassOf) ∧
    (∀ s ∈ docSecs ds,
      ⟨node s.id, rdfType, .iri Gen.Format.sectionRdfType.toList⟩ ∈ exportRdf cfg ds) := by
  obtain ⟨b, m⟩ := cfg
  simp only at hc
  subst hc
  exact ⟨exportRdf_off m [] ds,
    fun t ht => export_off_noDecl rdf_tables_wellformed m ds ht,
    fun s hs => export_off_plain rdf_tables_wellformed m ds s hs⟩

/-- … in particular for a writer created with `rdf_subclassing=False` and any custom map. -/
theorem export_off_with_custom_map (dflt custom : List (Str × Str)) (cfg : Cfg)
    (h : mkCfg false dflt custom = some cfg) (ds : List DocT) :
    exportRdf cfg ds = exportRdf ⟨false, []⟩ ds ∧ ∀ t ∈ exportRdf cfg ds, t.p ≠ rdfsSubClassOf :=
  have hc := writer_keeps_switch false dflt custom cfg h
  ⟨(export_subclassing_off cfg hc ds).1, (export_subclassing_off cfg hc ds).2.1⟩

/-- The graph lookup of the reader does not depend on the order of the triples (up to the
    order of its answers). -/
theorem objects_perm (g g' : Graph) (h : g'.Perm g) (s p : Term) :
    (objects g' s p).Perm (objects g s p) :=
  Rdf.objects_perm h s p

/-- **Round trip**, for every document set with unique ids that the RDF route can represent,
    every writer configuration and **every order of the triples**: the import succeeds and
    returns one document per exported document with equal ids, names, types, definitions,
    references, units, value origins, dtypes and values in order, siblings as multisets.
    Uncertainties are equal *as text* (see `rdf_roundtrip_counterexample`). -/
theorem rdf_roundtrip (cfg : Cfg) (ds : List DocT) (wf : WFDocs ds) (r : RdfRepr ds)
    (g : Graph) (h : g.Perm (exportRdf cfg ds)) :
    ∃ es, importRdf g = .ok es ∧ docsEquiv false ds es :=
  roundtrip_lax rdf_tables_wellformed cfg wf r h

/-- The full-strength statement of the property (uncertainties equal as Python values). -/
def rdf_roundtrip_statement : Prop :=
  ∀ (cfg : Cfg) (ds : List DocT), WFDocs ds → RdfRepr ds → ∀ g : Graph, g.Perm (exportRdf cfg ds) →
    ∃ es, importRdf g = .ok es ∧ docsEquiv true ds es

/-- Full strength where no uncertainty is set. -/
theorem rdf_roundtrip_partial (cfg : Cfg) (ds : List DocT) (wf : WFDocs ds) (r : RdfRepr ds)
    (nu : noUncB ds = true) (g : Graph) (h : g.Perm (exportRdf cfg ds)) :
    ∃ es, importRdf g = .ok es ∧ docsEquiv true ds es := by
  obtain ⟨es, h1, h2⟩ := rdf_roundtrip cfg ds wf r g h
  refine ⟨es, h1, docsEquiv_strict h2 ?_ ?_⟩
  · simp only [noUncB, Bool.and_eq_true, all_eq_true, Option.isNone_iff_eq_none] at nu
    exact nu.1
  · intro x hx
    simp only [noUncB, Bool.and_eq_true, all_eq_true, Option.isNone_iff_eq_none] at nu
    exact nu.2 x hx

/-- Two graphs with the same triples in different order import to the same documents (up to
    the order of siblings): both are equivalent to the exported documents. -/
theorem import_perm_invariant (cfg : Cfg) (ds : List DocT) (wf : WFDocs ds) (r : RdfRepr ds)
    (g g' : Graph) (h : g.Perm (exportRdf cfg ds)) (h' : g'.Perm g) :
    ∃ es es', importRdf g = .ok es ∧ importRdf g' = .ok es' ∧
      docsEquiv false ds es ∧ docsEquiv false ds es' := by
  obtain ⟨es, a, b⟩ := rdf_roundtrip cfg ds wf r g h
  obtain ⟨es', a', b'⟩ := rdf_roundtrip cfg ds wf r g' (h'.trans h)
  exact ⟨es, es', a, a', b, b'⟩

def cfg0 : Cfg := ⟨true, [("cell".toList, "Cell".toList)]⟩
def p0 : PropT := ⟨"p1".toList, [("name", .str "p".toList), ("uncertainty", .float "0.5".toList)], []⟩
def s0 : SecT := .mk "s1".toList [("name", .str "s".toList), ("type", .str "cell".toList)] [p0] []
def d0 : DocT := ⟨"d1".toList, [("author", .str "me".toList), ("date", .date "2020-01-02".toList)], none, [s0]⟩

theorem witness_ok : WFDocs [d0] ∧ RdfRepr [d0] :=
  ⟨wfDocs_of_B (by decide +kernel), rdfRepr_of_B (by decide +kernel)⟩

/-- The hypotheses of the round trip theorems are satisfiable (a Document with a sub-classed
    Section and a Property). -/
example : WFDocs [d0] ∧ RdfRepr [d0] :=
  witness_ok

/-- The locus of the defect: the reader hands `str(literal.toPython())` to the constructor, and
    `Property.__init__` stores the uncertainty without its setter, so a float comes back as text. -/
theorem uncertainty_imported_as_text (r : Str) :
    importAttr "uncertainty" (PyVal.float r).toLit = .str r := by
  simp [importAttr, PyVal.toLit, pyStrOf_typed _ _ double_ne_boolean]

/-- The full-strength statement is false of the model (and of the code): the witness document
    satisfies the hypotheses, but the reader makes every attribute value a string or a date
    (`import_ne_float`), so no imported Property has the uncertainty `0.5`; it comes back as
    `'0.5'`. -/
theorem rdf_roundtrip_counterexample : ¬ rdf_roundtrip_statement := by
  intro st
  obtain ⟨es, h1, mid, hp, h2⟩ := st cfg0 [d0] witness_ok.1 witness_ok.2 _ (Perm.refl _)
  cases h2 with
  | cons hd htl =>
    cases htl
    obtain ⟨_, _, mid2, hp2, hs⟩ := hd
    simp only [d0] at hs
    cases mid2 with
    | nil => simp [secsEquiv] at hs
    | cons t mid2' =>
      cases mid2' with
      | cons _ _ => simp [secsEquiv] at hs
      | nil =>
        simp only [s0, secsEquiv, secEquiv, and_true] at hs
        obtain ⟨_, _, ⟨mid3, hp3, hq⟩, _⟩ := hs
        cases hq with
        | cons hpe hrest =>
          cases hrest
          have hu := hpe.2.1 "uncertainty" (by decide)
          simp only [valEq, p0, List.lookup] at hu
          exact import_ne_float h1 (hp.mem_iff.mpr (mem_singleton_self _))
            (hp2.mem_iff.mpr (mem_singleton_self _)) (hp3.mem_iff.mpr (mem_singleton_self _)) hu.symm

/-- An attribute that is set to the empty string is not exported (hence `RdfRepr`). -/
theorem empty_attribute_dropped_counterexample :
    ∀ t ∈ saveProperty ⟨"p1".toList, [("name", .str "p".toList), ("unit", .str [])], []⟩,
      t.p ≠ .iri "https://g-node.org/odml-rdf#hasUnit".toList := by decide +kernel

/-- … whereas an uncertainty of 0 is exported. -/
example : ⟨node "p1".toList, .iri "https://g-node.org/odml-rdf#hasUncertainty".toList,
           .lit "0.0".toList xsdDouble⟩ ∈
    saveProperty ⟨"p1".toList, [("name", .str "p".toList), ("uncertainty", .float "0.0".toList)], []⟩ := by
  decide +kernel

end C10
