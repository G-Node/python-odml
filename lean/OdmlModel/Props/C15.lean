/-
C15 - Version conversion 1.0 -> 1.1 keeps the content and yields a loadable file.

Theorems about the model `OdmlModel/Model/Conv.lean` of
odml/tools/converters/version_converter.py and of the strict XML reader's view of the result.
Helper files: `Proofs/Conv.lean` (values, sibling names, `_handle_value`), `Proofs/ConvSel.lean`
(the reader and the six passes in terms of "the children with tag t"), `Proofs/ConvUuid.lean`
(`uuid.UUID` accepts and reprints what it printed), `Proofs/ConvProp.lean` (Property level),
`Proofs/ConvTree.lean` (Sections by structural induction, Document), `Proofs/ConvWF.lean` (`WF10`
implies `ConvWF`), `Proofs/ConvAccept.lean` (the result is accepted).
-/
import OdmlModel.Model.ConvText
import OdmlModel.Proofs.ConvAccept

namespace C15
open Conv Conv.Xml

/-- **Values in order** (Properties that have a value).  For every Property of a source that
    does not already declare format version 1.1 (`enc = false`: every odML 1.0 document) - any
    number of value elements, any texts, any other children - the single `value` element the
    converter writes is read back by the strict reader (`from_csv`) as exactly the non-blank
    value texts of the 1.0 Property, stripped, in order.  (Before fix 118e0c3 this held only for values without `,`
    `"` line breaks, blank texts and a bracketed single value; the texts were joined with bare
    commas.  Now they are written with `to_csv`, which `from_csv` inverts: the csv round trip
    of C01.) -/
theorem fold_values_nonempty (sn st : List Char) (p : Xml) (hne : vals10 p ≠ []) :
    readValues (transformProp false sn st p).1.kids = some (vals10 p) :=
  readValues_of_vals sn st p hne

/-- A Property without a value (no value element, or blank texts only) gets no `value` child:
    every 1.0 value element is removed, none is written. -/
theorem fold_values_none (sn st : List Char) (p : Xml) (h : vals10 p = []) :
    find "value" (transformProp false sn st p).1.kids = none :=
  find_value_of_no_vals sn st p h

/-- **Values in order, every Property** (the statement at full strength, refuted before the
    repair): whatever the value elements of a 1.0 Property contain,
    the strict reader gets exactly its non-blank value texts, stripped, in order, from the
    converted Property. -/
def fold_values_statement : Prop :=
  ∀ (sn st : List Char) (p : Xml),
    readValues (transformProp false sn st p).1.kids = some (vals10 p)

theorem fold_values (sn st : List Char) (p : Xml) :
    readValues (transformProp false sn st p).1.kids = some (vals10 p) :=
  readValues_transformProp sn st p

theorem fold_values_full : fold_values_statement := fold_values

/-- 1.0 values `a,b` and `c`. -/
def witnessCommas : Xml :=
  .elem "property" [] [] [leaf "name" "p".toList, leaf "value" "a,b".toList, leaf "value" "c".toList]

/-- The former counterexamples, now read back as they are: a comma inside a value, a leading
    quote, a blank value element (no value), a bracketed single value, a line break. -/
theorem fold_values_witness_commas :
    findText "value" (transformProp false [] [] witnessCommas).1.kids = "[\"a,b\",c]".toList ∧
    readValues (transformProp false [] [] witnessCommas).1.kids = some ["a,b".toList, "c".toList] := by
  decide +kernel
theorem fold_values_witness_quote :
    readValues (transformProp false [] [] (.elem "property" [] [] [leaf "name" "p".toList,
      leaf "value" "x".toList, leaf "value" "\"q\"".toList])).1.kids
      = some ["x".toList, "\"q\"".toList] := by decide +kernel
theorem fold_values_witness_blank :
    readValues (transformProp false [] [] (.elem "property" [] [] [leaf "name" "p".toList,
      leaf "value" "a".toList, leaf "value" " ".toList])).1.kids = some ["a".toList] := by decide +kernel
theorem fold_values_witness_bracket :
    readValues (transformProp false [] [] (.elem "property" [] [] [leaf "name" "p".toList,
      leaf "value" "[x]".toList])).1.kids = some ["[x]".toList] := by decide +kernel
theorem fold_values_witness_newline :
    readValues (transformProp false [] [] (.elem "property" [] [] [leaf "name" "p".toList,
      leaf "value" "a\nb".toList, leaf "value" "c".toList])).1.kids
      = some ["a\nb".toList, "c".toList] := by decide +kernel

/-- **A source that already has the current format version** (`encoded_values`, what
    `FormatConverter` feeds the converter as well; pinned by C17): the single value element of a
    1.1 Property holds the encoded list and is kept as it is, stripped - the converter does not
    change the values of a 1.1 document. -/
theorem fold_values_encoded_single (sn st : List Char) (p v : Xml) (hv : valuesOf p = [v])
    (hne : Py.strip v.text ≠ []) :
    findLast "value" (transformProp true sn st p).1.kids = some (leaf "value" (Py.strip v.text)) := by
  have hvals : (loopState sn st p).vals = [v.text] := by
    rw [loopState_vals, hv]; simp [hne]
  rw [transformProp_kids, hvals, if_pos (by simp), propCleanup_append, propCleanup_value,
    findLast_concat "value" _ _ rfl]
  rfl

/-- `<value>[a,b]</value>` of a 1.1 Property stays the list of `a` and `b`; in a 1.0 document the
    same text is the one value `[a,b]`. -/
theorem fold_values_witness_encoded :
    readValues (transformProp true [] [] (.elem "property" [] [] [leaf "name" "p".toList,
      leaf "value" "[a,b]".toList])).1.kids = some ["a".toList, "b".toList] ∧
    readValues (transformProp false [] [] (.elem "property" [] [] [leaf "name" "p".toList,
      leaf "value" "[a,b]".toList])).1.kids = some ["[a,b]".toList] ∧
    encodedValues (.elem "odML" [("version", "1.1".toList)] [] []) = true ∧
    encodedValues (.elem "odML" [("version", "1".toList)] [] []) = false ∧
    encodedValues (.elem "odML" [] [] []) = false := by decide +kernel

/-- The text before the repair (the stripped texts joined with bare commas,
    brackets for more than one) was not read back as the values: the defect fix 118e0c3 repairs. -/
def joinLegacy : List (List Char) → List Char
  | [] => []
  | [v] => Py.strip v
  | v :: vs => '[' :: (Py.strip v ++ vs.flatMap (fun w => ',' :: Py.strip w)) ++ [']']

theorem fold_values_legacy_counterexample :
    fromCsv (joinLegacy ["a,b".toList, "c".toList]) = some ["a".toList, "b".toList, "c".toList] ∧
    fromCsv (joinLegacy ["[x]".toList]) = some ["x".toList] ∧
    fromCsv (joinLegacy ["a\nb".toList, "c".toList]) = some ["a".toList] := by decide +kernel

/-- Plain values are written as before: the repair does not change the text of a document
    that was converted correctly. -/
example : findText "value" (transformProp false [] [] (.elem "property" [] [] [leaf "name" "p".toList,
    .elem "value" [] " a b\n ".toList [leaf "unit" "mV".toList], leaf "value" [],
    leaf "value" "[c".toList, leaf "value" "12".toList])).1.kids = "[a b,[c,12]".toList ∧
    joinLegacy [" a b\n ".toList, "[c".toList, "12".toList] = "[a b,[c,12]".toList := by
  -- a literal is `String.ofList` of its characters: `toList_ofList` gives the character list
  repeat rw [String.toList_ofList]
  decide +kernel

/-- **First occurrence wins.**  For every 1.1 Property attribute `t` (other than the value and
    the respelled dependency value): the element with tag `t` of the converted Property is the
    Property's own one, else the first value attribute - over all value elements in document
    order - that `_handle_value` exports under `t`; later ones never replace it. -/
theorem lift_first_wins (enc : Bool) (sn st : List Char) (t : String) (ht : t ∈ propKeys)
    (ht1 : t ≠ "dependencyvalue") (ht2 : t ≠ "value") (p : Xml) :
    find t (transformProp enc sn st p).1.kids =
      match find t p.kids with
      | some k => some k
      | none => firstLift t ((valuesOf p).flatMap valueElems) :=
  transformProp_find enc sn st p t ht ht1 ht2

/-- The exported attribute is the first one whose 1.1 name is `t` (specification `valueAttrs10`). -/
theorem firstLift_spec (t : String) (ht : t ∈ propKeys) (ds : List Xml) :
    (firstLift t ds).map Xml.text =
      (ds.map (fun d => (map11 d.tag, if isBinary d.tag d.text then "text".toList else d.text))).lookup t :=
  firstLift_text t ht ds

/-- Attributes on the first and on later values, agreeing and conflicting, old and new names. -/
example :
    let p : Xml := .elem "property" [] [] [leaf "name" "p".toList,
      .elem "value" [] "1".toList [leaf "dtype" "binary".toList, leaf "encoder" "e".toList],
      .elem "value" [] "2".toList [leaf "unit" "mV".toList, leaf "type" "int".toList,
        leaf "filename" "f.txt".toList],
      .elem "value" [] "3".toList [leaf "unit" "V".toList]]
    (findText "type" (transformProp false [] [] p).1.kids = "text".toList) ∧
    (findText "unit" (transformProp false [] [] p).1.kids = "mV".toList) ∧
    (findText "value_origin" (transformProp false [] [] p).1.kids = "f.txt".toList) ∧
    attr10 "unit" p = "mV".toList ∧ attr10 "type" p = "text".toList := by decide +kernel

/-- Stage 1 renames the named Section children of every node exactly as the specification
    says: the first sibling with a name keeps it, the k-th gets `-k` or the next higher number
    that gives a name no other sibling has. -/
theorem rename_sections_spec (b : Bool) (pm : Counter) (pd : List (List Char)) (ks : List Xml) :
    secNames (p1Kids b [] pm [] pd ks) = names10 [] [] (secNames ks) := by
  exact secNames_p1Kids b [] pm [] pd [] ks rep_nil

/-- The same for the named Property children of a Section. -/
theorem rename_properties_spec (sm : Counter) (sd : List (List Char)) (ks : List Xml) :
    propNames (p1Kids true sm [] sd [] ks) = names10 [] [] (propNames ks) := by
  exact propNames_p1Kids sm [] sd [] [] ks rep_nil

/-- **Sibling names unique.**  After suffixing, the names of the Section children of a node
    are pairwise different - for any number of siblings, any names (also ones that look like
    suffixed names, `p-2`) and any number of clashes.  (Before fix 6a95aab this needed the
    hypothesis that no sibling is literally called `n-k`.) -/
theorem rename_unique (b : Bool) (pm : Counter) (pd : List (List Char)) (ks : List Xml) :
    (secNames (p1Kids b [] pm [] pd ks)).Nodup := by
  rw [rename_sections_spec b pm pd ks]
  simpa using names10_nodup (secNames ks) [] [] List.nodup_nil (by simp)

theorem rename_unique_properties (sm : Counter) (sd : List (List Char)) (ks : List Xml) :
    (propNames (p1Kids true sm [] sd [] ks)).Nodup := by
  rw [rename_properties_spec]
  simpa using names10_nodup (propNames ks) [] [] List.nodup_nil (by simp)

/-- The first sibling with a name keeps it; a later one gets that name with a numeric suffix;
    where the number of the occurrence gives a free name it is the one taken (the names before
    the repair, `name10Legacy`). -/
theorem rename_keeps_first (used prev : List (List Char)) (n : List Char) (h : prev.count n = 0) :
    name10 used prev n = n := by simp [name10, h]

theorem rename_numeric_suffix (used prev : List (List Char)) (n : List Char) (h : prev.count n ≠ 0) :
    ∃ k, prev.count n + 1 ≤ k ∧ name10 used prev n = suffix n k ∧ suffix n k ∉ used := by
  refine ⟨nextFree n used used.length (prev.count n + 1), nextFree_ge _ _ _ _, by simp [name10, h], ?_⟩
  exact nextFree_free n used _

theorem rename_default_when_free (used prev : List (List Char)) (n : List Char)
    (h : suffix n (prev.count n + 1) ∉ used) : name10 used prev n = name10Legacy prev n := by
  unfold name10 name10Legacy
  split
  · rfl
  · rw [nextFree_of_free _ _ _ _ h]

/-- Siblings `p`, `p`, `p-2`. -/
def witnessClash : List Xml :=
  [.elem "property" [] [] [leaf "name" "p".toList], .elem "property" [] [] [leaf "name" "p".toList],
   .elem "property" [] [] [leaf "name" "p-2".toList]]

/-- The former counterexample: the second `p` becomes `p-3`, because `p-2` is a sibling. -/
theorem rename_unique_witness :
    propNames (p1Kids true [] [] [] [] witnessClash) = ["p".toList, "p-3".toList, "p-2".toList] ∧
    (propNames (p1Kids true [] [] [] [] witnessClash)).Nodup := by decide +kernel

/-- Before the repair the second `p` became `p-2`, which a sibling already is called. -/
theorem rename_legacy_counterexample :
    names10Legacy [] (propNames witnessClash) = ["p".toList, "p-2".toList, "p-2".toList] ∧
    ¬ (names10Legacy [] (propNames witnessClash)).Nodup := by decide +kernel

example : names10 [] [] ["p".toList, "p".toList, "q".toList, "p".toList] =
      ["p".toList, "p-2".toList, "q".toList, "p-3".toList] ∧
    names10 [] [] ["p".toList, "p".toList, "p-2".toList, "p".toList, "p-3".toList] =
      ["p".toList, "p-4".toList, "p-2".toList, "p-5".toList, "p-3".toList] := by decide +kernel

/-- **Ids.**  After `_add_id` the id the reader sees (the last `id` child) is the normalised
    source id when `uuid.UUID` accepts it, and the fresh one when the id is missing or
    malformed. -/
theorem add_id_spec (fresh : List Char) (e : Xml) :
    lastText "id" (addId fresh e).kids = id10 fresh e.kids :=
  lastText_addId fresh e

theorem id_kept_iff_valid (fresh t : List Char) :
    (∃ u, parseUuid t = some u ∧ idOf fresh t = u) ∨ (parseUuid t = none ∧ idOf fresh t = fresh) := by
  cases hp : parseUuid t with
  | none => exact Or.inr ⟨rfl, idOf_none hp⟩
  | some u => exact Or.inl ⟨u, rfl, idOf_some hp⟩

example : parseUuid "{79B613EB-A256-46BF-84F6-207DF465B8F7}".toList
    = some "79b613eb-a256-46bf-84f6-207df465b8f7".toList := by
  rw [String.toList_ofList, String.toList_ofList]; decide +kernel
example : parseUuid "urn:uuid:12345678-1234-5678-1234-567812345678".toList
    = some "12345678-1234-5678-1234-567812345678".toList := by
  rw [String.toList_ofList, String.toList_ofList]; decide +kernel
example : parseUuid "79b613eb-a256-46bf-84f6-207df465b8fz".toList = none := by
  rw [String.toList_ofList]; decide +kernel
example : parseUuid [] = none := by decide +kernel

theorem propCleanup_vocab (pid : PropId) (ks : List Xml) :
    ∀ k ∈ (propCleanup pid ks).1, k.tag ∈ propKeys :=
  propCleanup_tags pid ks

/-- Every child of a converted Property is an argument of the 1.1 Property class
    (`format.Property._args`, regenerated from the code on every run). -/
theorem property_vocab (enc : Bool) (sn st : List Char) (p : Xml) :
    ∀ k ∈ (transformProp enc sn st p).1.kids, k.tag ∈ propKeys := by
  intro k hk
  simp only [transformProp, kids_elem] at hk
  exact propCleanup_vocab _ _ k hk

theorem section_vocab (sn : List Char) (ks : List Xml) :
    ∀ k ∈ (secCleanup sn ks).1, k.tag ∈ secKeys := by
  intro k hk
  rw [secCleanup_eq_filter] at hk
  simpa using (List.mem_filter.1 hk).2

theorem document_vocab (ks : List Xml) : ∀ k ∈ (docCleanup ks).1, k.tag ∈ docKeys := by
  intro k hk
  rw [docCleanup_eq_filter] at hk
  simpa using (List.mem_filter.1 hk).2

/-- `_add_id` keeps the children inside the vocabulary: `id` is an argument of all three classes. -/
theorem id_in_all_keys : "id" ∈ docKeys ∧ "id" ∈ secKeys ∧ "id" ∈ propKeys := by decide +kernel

/-- The tags the converter itself writes are 1.1 arguments, and the 1.0 spellings it maps are not. -/
theorem mapped_tags_in_vocab :
    (∀ p ∈ versionMap, p.2 ∈ propKeys ∧ p.1 ∉ propKeys) ∧ "dependencyvalue" ∈ propKeys ∧
    "dependency_value" ∉ propKeys ∧ "value" ∈ propKeys ∧ "section" ∈ docKeys ∧ "section" ∈ secKeys ∧
    "property" ∈ secKeys ∧ "property" ∉ docKeys := by
  obtain ⟨hf, hd, hvo, hty⟩ := versionMap_propKeys
  refine ⟨?_, depValue_propKeys.1, depValue_propKeys.2, value_in_propKeys, docKeys_read.2,
    secKeys_read _ (by simp), secKeys_read _ (by simp), by decide +kernel⟩
  intro p hp
  simp only [versionMap, List.mem_cons, List.not_mem_nil, or_false] at hp
  rcases hp with rfl | rfl
  · exact ⟨hvo, hf⟩
  · exact ⟨hty, hd⟩

theorem propCleanup_logs (pid : PropId) (ks : List Xml) (k : Xml) (hk : k ∈ ks)
    (hd : respell k.tag ∉ propKeys) :
    LogE.omittedPropAttr pid (respell k.tag) (pyStr k.text) ∈ (propCleanup pid ks).2 := by
  induction ks with
  | nil => cases hk
  | cons k' ks ih =>
    simp only [List.mem_cons] at hk
    simp only [propCleanup]
    rcases hk with rfl | hk
    · simp [hd]
    · split
      · exact ih hk
      · exact List.mem_cons_of_mem _ (ih hk)

theorem secCleanup_logs (sn : List Char) (ks : List Xml) (k : Xml) (hk : k ∈ ks)
    (hd : k.tag ∉ secKeys) : LogE.omittedSecAttr sn k.tag (pyStr k.text) ∈ (secCleanup sn ks).2 := by
  induction ks with
  | nil => cases hk
  | cons k' ks ih =>
    simp only [List.mem_cons] at hk
    simp only [secCleanup]
    rcases hk with rfl | hk
    · simp [hd]
    · split
      · exact ih hk
      · exact List.mem_cons_of_mem _ (ih hk)

theorem docCleanup_logs (ks : List Xml) (k : Xml) (hk : k ∈ ks) (hd : k.tag ∉ docKeys) :
    LogE.omittedDocAttr k.tag (pyStr k.text) ∈ (docCleanup ks).2 := by
  induction ks with
  | nil => cases hk
  | cons k' ks ih =>
    simp only [List.mem_cons] at hk
    simp only [docCleanup]
    rcases hk with rfl | hk
    · simp [hd]
    · split
      · exact ih hk
      · exact List.mem_cons_of_mem _ (ih hk)

/-- Kept or logged, nothing else: a child of a Section / Document survives the clean-up
    exactly when its tag is an argument of the class. -/
theorem secCleanup_keeps (sn : List Char) (ks : List Xml) :
    (secCleanup sn ks).1 = ks.filter (fun k => k.tag ∈ secKeys) :=
  secCleanup_eq_filter sn ks

theorem docCleanup_keeps (ks : List Xml) :
    (docCleanup ks).1 = ks.filter (fun k => k.tag ∈ docKeys) :=
  docCleanup_eq_filter ks

/-- An unnamed Property is dropped and the drop is recorded. -/
theorem unnamed_property_logged (enc : Bool) (sn st : List Char) (ks : List Xml) (k : Xml) (hk : k ∈ ks)
    (hp : k.tag = "property") (hn : find "name" k.kids = none) :
    LogE.unnamedProp ∈ (p3Kids enc sn st ks).2 := by
  induction ks with
  | nil => cases hk
  | cons k' ks ih =>
    simp only [List.mem_cons] at hk
    simp only [p3Kids]
    rcases hk with rfl | hk
    · simp [hp, hn]
    · split
      · split
        · exact List.mem_cons_of_mem _ (ih hk)
        · exact List.mem_append_right _ (ih hk)
      · split
        · exact List.mem_append_right _ (ih hk)
        · exact ih hk

/-- **Source unchanged.**  `write_to_file` replaces the content of exactly one path, the
    (completed) target name; the source keeps its bytes whenever it is another path. -/
theorem convert_source_unchanged (fs : FS) (out src : List Char) (data : Option (List Char))
    (h : src ≠ outName out) : writeToFile fs out data src = fs src := by
  cases data <;> simp [writeToFile, h]

theorem write_only_target (fs : FS) (out : List Char) (data : Option (List Char)) (p : List Char)
    (h : p ≠ outName out) : writeToFile fs out data p = fs p :=
  convert_source_unchanged fs out p data h

/-- The target name is completed to `.xml` unless it already ends in `.xml` / `.odml`. -/
example : outName "res".toList = "res.xml".toList ∧ outName "res.odml".toList = "res.odml".toList ∧
    outName "a.xml.txt".toList = "a.xml.txt.xml".toList := by
  repeat rw [String.toList_ofList]
  decide +kernel

theorem convert_root (fresh : List Char) (x : Xml) :
    (convertTree fresh x).tag = x.tag ∧
    (convertTree fresh x).attrs = setAttr "version" Gen.Format.formatVersion.toList x.attrs := by
  unfold convertTree stage5 stage4 stage3
  exact ⟨by rw [p6_tag, p5_tag, p4_tag, p3_tag, p2_tag, p1_tag],
    by rw [p6_attrs, p5_attrs, p4_attrs, p3_attrs, p2_attrs, p1_attrs]⟩

/-- The root of the converted document carries the 1.1 format version, whatever the source said. -/
theorem convert_version (fresh : List Char) (x : Xml) (h : x.attrs.all (fun a => a.1 == "version") = true)
    (h1 : x.attrs.length ≤ 1) :
    (convertTree fresh x).attrs = [("version", Gen.Format.formatVersion.toList)] := by
  rw [(convert_root fresh x).2]
  -- at most one attribute, and it is `version`
  match hx : x.attrs, h, h1 with
  | [], _, _ => simp [setAttr]
  | [(k, v)], h, _ =>
    simp only [List.all_cons, List.all_nil, Bool.and_true, beq_iff_eq] at h
    simp [setAttr, h]

/-- A value dict becomes a `value` element whose text is `str(d["value"])` and whose other
    keys become child elements in file order: its 1.0 content is the dict's content. -/
theorem valToTree_text (v : DVal) (s : DScalar) (h : v.items.lookup "value" = some s) :
    (valToTree v).text = scalarStr s ∧ (valToTree v).tag = "value" := by
  simp [valToTree, h]

theorem valToTree_attrs (v : DVal) :
    (valToTree v).kids.map (fun k => (k.tag, k.text)) =
      (v.items.filter (fun p => p.1 != "value" && p.1 != "")).map (fun p => (p.1, scalarStr p.2)) := by
  simp [valToTree, leaf, Function.comp_def]

/-- The values of a Property dict are the value texts of the tree built from it, in order. -/
theorem propToTree_vals (items : List DPItem) :
    vals10 (propToTree ⟨items⟩) =
      stripped ((items.flatMap pitemToTree |>.filter (fun k => k.tag == "value")).map Xml.text) := by
  rw [vals10_eq_stripped]; rfl

/-! ## The whole-tree composition `readDoc (convertTree x) = content10 x` -/

/-- A 1.0 document with what the property quantifies over: Sections nested three deep with clashing
    sibling names (`s`, `s`, and a literal `s-2`), Properties with 0 / 1 / 3 value elements and
    attributes on the first, on later and on all values (agreeing and conflicting, 1.0 and 1.1
    names, `binary`), clashing Property names, ids that are valid (with braces / upper case),
    malformed and absent, both spellings of the dependency value, an unnamed Property, a
    root-level Property, unsupported elements at every level, value texts with commas, quotes,
    brackets and blanks. -/
def sampleDoc : Xml :=
  .elem "odML" [("version", "1".toList)] [] [
    leaf "author" "A. Author".toList, leaf "foo" "dropped".toList,
    leaf "id" "{79B613EB-A256-46BF-84F6-207DF465B8F7}".toList,
    .elem "property" [] [] [leaf "name" "rootprop".toList, leaf "value" "1".toList],
    .elem "section" [] [] [
      leaf "name" "s".toList, leaf "type" "t".toList, leaf "definition" " def ".toList,
      leaf "mapping" "m".toList,
      .elem "property" [] [] [leaf "name" "p".toList, leaf "id" "not-a-uuid".toList,
        .elem "value" [] " a,b ".toList [leaf "unit" "mV".toList, leaf "dtype" "binary".toList,
          leaf "encoder" "e".toList],
        .elem "value" [] "\"q\"".toList [leaf "unit" "V".toList, leaf "filename" "f.txt".toList],
        .elem "value" [] " ".toList [leaf "uncertainty" "0.1".toList],
        leaf "dependency_value" "dv".toList, leaf "bar" "x".toList],
      .elem "property" [] [] [leaf "name" "p".toList, leaf "unit" "kg".toList,
        leaf "id" "urn:uuid:12345678-1234-5678-1234-567812345678".toList,
        .elem "value" [] "[x]".toList [leaf "unit" "g".toList, leaf "type" "string".toList,
          leaf "reference" "ref".toList, leaf "definition" "d".toList]],
      .elem "property" [] [] [leaf "name" "p-2".toList, leaf "dependencyvalue" "w".toList,
        leaf "dependency" "p".toList],
      .elem "property" [] [] [leaf "value" "unnamed".toList],
      .elem "section" [] [] [
        leaf "name" "sub".toList, leaf "type" "t2".toList,
        leaf "id" "79b613eb-a256-46bf-84f6-207df465b8f7".toList,
        .elem "section" [] [] [
          leaf "name" "deep".toList, leaf "type" "t3".toList,
          .elem "property" [] [] [leaf "name" "q".toList,
            .elem "value" [] "1".toList [leaf "type" "int".toList],
            .elem "value" [] "2".toList [leaf "type" "int".toList],
            .elem "value" [] "3".toList [leaf "type" "float".toList]]]]],
    .elem "section" [] [] [leaf "name" "s".toList, leaf "type" "t".toList],
    .elem "section" [] [] [leaf "name" "s-2".toList, leaf "type" "t".toList, leaf "id" "x".toList],
    .elem "section" [] [] [leaf "name" "s".toList, leaf "type" "t".toList]]

theorem sampleDoc_wf : WF10 sampleDoc = true ∧ ConvWF sampleDoc = true := by
  have h : WF10 sampleDoc = true := by decide +kernel
  exact ⟨h, ConvWF_of_WF10 _ h⟩

/-- **The lifted element is the only one of its tag.**  A tag the reader looks at that occurs at
    most once among the children of the 1.0 Property occurs at most once among the children of
    the converted Property, however many value elements carry that attribute. -/
theorem lifted_element_unique (enc : Bool) (sn st : List Char) (p : Xml) (t : String)
    (ht : t ∈ propKeys) (h1 : t ≠ "dependencyvalue") (h2 : t ≠ "value")
    (hu : (sel t p.kids).length ≤ 1) : (sel t (transformProp enc sn st p).1.kids).length ≤ 1 :=
  transformProp_le_one enc sn st p t ht h1 h2 hu

/-- **The reader's "last wins" is the converter's "first wins".**  The child of the converted
    Property the strict reader takes for `t` (the last one) is the Property's own element, else
    the first value attribute exported under `t`. -/
theorem last_wins_is_first_wins (enc : Bool) (sn st : List Char) (p : Xml) (t : String)
    (ht : t ∈ propKeys) (h1 : t ≠ "dependencyvalue") (h2 : t ≠ "value")
    (hu : (sel t p.kids).length ≤ 1) :
    findLast t (transformProp enc sn st p).1.kids =
      match find t p.kids with
      | some k => some k
      | none => firstLift t ((valuesOf p).flatMap valueElems) := by
  rw [findLast_eq_find_of_le_one t _ (lifted_element_unique enc sn st p t ht h1 h2 hu)]
  exact lift_first_wins enc sn st t ht h1 h2 p

/-- **Property level.**  For every named 1.0 Property with `PropOK` (each tag the reader looks at
    at most once among its own children, one spelling of the dependency value, no `id` /
    `dependencyvalue` on a value element) - any number of value elements, any attributes on
    them, any texts, any unsupported children - the content the strict reader extracts from the
    converted Property (after `_handle_properties` and `n + 1` runs of `_add_id`, one per
    enclosing Section) is the content specification `propC10`: name, all values in order, unit,
    uncertainty, dtype, value origin, definition, reference, dependency, dependency value, id. -/
theorem property_content (fresh : List Char) (hf : idOf fresh fresh = fresh) (sn st : List Char)
    (n : Nat) (p : Xml) (h : PropOK p) :
    readProp (iter (addId fresh) (n + 1) (transformProp false sn st p).1) =
      propC10 fresh (findText "name" p.kids) p :=
  readProp_converted fresh hf sn st n p h

/-- **Section level** (structural induction over the nested tree).  For every Section element
    `k` with `convOK k` - any depth below it, any number of Sections and Properties - what the
    reader extracts from the Section after all six passes (`n`: the name stage 1 gives it, `d`:
    the number of Sections above it) is `secC10 fresh n k`: name, type, definition, id, the
    named Properties in order under their unique names, and the Sections below, recursively. -/
theorem section_content (fresh : List Char) (hf : idOf fresh fresh = fresh) (k : Xml)
    (hs : k.tag = "section") (hk : convOK k = true) (d : Nat) (n : List Char) :
    readSec (p6 fresh d (p4 (p3 false (rename n (p1 k))).1).1) = secC10 fresh n k :=
  section_level fresh hf k hs hk d n

/-- **Whole-tree composition: the conversion keeps the content.**  For every 1.0 element tree
    `x` with `ConvWF x` (any depth, any number of Sections, Properties and value elements; any
    names, ids, texts, root attributes other than `version="1.1"`, unsupported elements, unnamed
    and root-level Properties), the document the strict reader extracts from the converted tree
    is the content specification of the source: the same Section tree, the named Properties
    with all their values in order, the attributes 1.0 kept on the values, unique sibling names,
    valid ids kept and the others fresh.  `hf`: `_add_id` leaves the fresh id alone (true of
    every `str(uuid4())`: `fresh_uuid4_ok`, and of every text that is no uuid: `fresh_marker_ok`). -/
theorem convert_preserves_content (fresh : List Char) (hf : idOf fresh fresh = fresh) (x : Xml)
    (h : ConvWF x = true) : readDoc (convertTree fresh x) = content10 fresh x :=
  readDoc_convertTree fresh hf x h

/-- The same for the well-formedness predicate of the model (`WF10`: the one the driver
    evaluates on every generated document and the tie compares `read` and `spec` under). -/
theorem convert_preserves_content_wf10 (fresh : List Char) (hf : idOf fresh fresh = fresh) (x : Xml)
    (h : WF10 x = true) : readDoc (convertTree fresh x) = content10 fresh x :=
  convert_preserves_content fresh hf x (ConvWF_of_WF10 x h)

/-- `WF10` implies `ConvWF` (which does not ask for the modelled shape, root attributes, a
    single root id, Section types, stripped names or the absence of XML attributes). -/
theorem wf10_implies_convWF (x : Xml) (h : WF10 x = true) : ConvWF x = true := ConvWF_of_WF10 x h

/-- The hypothesis on the fresh id holds for every text in the form `uuid.UUID` prints (what
    `str(uuid.uuid4())` is) and for every text `uuid.UUID` rejects (the marker of the tie). -/
theorem fresh_uuid4_ok (fresh : List Char) (h : parseUuid fresh = some fresh) :
    idOf fresh fresh = fresh := idOf_some h

theorem fresh_marker_ok (fresh : List Char) (h : parseUuid fresh = none) :
    idOf fresh fresh = fresh := idOf_none h

/-- `uuid.UUID` accepts what it printed and prints it the same way: a second `_add_id` on the
    same element (Properties get one per enclosing Section) does not change the id. -/
theorem add_id_twice (fresh t : List Char) (hf : idOf fresh fresh = fresh) :
    idOf fresh (idOf fresh t) = idOf fresh t := idOf_idem fresh t hf

theorem sampleFresh_canonical : parseUuid "0b2a6bf1-118e-4c3d-9a95-aab7b9559d01".toList
    = some "0b2a6bf1-118e-4c3d-9a95-aab7b9559d01".toList := by
  rw [String.toList_ofList]; decide +kernel

example : parseUuid "0b2a6bf1-118e-4c3d-9a95-aab7b9559d01".toList
    = some "0b2a6bf1-118e-4c3d-9a95-aab7b9559d01".toList ∧
    parseUuid "#fresh-uuid4#".toList = none :=
  ⟨sampleFresh_canonical, by rw [String.toList_ofList]; decide +kernel⟩

/-- The hypotheses are met by a realistic document, and the theorem applies to it. -/
example : readDoc (convertTree "0b2a6bf1-118e-4c3d-9a95-aab7b9559d01".toList sampleDoc) =
    content10 "0b2a6bf1-118e-4c3d-9a95-aab7b9559d01".toList sampleDoc :=
  convert_preserves_content_wf10 _ (fresh_uuid4_ok _ sampleFresh_canonical) sampleDoc sampleDoc_wf.1

/-- A document outside `WF10` (not of the modelled shape: a Section inside an unsupported
    element; XML attributes; an untyped Section; two root ids) that `ConvWF` covers. -/
def sampleLoose : Xml :=
  .elem "root" [("version", "1".toList), ("x", "y".toList)] [] [
    leaf "id" "a".toList, leaf "id" "b".toList,
    .elem "wrapper" [] [] [.elem "section" [] [] []],
    .elem "section" [("a", "b".toList)] [] [leaf "name" " n ".toList,
      .elem "property" [("k", "v".toList)] [] [leaf "name" "".toList, leaf "value" "1".toList,
        leaf "value" "2".toList]]]

example : WF10 sampleLoose = false ∧ ConvWF sampleLoose = true := by decide +kernel

/-- Two `unit` children on a 1.0 Property: the converter keeps both, the reader takes the last,
    the specification (first occurrence) the first. -/
theorem property_content_needs_unique_tags :
    let p : Xml := .elem "property" [] [] [leaf "name" "p".toList, leaf "unit" "mV".toList,
      leaf "unit" "V".toList]
    readProp (iter (addId "f".toList) 1 (transformProp false [] [] p).1) ≠
      propC10 "f".toList (findText "name" p.kids) p := by decide +kernel

/-- An `id` on a value element is lifted and then taken for the Property's id. -/
theorem property_content_needs_no_value_id :
    let p : Xml := .elem "property" [] [] [leaf "name" "p".toList,
      .elem "value" [] "1".toList [leaf "id" "79b613eb-a256-46bf-84f6-207df465b8f7".toList]]
    readProp (iter (addId "f".toList) 1 (transformProp false [] [] p).1) ≠
      propC10 "f".toList (findText "name" p.kids) p := by
  repeat rw [String.toList_ofList]
  decide +kernel

/-- A fresh id that is a uuid but not in printed form (upper case) is normalised by the second
    `_add_id` run of a Property two Sections deep. -/
theorem property_content_needs_fresh_canonical :
    let p : Xml := .elem "property" [] [] [leaf "name" "p".toList]
    let f := "79B613EB-A256-46BF-84F6-207DF465B8F7".toList
    idOf f f ≠ f ∧
    readProp (iter (addId f) 2 (transformProp false [] [] p).1) ≠
      propC10 f (findText "name" p.kids) p := by
  repeat rw [String.toList_ofList]
  decide +kernel

/-! ### ... and yields a loadable file: the structural conditions of the strict reader -/

/-- **The converted tree is accepted by the strict reader** (its structural conditions
    `readerAccepts`: root `odML` with exactly `version="1.1"`; every child tag of the Document,
    of every Section and of every Property an argument of the 1.1 class; no XML attributes on
    Sections / Properties; every Section with `name` and `type`, every Property with `name`) -
    for every document tree with `LoadWF` (root `odML` with at most a `version` attribute,
    Sections named and typed, no XML attributes on Sections and named Properties), any depth,
    any number of Sections / Properties / values, whatever unsupported elements, unnamed
    Properties, names, ids and texts it contains. -/
theorem convert_accepted (fresh : List Char) (x : Xml) (h : LoadWF x = true) :
    readerAccepts (convertTree fresh x) = true := by
  simp only [LoadWF, Bool.and_eq_true, beq_iff_eq, decide_eq_true_eq] at h
  obtain ⟨⟨⟨htag, hattrs⟩, hlen⟩, hkids⟩ := h
  unfold readerAccepts
  rw [(convert_root fresh x).1, convert_version fresh x hattrs hlen,
    acceptsDocKids_convertTree fresh x hkids]
  simp [htag]

/-- `WF10` (with the root carrying one attribute at most, as in every XML file) implies `LoadWF`. -/
theorem wf10_implies_loadWF (x : Xml) (h : WF10 x = true) (hl : x.attrs.length ≤ 1) :
    LoadWF x = true := by
  have hk := accOKKids_of_WF10 x h
  simp only [WF10, Shape10, Bool.and_eq_true] at h
  simp only [LoadWF, Bool.and_eq_true, decide_eq_true_eq]
  exact ⟨⟨⟨h.1.1.1.1.1.1.1, h.1.1.1.1.2⟩, hl⟩, hk⟩

/-- **C15 on the model, both halves at the level of the whole document**: the converted tree of
    a well-formed 1.0 document passes the structural conditions of the strict reader, and what
    the reader extracts from it is the content of the source. -/
theorem convert_loadable_with_same_content (fresh : List Char) (hf : idOf fresh fresh = fresh)
    (x : Xml) (h : WF10 x = true) (hl : x.attrs.length ≤ 1) :
    readerAccepts (convertTree fresh x) = true ∧
    readDoc (convertTree fresh x) = content10 fresh x :=
  ⟨convert_accepted fresh x (wf10_implies_loadWF x h hl), convert_preserves_content_wf10 fresh hf x h⟩

example : LoadWF sampleDoc = true ∧ sampleDoc.attrs.length ≤ 1 := by decide +kernel

/-- A Section without a type is converted, but not accepted (the hypothesis is needed). -/
theorem convert_accepted_needs_type :
    readerAccepts (convertTree "f".toList (.elem "odML" [] [] [.elem "section" [] [] [leaf "name" "s".toList]]))
      = false := by decide +kernel

/-! ## The text entry point (StringIO input): the XML declaration is taken off, nothing else

`VersionConverter._parse_xml` on a StringIO (`Model/ConvText.lean`, `dropDecl`).  The property
quantifies over "x StringIO and file input": for a file lxml decodes the bytes with the encoding
the declaration names; a StringIO holds text that is decoded already, so what the declaration
names must not matter (seeded round 5, change A re-encoded the text and let lxml decode it with
the declared encoding). -/

theorem afterGt_decl (prev : Option Char) (a rest : List Char) (h : '>' ∉ a) :
    afterGt prev (a ++ declClose ++ rest) = some (some '?', rest) := by
  induction a generalizing prev with
  | nil => simp [declClose, afterGt]
  | cons c cs ih =>
    have hc : c ≠ '>' := by intro e; apply h; simp [e]
    have hcs : '>' ∉ cs := by intro e; apply h; simp [e]
    have := ih (some c) hcs
    simp only [List.append_assoc] at this
    simp [afterGt, hc, this]

/-- **StringIO input, declaration taken off.**  A text that starts with an XML declaration
    `<?xml … ?>` (whatever it declares: version, any encoding name, standalone; the pseudo-attributes
    of a declaration hold no `>`) reaches the parser as exactly the text behind the declaration. -/
theorem stringio_decl_dropped (a rest : List Char) (h : '>' ∉ a) :
    dropDecl (declOpen ++ a ++ declClose ++ rest) = rest := by
  have hp : declOpen.isPrefixOf (declOpen ++ a ++ declClose ++ rest) = true := by
    simp [List.append_assoc]
  have hd : (declOpen ++ a ++ declClose ++ rest).drop declOpen.length = a ++ declClose ++ rest := by
    simp [List.append_assoc]
  simp only [dropDecl, hp, hd, if_true, afterGt_decl none a rest h]

/-- **The encoding a StringIO text declares plays no role**: two texts that differ only in what
    their declarations say are the same document for the converter. -/
theorem stringio_declared_encoding_irrelevant (a b rest : List Char) (ha : '>' ∉ a) (hb : '>' ∉ b) :
    dropDecl (declOpen ++ a ++ declClose ++ rest) = dropDecl (declOpen ++ b ++ declClose ++ rest) := by
  rw [stringio_decl_dropped a rest ha, stringio_decl_dropped b rest hb]

/-- A text without a declaration is handed to the parser as it is. -/
theorem stringio_no_decl_unchanged (doc : List Char) (h : declOpen.isPrefixOf doc = false) :
    dropDecl doc = doc := by
  simp [dropDecl, h]

theorem afterGt_suffix (prev : Option Char) (s : List Char) (q : Option Char) (rest : List Char)
    (h : afterGt prev s = some (q, rest)) : ∃ p, s = p ++ rest := by
  induction s generalizing prev with
  | nil => simp [afterGt] at h
  | cons c cs ih =>
    by_cases hc : c = '>'
    · simp [afterGt, hc] at h
      exact ⟨[c], by simp [h.2]⟩
    · simp [afterGt, hc] at h
      obtain ⟨p, hp⟩ := ih _ h
      exact ⟨c :: p, by simp [hp]⟩

/-- Nothing but a prefix of the text is ever taken off (no character of the document behind the
    declaration is lost or changed, whatever the text is). -/
theorem stringio_only_prefix_removed (doc : List Char) : ∃ p, doc = p ++ dropDecl doc := by
  unfold dropDecl
  split
  · split
    · rename_i rest heq
      obtain ⟨p, hp⟩ := afterGt_suffix _ _ _ _ heq
      refine ⟨doc.take declOpen.length ++ p, ?_⟩
      rw [List.append_assoc, ← hp, List.take_append_drop]
    · exact ⟨[], rfl⟩
  · exact ⟨[], rfl⟩

/-- the first line of an odML 1.0 file saved as ISO-8859-1 -/
theorem stringio_decl_witness :
    dropDecl "<?xml version=\"1.0\" encoding=\"ISO-8859-1\"?>\n<odML version=\"1\"/>".toList
      = "\n<odML version=\"1\"/>".toList ∧
    dropDecl "<?xml version='1.0' encoding='UTF-16' standalone='yes'?><odML/>".toList = "<odML/>".toList ∧
    dropDecl "<odML><?xml-stylesheet href=\"a\"?></odML>".toList = "<odML><?xml-stylesheet href=\"a\"?></odML>".toList ∧
    dropDecl "<?xml-stylesheet href=\"a\"?><odML/>".toList = "<odML/>".toList ∧
    dropDecl "<?xml><odML/>".toList = "<?xml><odML/>".toList := by
  repeat rw [String.toList_ofList]
  decide +kernel

end C15
