/-
C11 - Copies handed out are equal to, and independent of, the original.

Vocabulary (Model/Clone.lean, Proofs/Clone*.lean):
  `H`                       the store: objects, value lists, inner (tuple) lists, by address
  `clone h x children keep` `x.clone(children, keep_id)`;  `exportLeaf h x` = `x.export_leaf()`
  `getValues h p`           `p.values`;  `setValuesItems h p (h.vcell l)` = `p.values = l`
  `Ext h h'`                `h'` is `h` plus new locations: nothing that exists in `h` was written
  `Below h k`               every object / list / inner list of `h` has the same content in `k`
  `Closed k R`              no reference (parent, child lists, value list, inner lists) held inside the
                            region `R` leads out of it
  `rng h h'`, `Sn h`        the block of locations allocated between `h` and `h'` / from `h` on
  `NotBlock h h'`           everything else
  `run k ops`               the store after the edit sequence `ops` (any of the 22 operations of `Op`:
                            value edits, in-place edits of lists held by the caller and of their inner
                            lists, renames, attribute / cardinality / dtype changes, new objects, append,
                            remove, new ids, further clones and exports, merge / unmerge of a Section with
                            one that has no children)
  `OpsIn R ops`             every operation of `ops` is applied to objects / lists of `R`
  `Scoped h`                no dangling references in `h`
  `WF h`                    `Scoped h` and well-typed child lists / parents; holds in every store built by `run`
  `absTree h n x`           the pure tree below `x` to depth `n` (content, no ids, no handles); `idTree`: with ids
  `chainSpec h x`           the tree `export_leaf` has to return, computed from the store by walking `parent`
  `h.dcell d`, `(h.node x).mattrs`, `recOf h x`   the dicts `_merged_attrs` by address, the address a Section
                            holds, what its record holds; `DScoped h`: every record address is allocated
  `mergeAttrs` / `unmergeAttrs`   the statements of `Section._merge` / `unmerge` on the Section's own
                            definition / reference and on the record (merged Section without children)
All theorems hold for every store, object, flag combination and edit sequence: no bound on sizes.
-/
import OdmlModel.Proofs.CloneChain
import OdmlModel.Proofs.CloneRecord
namespace C11
open Clone

/-- Cloning writes nothing that exists - whatever the outcome. The original, and everything
    else, is as it was. -/
theorem clone_writes_only_new (h : H) (x : Nat) (children keep : Bool) :
    Ext h (clone h x children keep).1 :=
  dropOnErr_fst _ (Ext.refl h) (fun h1 c hr => (cloneF_spec hr).ext)

/-- The copy is a new, detached object of the same kind. -/
theorem clone_detached_new {h h' : H} {x c : Nat} {children keep : Bool}
    (hc : clone h x children keep = (h', .ok c)) :
    h.nN ≤ c ∧ c < h'.nN ∧ (h'.node c).parent = none ∧ (h'.node c).kind = (h.node x).kind := by
  have sp := cloneF_spec (dropOnErr_ok hc)
  exact ⟨by rw [sp.c_eq]; exact Nat.le_refl _, by rw [sp.c_eq]; exact sp.lt, sp.parent, sp.kind⟩

/-- All sub-objects of the copy are new, and copy and original are separate: the block of new
    locations is closed (nothing in the copy refers to anything that existed), and what existed
    refers to nothing of the block. -/
theorem clone_separate {h h' : H} {x c : Nat} {children keep : Bool}
    (hc : clone h x children keep = (h', .ok c)) :
    Closed h' (rng h h') ∧ (Scoped h → Closed h' (Old h)) := by
  have sp := cloneF_spec (dropOnErr_ok hc)
  refine ⟨sp.closed, fun sc => ⟨fun a ha _ => ?_, fun a ha _ => ?_⟩⟩
  · rw [sp.ext.node a ha]; exact sc.1 a ha ha
  · rw [sp.ext.vcell a ha]; exact sc.2 a ha ha

/-- No edit sequence applied to the copy (its objects, lists obtained from it, anything created
    afterwards) ever changes the original - or anything else that existed when the copy was made. -/
theorem edit_copy_preserves_original {h h' : H} {x c : Nat} {children keep : Bool}
    (hc : clone h x children keep = (h', .ok c)) (ops : List Op) (ho : OpsIn (Sn h) ops) :
    Below h (run h' ops) := by
  have sp := cloneF_spec (dropOnErr_ok hc)
  exact later_edits_preserve sp.ext (closed_rng_sn sp.closed) ops ho

/-- ... and vice versa: no edit sequence applied to the original (or to anything that is not part
    of the copy) ever changes the copy. -/
theorem edit_original_preserves_copy {h h' : H} {x c : Nat} {children keep : Bool} (sc : Scoped h)
    (hc : clone h x children keep = (h', .ok c)) (ops : List Op) (ho : OpsIn (NotBlock h h') ops) :
    BlockSame h h' h' (run h' ops) :=
  earlier_edits_preserve sc (cloneF_spec (dropOnErr_ok hc)).ext ops ho

/-- With `children=False` the copy has no children: it is the only new object. -/
theorem clone_no_children {h h' : H} {x c : Nat} {keep : Bool} (hk : (h.node x).kind ≠ .prop)
    (hc : clone h x false keep = (h', .ok c)) :
    (h'.node c).secs = [] ∧ ((h.node x).kind = .sec → (h'.node c).props = []) ∧ h'.nN = h.nN + 1 :=
  cloneF_no_children hk (dropOnErr_ok hc)

/-- The copy carries the content of the original: kind, name and every attribute `==` compares
    are equal, the reference to a merged object is the same; the id is the original's when
    `keep_id` is set and otherwise one that was not in use (`uuid4`: at or beyond the old counter). -/
theorem clone_root_equal {h h' : H} {x c : Nat} {children keep : Bool}
    (hc : clone h x children keep = (h', .ok c)) :
    (h'.node c).kind = (h.node x).kind ∧ (h'.node c).name = (h.node x).name ∧
    (h'.node c).attrs = (h.node x).attrs ∧ (h'.node c).merged = (h.node x).merged ∧
    (keep = true → (h'.node c).id = (h.node x).id) ∧
    (keep = false → h.nextId ≤ (h'.node c).id ∧ (h'.node c).id < h'.nextId) := by
  have r := cloneF_fields (dropOnErr_ok hc)
  exact ⟨r.kind, r.name, r.attrs, r.merged, r.idKept, r.idFresh⟩

/-- Without `keep_id` EVERY object of the copy - at every depth: all of them lie in the block of new
    objects (`clone_separate`) - carries an id generated during the call, i.e. one that was not in use
    (the ids in use are below the counter). -/
theorem clone_ids_fresh {h h' : H} {x c : Nat} {children : Bool}
    (hc : clone h x children false = (h', .ok c)) :
    ∀ a, h.nN ≤ a → a < h'.nN → h.nextId ≤ (h'.node a).id ∧
      (∀ b, b < h.nN → (h.node b).id < h.nextId → (h'.node a).id ≠ (h.node b).id) := by
  intro a h1 h2
  have := cloneF_ids (dropOnErr_ok hc) a h1 h2
  exact ⟨this, fun b _ hb => Nat.ne_of_gt (Nat.lt_of_lt_of_le hb this)⟩

/-- A cloned Property is equal to the original: besides the fields above its values denote the same
    atoms and tuples, held in a new list with new inner lists. -/
theorem clone_property_equal {h h' : H} {x c : Nat} {children keep : Bool} (hk : (h.node x).kind = .prop)
    (hx : x < h.nN) (hb : ∀ t, Item.ref t ∈ valsOf h x → t < h.nT)
    (hc : clone h x children keep = (h', .ok c)) :
    resolve h' (valsOf h' c) = resolve h (valsOf h x) ∧ (h'.node c).vals = some h.nV ∧
    (∀ t, Item.ref t ∈ valsOf h' c → h.nT ≤ t) := by
  have h0 := cloneF_ok (dropOnErr_ok hc)
  rw [if_pos hk] at h0
  obtain ⟨rfl, rfl⟩ := Prod.mk.inj (h0.symm.trans (Prod.eta _).symm)
  have s := cloneProp_spec h x keep
  have hv : ((cloneProp h x keep).1.node (cloneProp h x keep).2).vals = some h.nV := by rw [s.node]
  refine ⟨?_, hv, ?_⟩
  · simp only [valsOf, hv]; exact s.same hx hb
  · intro t ht
    simp only [valsOf, hv] at ht
    exact (s.cell t ht).1

/-- The store stays free of dangling references. -/
theorem clone_scoped {h : H} (sc : Scoped h) (x : Nat) (children keep : Bool) :
    Scoped (clone h x children keep).1 :=
  dropOnErr_fst _ sc (fun h1 c hr =>
    have sp := cloneF_spec hr
    scoped_ext sc sp.ext sp.closed)

/-- `export_leaf()` writes nothing that exists - whatever the outcome. -/
theorem export_writes_only_new (h : H) (x : Nat) : Ext h (exportLeaf h x).1 :=
  dropOnErr_fst _ (Ext.refl h) (fun h1 c hr => (good_sn_ext (exportLeafF_good hr).1).1)

/-- The export is made of new objects only and nothing in it refers to anything that existed. -/
theorem export_separate {h h' : H} {x r : Nat} (he : exportLeaf h x = (h', .ok r)) :
    h.nN ≤ r ∧ Closed h' (Sn h) := by
  have g := exportLeafF_good (dropOnErr_ok he)
  exact ⟨g.2, (good_sn_ext g.1).2⟩

/-- No edit of the export changes anything that existed ... -/
theorem edit_export_preserves_original {h h' : H} {x r : Nat} (he : exportLeaf h x = (h', .ok r))
    (ops : List Op) (ho : OpsIn (Sn h) ops) : Below h (run h' ops) := by
  obtain ⟨e, c⟩ := good_sn_ext (exportLeafF_good (dropOnErr_ok he)).1
  exact later_edits_preserve e c ops ho

/-- ... and vice versa. -/
theorem edit_original_preserves_export {h h' : H} {x r : Nat} (sc : Scoped h)
    (he : exportLeaf h x = (h', .ok r)) (ops : List Op) (ho : OpsIn (NotBlock h h') ops) :
    BlockSame h h' h' (run h' ops) :=
  earlier_edits_preserve sc (good_sn_ext (exportLeafF_good (dropOnErr_ok he)).1).1 ops ho

/-- `p.values` is a new list with new inner lists, equal to what the Property holds. -/
theorem values_get_new_equal (h : H) (p : Nat) :
    let r := getValues h p
    Ext h r.1 ∧ r.2 = h.nV ∧ r.1.nV = h.nV + 1 ∧ (∀ t, Item.ref t ∈ r.1.vcell r.2 → h.nT ≤ t) ∧
    ((∀ t, Item.ref t ∈ valsOf h p → t < h.nT) → resolve r.1 (r.1.vcell r.2) = resolve h (valsOf h p)) := by
  have cs := convertItems_spec (valsOf h p) h
  simp only [getValues]
  generalize convertItems h (valsOf h p) = cv at cs
  obtain ⟨h1, items⟩ := cv
  simp only at cs ⊢
  refine ⟨cs.ext.trans (ext_allocV h1 items), by simp [cs.nV], by simp [cs.nV], ?_, fun hb => ?_⟩
  · intro t ht
    simp only [allocV_ret, allocV_vcell, if_true] at ht
    exact (cs.fresh t ht).1
  · simp only [allocV_ret, allocV_vcell, if_true]
    rw [← cs.same hb]
    exact resolve_congr (fun _ _ => rfl)

/-- No edit of the returned list (or of its inner lists) changes the Property - or anything else. -/
theorem values_get_edits_preserve_store (h : H) (p : Nat) (ops : List Op) (ho : OpsIn (Sn h) ops) :
    Below h (run (getValues h p).1 ops) := by
  obtain ⟨e, c⟩ := good_sn_ext (good_getValues (st_sn_self h) p)
  exact later_edits_preserve e c ops ho

/-- ... and no edit of the Property (or of anything else) changes the returned list. -/
theorem store_edits_preserve_values_got {h : H} (sc : Scoped h) (p : Nat) (ops : List Op)
    (ho : OpsIn (NotBlock h (getValues h p).1) ops) :
    BlockSame h (getValues h p).1 (getValues h p).1 (run (getValues h p).1 ops) :=
  earlier_edits_preserve sc (good_sn_ext (good_getValues (st_sn_self h) p)).1 ops ho

/-- A parentless Property holding one 2-tuple. -/
def hTuple : H := run empty [.newObj .prop "p" ["2-tuple"] [.tup ["a", "b"]]]

/-- The getter as it was (`list(self._values)`) handed out the inner lists of the Property:
    `p.values[0][0] = "Y"` changed the Property. (Fixed in /repo; the model of the current getter
    satisfies the three theorems above.) -/
theorem values_get_shallow_counterexample :
    let r := getValuesShallow hTuple 0
    resolve (listInnerSet r.1 r.2 0 0 "Y").1 (valsOf (listInnerSet r.1 r.2 0 0 "Y").1 0)
      ≠ resolve hTuple (valsOf hTuple 0) := by decide +kernel

/-- The locations of a list `l` the caller holds, plus everything allocated after `h'`. -/
def ListReg (h h' : H) (l : Nat) : Reg :=
  ⟨fun a => h'.nN ≤ a, fun c => c = l ∨ h'.nV ≤ c, fun t => Item.ref t ∈ h.vcell l ∨ h'.nT ≤ t⟩

/-- `p.values = l` binds the Property to a new list with new inner lists and equal content; the
    list passed in is only read. -/
theorem values_set_copies (h : H) (p l : Nat) (hl : l < h.nV) :
    let h' := setValuesItems h p (h.vcell l)
    (h'.node p).vals = some h.nV ∧ h.nV ≠ l ∧ h'.vcell l = h.vcell l ∧
    (∀ t, Item.ref t ∈ h'.vcell h.nV → h.nT ≤ t) ∧
    ((∀ t, Item.ref t ∈ h.vcell l → t < h.nT) → resolve h' (h'.vcell h.nV) = resolve h (h.vcell l)) := by
  obtain ⟨sp, hs⟩ := setValuesItems_spec h p (h.vcell l)
  exact ⟨by rw [sp.nodeP], Nat.ne_of_gt hl, sp.vB l hl, fun t ht => (sp.cell t ht).1, hs⟩

/-- No later edit of the list that was passed in (or of its inner lists) changes the Property. -/
theorem edits_of_passed_list_preserve_property (h : H) (p l : Nat) (hp : p < h.nN) (hl : l < h.nV)
    (hb : ∀ t, Item.ref t ∈ h.vcell l → t < h.nT) (ops : List Op)
    (ho : OpsIn (ListReg h (setValuesItems h p (h.vcell l)) l) ops) :
    let h' := setValuesItems h p (h.vcell l)
    let k := run h' ops
    k.node p = h'.node p ∧ k.vcell h.nV = h'.vcell h.nV ∧ (∀ t, h.nT ≤ t → t < h'.nT → k.tcell t = h'.tcell t) := by
  obtain ⟨sp, _⟩ := setValuesItems_spec h p (h.vcell l)
  generalize setValuesItems h p (h.vcell l) = h' at sp ho
  have st : St (ListReg h h' l) h' := by
    refine ⟨⟨fun a ha hlt => absurd hlt (Nat.not_lt.2 ha), fun c hc hlt => ?_⟩,
      ⟨fun a ha => ha, fun a ha => Or.inr ha, fun a ha => Or.inr ha⟩⟩
    rcases hc with hc | hc
    · subst hc; rw [sp.vB c hl]; exact fun t ht => Or.inl ht
    · exact absurd hlt (Nat.not_lt.2 hc)
  have g := run_good ops h' st ho
  exact ⟨g.frame.1 p (fun hc => Nat.not_le.2 hp (sp.nN ▸ hc)),
    g.frame.2.1 h.nV (fun hc => hc.elim (Nat.ne_of_gt hl) (fun e => Nat.not_succ_le_self _ (sp.nV ▸ e))),
    fun t h1 h2 => g.frame.2.2 t (fun hc => hc.elim (fun hc => Nat.not_le.2 (hb t hc) h1) (Nat.not_le.2 h2))⟩

/-! ### The hypotheses are satisfiable, the statements are not vacuous -/

/-- A document with a Section holding a 2-tuple Property and a sub-Section. -/
def hDoc : H := run empty
  [.newObj .doc "" ["me"] [], .newObj .sec "s" ["t"] [], .append 0 1,
   .newObj .prop "p" ["2-tuple"] [.tup ["a", "b"], .tup ["c", "d"]], .append 1 2,
   .newObj .sec "u" ["t"] [], .append 1 3]

example : (clone hDoc 0 true false).2 = .ok 4 := by decide +kernel
example : (clone hDoc 1 false true).2 = .ok 4 := by decide +kernel
example : (exportLeaf hDoc 2).2 = .ok 6 := by decide +kernel
example : ((clone hDoc 0 true false).1.nN, (clone hDoc 0 true false).1.nV, (clone hDoc 0 true false).1.nT) = (8, 2, 4) := by
  decide +kernel
/-- an edit sequence on the copy: rename a copied Section, edit an inner list obtained through `values` -/
example : OpsIn (Sn hDoc) [.rename 5 "z", .getValues 6, .listInnerSet 2 0 0 "Y", .setValuesFrom 6 2] := by
  simp only [OpsIn, Op.InR, Sn]
  decide
/-- `Scoped` is satisfiable by stores that contain objects: the empty store is scoped and cloning keeps it. -/
example : Scoped (clone (clone empty 0 true false).1 0 true true).1 ∧ (clone (clone empty 0 true false).1 0 true true).1.nN = 2 :=
  ⟨clone_scoped (clone_scoped scoped_empty 0 true false) 0 true true, by decide⟩

/-! ### Well-formedness is an invariant: `Scoped` holds in every reachable store

`WF h` (`Proofs/CloneScoped.lean`): no dangling references (`Scoped h`) and the typing the code enforces
through `SmartList(BaseSection)` / `SmartList(BaseProperty)` and the checks of `append`: `_sections` holds
Sections, `_props` holds Properties, the parent of a Property is a Section, the parent of a Section a
Section or a Document. -/

/-- `Scoped` (no dangling references) is preserved by EVERY operation, with any arguments (`step`
    refuses handles that were never allocated). -/
theorem step_scoped {h : H} (sc : Scoped h) (op : Op) : Scoped (step h op).1 := scoped_step sc op

/-- ... hence by every operation list. -/
theorem run_scoped {h : H} (sc : Scoped h) (ops : List Op) : Scoped (run h ops) := scoped_run sc ops

/-- The same for the full well-formedness (references allocated, child lists and parents well-typed). -/
theorem step_wf {h : H} (wf : WF h) (op : Op) : WF (step h op).1 := step_wfg wf op

/-- ... hence by every operation list. -/
theorem run_wf {h : H} (wf : WF h) (ops : List Op) : WF (run h ops) := run_wfg ops h wf

/-- Every store built from nothing by any operation list is well-formed, in particular `Scoped`. -/
theorem reachable_wf (ops₀ : List Op) : WF (run empty ops₀) ∧ Scoped (run empty ops₀) :=
  ⟨run_empty_wf ops₀, run_empty_scoped ops₀⟩

/-- `edit_original_preserves_copy` for every reachable store, without the hypothesis `Scoped`: build any
    store (`ops₀` from the empty store), clone any object of it, then apply ANY operation list to
    anything but the copy: the block of the copy is unchanged. -/
theorem edit_original_preserves_copy_reachable (ops₀ : List Op) {h' : H} {x c : Nat} {children keep : Bool}
    (hc : clone (run empty ops₀) x children keep = (h', .ok c)) (ops : List Op)
    (ho : OpsIn (NotBlock (run empty ops₀) h') ops) :
    BlockSame (run empty ops₀) h' h' (run h' ops) :=
  edit_original_preserves_copy (run_empty_scoped ops₀) hc ops ho

/-- The same for `export_leaf`. -/
theorem edit_original_preserves_export_reachable (ops₀ : List Op) {h' : H} {x r : Nat}
    (he : exportLeaf (run empty ops₀) x = (h', .ok r)) (ops : List Op)
    (ho : OpsIn (NotBlock (run empty ops₀) h') ops) :
    BlockSame (run empty ops₀) h' h' (run h' ops) :=
  edit_original_preserves_export (run_empty_scoped ops₀) he ops ho

/-- ... and for the list returned by `values`. -/
theorem store_edits_preserve_values_got_reachable (ops₀ : List Op) (p : Nat) (ops : List Op)
    (ho : OpsIn (NotBlock (run empty ops₀) (getValues (run empty ops₀) p).1) ops) :
    BlockSame (run empty ops₀) (getValues (run empty ops₀) p).1 (getValues (run empty ops₀) p).1
      (run (getValues (run empty ops₀) p).1 ops) :=
  store_edits_preserve_values_got (run_empty_scoped ops₀) p ops ho

/-! ### Equality of the whole tree of a clone

`absTree h n x` (`Proofs/CloneTree.lean`): the pure tree below `x` unfolded to depth `n`: kind, name, all
compared attributes, `_merged`, the values a Property denotes (tuples by content), child Sections and
Properties in order - no ids, no handles.  `idTree h n x`: the same with the id at every position.
Equality for every depth `n` is equality of the (finite) trees. -/

/-- `clone()` returns an object EQUAL to the original at every depth (ids ignored); with
    `children=False`: equal root fields and no children.  The original denotes the same tree after the
    call as before. -/
theorem clone_tree_equal {h h' : H} {x c : Nat} {children keep : Bool} (wf : WF h) (hx : x < h.nN)
    (hc : clone h x children keep = (h', .ok c)) (n : Nat) :
    absTree h' n c = (if children = true then absTree h n x else absTree h 0 x) ∧
    absTree h' n x = absTree h n x := by
  have h0 := dropOnErr_ok hc
  exact ⟨cloneF_tree false wf _ (Ext.refl h) hx (fun e => by cases e) h0 n,
    absG_ext wf (cloneF_spec h0).ext false n x hx⟩

/-- With `keep_id` EVERY object of the copy has the id of the object it was copied from: the trees
    with the id at every position are equal. -/
theorem clone_ids_kept {h h' : H} {x c : Nat} {children : Bool} (wf : WF h) (hx : x < h.nN)
    (hc : clone h x children true = (h', .ok c)) (n : Nat) :
    idTree h' n c = (if children = true then idTree h n x else idTree h 0 x) :=
  cloneF_tree true wf _ (Ext.refl h) hx (fun _ => rfl) (dropOnErr_ok hc) n

/-- Without `keep_id` the id at EVERY position of the tree of the copy was generated during the call
    and differs from every id in use (`clone_ids_fresh`, position-wise). -/
theorem clone_ids_fresh_tree {h h' : H} {x c : Nat} {children : Bool}
    (hc : clone h x children false = (h', .ok c)) (n : Nat) :
    (idTree h' n c).AllIds (fun i => h.nextId ≤ i ∧ ∀ b, b < h.nN → (h.node b).id < h.nextId → i ≠ (h.node b).id) := by
  have ok := cloneF_spec (dropOnErr_ok hc)
  exact absG_allIds (tclosed_block ok.closed) (fun a ha => clone_ids_fresh hc a ha.1 ha.2) n c
    ⟨by rw [ok.c_eq]; exact Nat.le_refl _, by rw [ok.c_eq]; exact ok.lt⟩

/-- Tree equality for every reachable store (no well-formedness hypothesis): build any store, clone any
    object of it with its children. -/
theorem clone_tree_equal_reachable (ops₀ : List Op) {h' : H} {x c : Nat} {keep : Bool}
    (hx : x < (run empty ops₀).nN) (hc : clone (run empty ops₀) x true keep = (h', .ok c)) (n : Nat) :
    absTree h' n c = absTree (run empty ops₀) n x ∧ (keep = true → idTree h' n c = idTree (run empty ops₀) n x) := by
  refine ⟨by simpa using (clone_tree_equal (run_empty_wf ops₀) hx hc n).1, fun hk => ?_⟩
  subst hk
  simpa using clone_ids_kept (run_empty_wf ops₀) hx hc n

/-- Independence in terms of trees: after ANY operation list applied to anything but the copy, the
    copy still denotes the tree the original had when it was cloned. -/
theorem edit_original_preserves_copy_tree {h h' : H} {x c : Nat} {keep : Bool} (wf : WF h) (hx : x < h.nN)
    (hc : clone h x true keep = (h', .ok c)) (ops : List Op) (ho : OpsIn (NotBlock h h') ops) (n : Nat) :
    absTree (run h' ops) n c = absTree h n x := by
  have ok := cloneF_spec (dropOnErr_ok hc)
  have bs := edit_original_preserves_copy wf.scoped hc ops ho
  have e1 : absTree (run h' ops) n c = absTree h' n c :=
    absG_block false ok.closed bs n c (by rw [ok.c_eq]; exact Nat.le_refl _) (by rw [ok.c_eq]; exact ok.lt)
  rw [e1]
  simpa using (clone_tree_equal wf hx hc n).1

/-- ... and after ANY operation list applied to the copy, the original still denotes the tree it had. -/
theorem edit_copy_preserves_original_tree {h h' : H} {x c : Nat} {children keep : Bool} (wf : WF h) (hx : x < h.nN)
    (hc : clone h x children keep = (h', .ok c)) (ops : List Op) (ho : OpsIn (Sn h) ops) (n : Nat) :
    absTree (run h' ops) n x = absTree h n x := by
  obtain ⟨b1, b2, b3⟩ := edit_copy_preserves_original hc ops ho
  exact absG_frame false (tclosed_wf wf) (fun a ha => TSame.of_eq (b1 a ha)) b2 b3 n x hx

/-- An ill-typed store no operation list builds: a Section whose `_sections` holds a Property. -/
def hIll : H :=
  { empty with
    node := fun i =>
      if i = 0 then { kind := .sec, name := "s", id := 0, attrs := [], parent := none, secs := [1], props := [],
                      vals := none, merged := none }
      else { kind := .prop, name := "p", id := 1, attrs := [], parent := some 0, secs := [], props := [],
             vals := none, merged := none },
    nN := 2, nextId := 2 }

/-- The hypothesis `WF` of `clone_tree_equal` cannot be dropped for arbitrary stores: on `hIll` (free of
    dangling references, but ill-typed - the code's `SmartList(BaseSection)` refuses such a child) the
    clone succeeds and denotes a different tree: the Property listed as a Section is appended to the
    `_props` of the copy, which are then re-created. `reachable_wf`: no operation list builds such a store. -/
theorem clone_tree_equal_illtyped_counterexample :
    Scoped hIll ∧ ¬ WF hIll ∧ (clone hIll 0 true false).2 = .ok 2 ∧
    absTree (clone hIll 0 true false).1 1 2 ≠ absTree hIll 1 0 := by
  refine ⟨⟨fun a ha _ => ?_, fun c hc _ => ?_⟩, fun wf => ?_, by decide, fun e => ?_⟩
  · have : a = 0 ∨ a = 1 := by simp [Old, hIll] at ha; omega
    rcases this with rfl | rfl  -- the two objects in turn
    · exact ⟨fun _ p hp => by simp [hIll] at hp, fun _ c hc => by simp [hIll] at hc; subst hc; simp [Old, hIll],
        fun _ c hc => by simp [hIll] at hc, fun hk => by simp [hIll] at hk⟩
    · exact ⟨fun _ p hp => by simp [hIll] at hp; subst hp; simp [Old, hIll], fun hk => by simp [hIll] at hk,
        fun hk => by simp [hIll] at hk, fun _ c hc => by simp [hIll] at hc⟩
  · simp [Old, hIll, empty] at hc
  · have := ((wf.node 0 (by decide)).2.1 (by decide) 1 (by decide)).2 rfl
    revert this; decide
  · have h1 : ((clone hIll 0 true false).1.node 2).secs = [] := by decide
    have h2 : ((clone hIll 0 true false).1.node 2).kind = .sec := by decide
    have h3 : (hIll.node 0).secs = [1] := by decide
    have h4 : (hIll.node 0).kind = .sec := by decide
    simp only [absG_succ, rootT, h1, h2, h3, h4] at e
    injection e with _ _ _ _ _ _ e7 _
    simp at e7

/-! ### The shape of the result of export_leaf()

`chainSpec h x` (`Proofs/CloneChain.lean`) is computed from the store alone by walking `parent` from the
start object (`x`, for a Property its parent Section) up to the root: the root of the tree is the copy of
the root of the chain, every chain object has the fields AND THE ID of the original, copies of ALL its
Properties with their ids (`chainNode`), and exactly one child Section: the next lower chain element;
the start object has none (`chainTree`). -/

/-- `export_leaf()` returns exactly the chain from the root down to the object (for a Property: to its
    Section), with all Properties of each Section on it and the original ids.  `idTree h' n r` for
    every depth `n` from `fuelOf h` (more than the length of any chain) on IS the specified tree. -/
theorem export_leaf_chain {h h' : H} {x r s : Nat} (wf : WF h) (hx : x < h.nN)
    (hs : exportStart h x = some s) (he : exportLeaf h x = (h', .ok r)) :
    ∃ t, chainSpec h x = some t ∧ ∀ n, fuelOf h ≤ n → idTree h' n r = t :=
  exportLeafF_chain wf hx hs (dropOnErr_ok he)

/-- The remaining case, a Property without a parent: the export is a copy of the Property with its id. -/
theorem export_leaf_detached_property {h h' : H} {x r : Nat} (wf : WF h) (hx : x < h.nN)
    (hs : exportStart h x = none) (he : exportLeaf h x = (h', .ok r)) (n : Nat) :
    idTree h' n r = idTree h 0 x := by
  have h0 := dropOnErr_ok he
  unfold exportStart at hs
  split at hs
  · rename_i hk
    unfold exportLeafF at h0
    rw [hk] at h0
    simp only [hs, Prod.mk.injEq, Res.ok.injEq] at h0
    obtain ⟨rfl, rfl⟩ := h0
    exact cloneProp_tree true wf h x true (Ext.refl h) hx hk (fun _ => rfl) n
  · cases hs

/-- The shape theorem for every reachable store (no well-formedness hypothesis). -/
theorem export_leaf_chain_reachable (ops₀ : List Op) {h' : H} {x r s : Nat} (hx : x < (run empty ops₀).nN)
    (hs : exportStart (run empty ops₀) x = some s) (he : exportLeaf (run empty ops₀) x = (h', .ok r)) :
    ∃ t, chainSpec (run empty ops₀) x = some t ∧ ∀ n, fuelOf (run empty ops₀) ≤ n → idTree h' n r = t :=
  export_leaf_chain (run_empty_wf ops₀) hx hs he

/-- `hDoc` is well-formed ... -/
example : WF hDoc := run_empty_wf _
/-- ... cloning its Section with children succeeds and allocates four objects ... -/
example : 1 < hDoc.nN ∧ (clone hDoc 1 true true).2 = .ok 4 ∧ (clone hDoc 1 true true).1.nN = 7 := by decide +kernel
/-- ... exporting the Property (2) starts at its Section (1), the chain is Section, Document ... -/
example : exportStart hDoc 2 = some 1 ∧ chainUp hDoc (fuelOf hDoc) 1 = some [1, 0] ∧ (exportLeaf hDoc 2).2 = .ok 6 := by
  decide +kernel
/-- ... a parentless Property is the case of `export_leaf_detached_property` ... -/
example : exportStart hTuple 0 = none ∧ (exportLeaf hTuple 0).2 = .ok 1 := by decide +kernel
/-- ... and edits of the original after the clone are operations outside the block of the copy. -/
example : OpsIn (NotBlock hDoc (clone hDoc 1 true true).1) [.rename 3 "z", .setValuesLits 2 [.tup ["x", "y"]], .newId 1] := by
  simp only [OpsIn, Op.InR, NotBlock]
  decide

/-- the specified export tree of `hDoc` for the Property exists -/
example : (chainSpec hDoc 2).isSome = true := by decide +kernel

/-! ### Ids repeated along the path

`export_leaf_chain` holds for every well-formed store; ids are a field like any other. The witness below
shows that its hypotheses are met by a store in which the exported Section carries the id of one of its
ancestors - what `clone(keep_id=True)` followed by `append` builds - and spells out the result. -/

/-- A snapshot of a Section kept inside that Section: `rec.clone(keep_id=True)`, renamed, appended to
    `rec`. Objects: 0 Document, 1 Section "rec", 2 its Property, 3 the copy "snapshot" (child of 1), 4 its
    Property. -/
def hNest : H := run empty
  [.newObj .doc "" ["me"] [], .newObj .sec "rec" ["t"] [], .append 0 1,
   .newObj .prop "rate" ["int"] [], .append 1 2,
   .clone 1 true true, .rename 3 "snapshot", .append 1 3]

/-- The chain law of `export_leaf` does not depend on the ids being distinct: on `hNest` the exported
    Section 3 carries the id of its ancestor 1 (and its Property the id of the ancestor's Property), a store
    the library builds itself with `clone(keep_id=True)`. It is well-formed, the walk from the Property 4
    starts at 3 and passes [3, 1, 0], the export succeeds, the result is the tree `chainSpec` prescribes
    (`export_leaf_chain`), and that tree is not cut at the ancestor with the id of the leaf: Document copy 9
    holds exactly the copy 7 of "rec" with its Property, which holds exactly the copy 5 of "snapshot" with its
    Property and no Section; 5 and 7 carry the same id. -/
theorem export_leaf_chain_repeated_ids :
    WF hNest ∧ (hNest.node 3).id = (hNest.node 1).id ∧ (hNest.node 4).id = (hNest.node 2).id ∧
    exportStart hNest 4 = some 3 ∧ chainUp hNest (fuelOf hNest) 3 = some [3, 1, 0] ∧
    (exportLeaf hNest 4).2 = .ok 9 ∧
    (∃ t, chainSpec hNest 4 = some t ∧ ∀ n, fuelOf hNest ≤ n → idTree (exportLeaf hNest 4).1 n 9 = t) ∧
    (((exportLeaf hNest 4).1.node 9).secs, ((exportLeaf hNest 4).1.node 7).secs, ((exportLeaf hNest 4).1.node 5).secs)
      = ([7], [5], []) ∧
    (((exportLeaf hNest 4).1.node 7).props, ((exportLeaf hNest 4).1.node 5).props) = ([8], [6]) ∧
    ((exportLeaf hNest 4).1.node 5).id = ((exportLeaf hNest 4).1.node 7).id ∧
    ((exportLeaf hNest 4).1.node 5).name = "snapshot" ∧ ((exportLeaf hNest 4).1.node 7).name = "rec" := by
  refine ⟨run_empty_wf _, by decide, by decide, by decide, by decide, by decide, ?_, by decide, by decide,
    by decide, by decide, by decide⟩
  have he : exportLeaf hNest 4 = ((exportLeaf hNest 4).1, .ok 9) := by
    have : (exportLeaf hNest 4).2 = .ok 9 := by decide
    exact Prod.ext rfl this
  exact export_leaf_chain (run_empty_wf _) (by decide) (by decide : exportStart hNest 4 = some 3) he

/-! ### A copy answers for itself: nothing is taken over from the surroundings of the original -/

/-- Inside a tree a Section answers `get_repository()` (`inherited`) with the repository of the nearest
    Section above it, or of the Document, when it has none of its own. The copy `clone` hands out is
    detached and carries the attributes of the original object itself: for EVERY attribute position
    `k` (the repository is one) it answers with the original's OWN value `ownAttr h x k` - `none` when
    the original has none, whatever the Sections above the original and its Document carry. This is the
    clause "detached object equal to the original" for attributes that are looked up in the
    surroundings; `TemplateHandler.clone_section` is `doc[name].clone(children, keep_id)`. -/
theorem clone_inherits_nothing {h h' : H} {x c : Nat} {children keep : Bool}
    (hc : clone h x children keep = (h', .ok c)) (k fuel : Nat) :
    inherited h' (fuel + 1) c k = ownAttr h x k ∧ ownAttr h' c k = ownAttr h x k := by
  have hd := (clone_detached_new hc).2.2.1
  have ha := (clone_root_equal hc).2.2.1
  have ho : ownAttr h' c k = ownAttr h x k := by simp [ownAttr, ha]
  refine ⟨?_, ho⟩
  simp only [inherited, ho, hd]
  cases ownAttr h x k <;> rfl

/-- A template: Document 0 with the repository 'R', root Section 1 "rig" without one, its sub-Section 2
    "room" with its own 'Q', root Section 3 "own" with 'S'. (Attribute positions as in the harness:
    type / author, definition / version, reference / date, repository.) -/
def hRepo : H := run empty
  [.newObj .doc "" ["'me'", "'1'", "None", "'R'"] [], .newObj .sec "rig" ["'setup'", "None", "None", "None"] [],
   .append 0 1, .newObj .sec "room" ["'t'", "None", "None", "'Q'"] [], .append 1 2,
   .newObj .sec "own" ["'setup'", "None", "None", "'S'"] [], .append 0 3]

/-- The statement is not vacuous, and the hypothesis "what the Sections above carry" matters: in the
    template "rig" answers with the Document's 'R'; its copy (children and keep_id both ways) answers
    with nothing, the copies of "room" and "own" with their own, and "room" inside the copy of "rig"
    still with its own. -/
theorem clone_inherits_nothing_template :
    WF hRepo ∧ inherited hRepo 5 1 repoAttr = some "'R'" ∧ ownAttr hRepo 1 repoAttr = none ∧
    (clone hRepo 1 true false).2 = .ok 4 ∧
    inherited (clone hRepo 1 true false).1 5 4 repoAttr = none ∧
    inherited (clone hRepo 1 true false).1 5 5 repoAttr = some "'Q'" ∧
    inherited (clone hRepo 1 false true).1 5 4 repoAttr = none ∧
    inherited (clone hRepo 3 true false).1 5 4 repoAttr = some "'S'" ∧
    inherited (clone hRepo 2 true true).1 5 4 repoAttr = some "'Q'" := by
  exact ⟨run_empty_wf _, by decide +kernel⟩

/-! ### Hidden state a copy shares with its original: the record of a merge (`_merged_attrs`)

`clone()` is `copy.copy`: the copy of a Section holds the ADDRESS of the dict in which `merge` has noted the
definition / reference it filled in from the merged Section (`Node.mattrs` into the address space `dcell`).
Until one of the two binds another dict they share it. The code relies on every write being a binding
(`self._merged_attrs = filled` of a new `dict(...)`, `self._merged_attrs = {}`); the theorems below state
that, and what follows from it for copy and original. -/

/-- The frame lemma of the dicts, for every store, every operation list with any arguments: a dict that
    exists is never written (all 22 operations, merge and unmerge included: every write binds a new
    dict), and dicts are only added. -/
theorem record_dicts_never_written (h : H) (ops : List Op) :
    h.nD ≤ (run h ops).nD ∧ ∀ d, d < h.nD → (run h ops).dcell d = h.dcell d :=
  ⟨(run_dframe ops h).mono, (run_dframe ops h).same⟩

/-- What the operations other than `Section(…)`, merge and unmerge do to the dicts: nothing. In
    particular `clone` (whatever the outcome) makes no dict. -/
theorem clone_makes_no_dict (h : H) (x : Nat) (children keep : Bool) :
    (clone h x children keep).1.dcell = h.dcell ∧ (clone h x children keep).1.nD = h.nD :=
  ⟨(dsame_clone h x children keep).dcell, (dsame_clone h x children keep).nD⟩

/-- The copy SHARES the record with the original: it holds the same address, so it is equal to the
    original in this piece of state as well (`recOf`), and the dict is the very same one. -/
theorem clone_shares_record {h h' : H} {x c : Nat} {children keep : Bool}
    (hc : clone h x children keep = (h', .ok c)) :
    (h'.node c).mattrs = (h.node x).mattrs ∧ h'.dcell = h.dcell ∧ h'.nD = h.nD ∧ recOf h' c = recOf h x := by
  have r := cloneF_fields (dropOnErr_ok hc)
  have d := dsame_clone h x children keep
  rw [hc] at d
  exact ⟨r.mattrs, d.dcell, d.nD, by unfold recOf; rw [r.mattrs, d.dcell]⟩

/-- No edit sequence applied to the copy - merge, unmerge, attribute edits, further clones, anything of
    `Op` - changes what the record of the original holds, nor that of any other object that existed when
    the copy was made: although copy and original share the dict, every write on the copy's side binds a
    new one. `DScoped h`: the record addresses of `h` are allocated (holds in every reachable store). -/
theorem edit_copy_preserves_original_record {h h' : H} {x c : Nat} {children keep : Bool} (ds : DScoped h)
    (hc : clone h x children keep = (h', .ok c)) (ops : List Op) (ho : OpsIn (Sn h) ops) (a : Nat)
    (ha : a < h.nN) :
    recOf (run h' ops) a = recOf h a ∧ ((run h' ops).node a).mattrs = (h.node a).mattrs := by
  have b := edit_copy_preserves_original hc ops ho
  have e := clone_writes_only_new h x children keep
  have d := dsame_clone h x children keep
  rw [hc] at e d
  exact ⟨recOf_kept ds e d ops b a ha, by rw [b.1 a ha]⟩

/-- ... and vice versa: no edit sequence applied to the original (or to anything that is not part of the
    copy) changes what the record of the copy - of any object of the copy - holds; the root of the copy
    keeps the record the original had when it was cloned. -/
theorem edit_original_preserves_copy_record {h h' : H} {x c : Nat} {children keep : Bool} (sc : Scoped h)
    (ds : DScoped h) (hc : clone h x children keep = (h', .ok c)) (ops : List Op)
    (ho : OpsIn (NotBlock h h') ops) :
    (∀ a, h.nN ≤ a → a < h'.nN → recOf (run h' ops) a = recOf h' a) ∧ recOf (run h' ops) c = recOf h x := by
  have d := dsame_clone h x children keep
  rw [hc] at d
  have all := recOf_block ds d ops (edit_original_preserves_copy sc hc ops ho)
  obtain ⟨c1, c2, _, _⟩ := clone_detached_new hc
  exact ⟨all, by rw [all c c1 c2, (clone_shares_record hc).2.2.2]⟩

/-- Both directions for every reachable store, no hypothesis left: build any store (`ops₀`, merges and
    unmerges included), clone any object; afterwards ANY operation list on the copy's side leaves the
    record of every object that existed as it was, and ANY operation list on the original's side leaves the
    record of every object of the copy as it was. -/
theorem record_independent_reachable (ops₀ : List Op) {h' : H} {x c : Nat} {children keep : Bool}
    (hc : clone (run empty ops₀) x children keep = (h', .ok c)) (ops : List Op) :
    (OpsIn (Sn (run empty ops₀)) ops → ∀ a, a < (run empty ops₀).nN →
      recOf (run h' ops) a = recOf (run empty ops₀) a) ∧
    (OpsIn (NotBlock (run empty ops₀) h') ops →
      (∀ a, (run empty ops₀).nN ≤ a → a < h'.nN → recOf (run h' ops) a = recOf h' a) ∧
      recOf (run h' ops) c = recOf (run empty ops₀) x) :=
  ⟨fun ho a ha => (edit_copy_preserves_original_record (run_empty_dscoped ops₀) hc ops ho a ha).1,
   fun ho => edit_original_preserves_copy_record (run_empty_scoped ops₀) (run_empty_dscoped ops₀) hc ops ho⟩

/-- Independence over the rest of the history (the counterfactual reading): what `unmerge` / `clean` later
    does to the attributes of the original is the same whether or not the copy was edited in between - the
    attributes the original has afterwards are those it had at clone time with what ITS record held then
    taken back (`takeBackL`), whatever was done to the copy. -/
theorem unmerge_original_unaffected_by_copy_edits {h h' : H} {x c : Nat} {children keep : Bool} (ds : DScoped h)
    (hc : clone h x children keep = (h', .ok c)) (ops : List Op) (ho : OpsIn (Sn h) ops) (a : Nat) (ha : a < h.nN) :
    ((unmergeAttrs (run h' ops) a).node a).attrs = ((unmergeAttrs h a).node a).attrs := by
  rw [unmergeAttrs_attrs, unmergeAttrs_attrs, (edit_copy_preserves_original_record ds hc ops ho a ha).1,
    (edit_copy_preserves_original hc ops ho).1 a ha]

/-- ... and what `unmerge` later does to the copy does not depend on what was done to the original. -/
theorem unmerge_copy_unaffected_by_original_edits {h h' : H} {x c : Nat} {children keep : Bool} (sc : Scoped h)
    (ds : DScoped h) (hc : clone h x children keep = (h', .ok c)) (ops : List Op) (ho : OpsIn (NotBlock h h') ops) :
    ((unmergeAttrs (run h' ops) c).node c).attrs = ((unmergeAttrs h' c).node c).attrs := by
  obtain ⟨c1, c2, _, _⟩ := clone_detached_new hc
  rw [unmergeAttrs_attrs, unmergeAttrs_attrs, (edit_original_preserves_copy_record sc ds hc ops ho).1 c c1 c2,
    (edit_original_preserves_copy sc hc ops ho).1 c c1 c2]

/-- The same for `merge`: the attributes and the record a later (recorded) merge of the original with any
    Section `s` of the original's side leaves on the original are the same whether or not the copy was
    edited in between (both are `fillL` / `fillR` of the two attribute lists and of the original's record,
    none of which an edit of the copy changes). -/
theorem merge_original_unaffected_by_copy_edits {h h' : H} {x c : Nat} {children keep : Bool} (ds : DScoped h)
    (hc : clone h x children keep = (h', .ok c)) (ops : List Op) (ho : OpsIn (Sn h) ops) (a s : Nat)
    (ha : a < h.nN) (hs : s < h.nN) (hne : s ≠ a) :
    ((mergeAttrs (run h' ops) a s true).node a).attrs = ((mergeAttrs h a s true).node a).attrs ∧
    recOf (mergeAttrs (run h' ops) a s true) a = recOf (mergeAttrs h a s true) a := by
  obtain ⟨p1, p2⟩ := mergeAttrs_spec (run h' ops) a s hne
  obtain ⟨q1, q2⟩ := mergeAttrs_spec h a s hne
  have b := edit_copy_preserves_original hc ops ho
  rw [p1, p2, q1, q2, (edit_copy_preserves_original_record ds hc ops ho a ha).1, b.1 a ha, b.1 s hs]
  exact ⟨rfl, rfl⟩

/-- ... and a later merge of the copy (with any Section that is not part of the original's side being
    edited: here one of the copy's block) does not depend on edits of the original. -/
theorem merge_copy_unaffected_by_original_edits {h h' : H} {x c : Nat} {children keep : Bool} (sc : Scoped h)
    (ds : DScoped h) (hc : clone h x children keep = (h', .ok c)) (ops : List Op) (ho : OpsIn (NotBlock h h') ops)
    (s : Nat) (hs1 : h.nN ≤ s) (hs2 : s < h'.nN) (hne : s ≠ c) :
    ((mergeAttrs (run h' ops) c s true).node c).attrs = ((mergeAttrs h' c s true).node c).attrs ∧
    recOf (mergeAttrs (run h' ops) c s true) c = recOf (mergeAttrs h' c s true) c := by
  obtain ⟨c1, c2, _, _⟩ := clone_detached_new hc
  obtain ⟨p1, p2⟩ := mergeAttrs_spec (run h' ops) c s hne
  obtain ⟨q1, q2⟩ := mergeAttrs_spec h' c s hne
  have bs := edit_original_preserves_copy sc hc ops ho
  rw [p1, p2, q1, q2, (edit_original_preserves_copy_record sc ds hc ops ho).1 c c1 c2, bs.1 c c1 c2, bs.1 s hs1 hs2]
  exact ⟨rfl, rfl⟩

/-- The same for the copy `export_leaf()` hands out (every Section of the exported chain is a
    `clone(children=False, keep_id=True)`, i.e. shares the dict of the Section it was copied from):
    `export_leaf` makes no dict, no edit sequence applied to the export changes what the record of any
    object that existed holds ... -/
theorem edit_export_preserves_original_record {h h' : H} {x r : Nat} (ds : DScoped h)
    (he : exportLeaf h x = (h', .ok r)) (ops : List Op) (ho : OpsIn (Sn h) ops) (a : Nat) (ha : a < h.nN) :
    h'.dcell = h.dcell ∧ h'.nD = h.nD ∧ recOf (run h' ops) a = recOf h a := by
  have e := export_writes_only_new h x
  have d := dsame_exportLeaf h x
  rw [he] at e d
  exact ⟨d.dcell, d.nD, recOf_kept ds e d ops (edit_export_preserves_original he ops ho) a ha⟩

/-- ... and no edit sequence applied to anything but the export changes what the record of any object of
    the export holds. -/
theorem edit_original_preserves_export_record {h h' : H} {x r : Nat} (sc : Scoped h) (ds : DScoped h)
    (he : exportLeaf h x = (h', .ok r)) (ops : List Op) (ho : OpsIn (NotBlock h h') ops) (a : Nat)
    (h1 : h.nN ≤ a) (h2 : a < h'.nN) : recOf (run h' ops) a = recOf h' a := by
  have d := dsame_exportLeaf h x
  rw [he] at d
  exact recOf_block ds d ops (edit_original_preserves_export sc he ops ho) a h1 h2

/-- A Document with a Section "s" that has no definition / reference of its own (1) and a Section "tgt"
    that has both (2); "s" is merged with "tgt" (`link` resolved): definition and reference are filled in
    and noted in the record of "s". -/
def hMerged : H := run empty
  [.newObj .doc "" ["'me'", "'1'", "None", "None"] [],
   .newObj .sec "s" ["'t'", "None", "None", "None"] [], .append 0 1,
   .newObj .sec "tgt" ["'t'", "'D'", "'R'", "None"] [], .append 0 2,
   .mergeAttrs 1 2 true]

/-- The hypotheses are met by a store with a non-empty record, and the statements are not vacuous: the
    store is `DScoped` and `Scoped`, "s" carries the filled-in values and its record holds them, the clone
    of "s" is object 3 and holds the same address; an edit list on the copy that unmerges it and merges it
    again (with the Section "tgt" of the original document, which is only read) is `OpsIn (Sn hMerged)`. -/
example : DScoped hMerged ∧ Scoped hMerged ∧ (hMerged.node 1).attrs = ["'t'", "'D'", "'R'", "None"] ∧
    recOf hMerged 1 = [(1, "'D'"), (2, "'R'")] ∧ (clone hMerged 1 true false).2 = .ok 3 ∧
    ((clone hMerged 1 true false).1.node 3).mattrs = (hMerged.node 1).mattrs :=
  ⟨run_empty_dscoped _, run_empty_scoped _, by decide +kernel⟩
example : OpsIn (Sn hMerged) [.unmergeAttrs 3, .mergeAttrs 3 2 true, .setAttr 3 1 "'X'"] := by
  simp only [OpsIn, Op.InR, Sn]
  decide

/-- The code as it is, on the witness: the copy of the merged Section is unmerged (`copy.clean()`): the
    record of the original still holds both values, and cleaning the original afterwards takes both back. -/
theorem unmerge_copy_then_original_witness :
    let h1 := (clone hMerged 1 true false).1
    let h2 := unmergeAttrs h1 3
    recOf h1 3 = recOf hMerged 1 ∧ recOf h2 3 = [] ∧ (h2.node 3).attrs = ["'t'", "None", "None", "None"] ∧
    recOf h2 1 = [(1, "'D'"), (2, "'R'")] ∧
    ((unmergeAttrs h2 1).node 1).attrs = ["'t'", "None", "None", "None"] := by decide +kernel

/-- Seeded change C11-G (`unmerge` ends with `self._merged_attrs.clear()`: a write INTO the dict that is
    bound) violates the clause on the same witness: unmerging the COPY empties the record of the ORIGINAL,
    which then keeps the definition and reference of "tgt" as if they were its own when it is cleaned. -/
theorem unmerge_in_place_counterexample :
    let h1 := (clone hMerged 1 true false).1
    let h2 := unmergeAttrsInPlace h1 3
    recOf h2 1 ≠ recOf h1 1 ∧ recOf h2 1 = [] ∧
    ((unmergeAttrs h2 1).node 1).attrs = ["'t'", "'D'", "'R'", "None"] ∧
    ((unmergeAttrs h2 1).node 1).attrs ≠ ((unmergeAttrs h1 1).node 1).attrs := by decide +kernel

/-- A Document with a Section "s" without a definition (1) and a Section "tgt" with one (2); nothing is
    merged yet. -/
def hLate : H := run empty
  [.newObj .doc "" ["'me'", "'1'", "None", "None"] [],
   .newObj .sec "s" ["'t'", "None", "None", "None"] [], .append 0 1,
   .newObj .sec "tgt" ["'t'", "'D'", "None", "None"] [], .append 0 2]

/-- Seeded change C12-G (`merge` notes what it fills in by `self._merged_attrs[attr] = …`, item assignment
    on the dict that is bound): the record is written AFTER the copy was made. "s" is cloned (3), the COPY
    is merged with "tgt"; the ORIGINAL's record now holds the definition although nothing was merged into
    it, and a definition 'D' the user then gives the original is taken away by its next `unmerge`. With the
    code as it is (`mergeAttrs`) the record of the original stays empty and the definition stays. -/
theorem merge_in_place_counterexample :
    let h1 := (clone hLate 1 true false).1
    let bad := setAttr (mergeAttrsInPlace h1 3 2) 1 defAttr "'D'"
    let good := setAttr (mergeAttrs h1 3 2 true) 1 defAttr "'D'"
    recOf h1 1 = [] ∧ recOf bad 1 = [(1, "'D'")] ∧ recOf good 1 = [] ∧ recOf good 3 = [(1, "'D'")] ∧
    ((unmergeAttrs bad 1).node 1).attrs = ["'t'", "None", "None", "None"] ∧
    ((unmergeAttrs good 1).node 1).attrs = ["'t'", "'D'", "None", "None"] := by decide +kernel

end C11
