/-
C20 — Searches over exported RDF return exactly the matching objects.

Property theorems only; models: `Model/Query.lean`, `Model/Rdf.lean` (tied to /repo by
`harness/c20.py`), helper lemmas: `Proofs/Query.lean`, `Proofs/QueryFull.lean`, `Proofs/QueryRepo.lean`,
`Proofs/Rdf.lean`.

Reading guide
  * `prepareQuery q`   the basic graph pattern of the SPARQL text `QueryCreator` builds; a position
                       `PT.str s` is a helper variable with `FILTER (STR(?t) = "s")`
  * `prepareFilters q` the FILTERs of that text on the variables of the rows (`Flt`: node IRI for an
                       id, member of the value node, type of the terminology node)
  * `solutions g pats` nested-loop evaluation of the pattern (validated against rdflib);
    `filtered g pats fs` the solutions that pass the FILTERs
  * `directEval ds q`  rows `(?d, ?s, ?p)` computed on the documents themselves: objects related
                       by direct containment that carry all requested attribute=value pairs
  * `directEval' ds q` the same for all searchable attributes (`Proofs/QueryFull.lean`): an object
                       also carries its `id`, a Property carries a `value` pair when every searched
                       value is the text of one of its values, `repository` is an attribute like the
                       others; equal to `directEval` on the queries of `QuerySafe`
  * `subsets pairs`    the combinations `FuzzyFinder` executes, in execution order
-/
import OdmlModel.Model.Finder
import OdmlModel.Proofs.QueryRepo
import OdmlModel.Props.C10


namespace C20
open Rdf Query List

/-- The names the query text hard-codes (`odml:hasSection`, `odml:hasProperty`, `odml:hasValue`,
    the three classes) are the ones of the regenerated writer tables, and every attribute name
    the query parsers accept is a key of the RDF map of its class. -/
theorem query_vocabulary_matches_writer :
    Gen.Format.documentRdfMap.lookup "sections" = some (String.ofList (ns ++ "hasSection".toList)) ∧
    Gen.Format.sectionRdfMap.lookup "sections" = some (String.ofList (ns ++ "hasSection".toList)) ∧
    Gen.Format.sectionRdfMap.lookup "properties" = some (String.ofList (ns ++ "hasProperty".toList)) ∧
    Gen.Format.propertyRdfMap.lookup "value" = some (String.ofList (ns ++ "hasValue".toList)) ∧
    odmlIri "Document" = .iri Gen.Format.documentRdfType.toList ∧
    odmlIri "Section" = .iri Gen.Format.sectionRdfType.toList ∧
    odmlIri "Property" = .iri Gen.Format.propertyRdfType.toList ∧
    (∀ k ∈ ["id", "author", "date", "version", "repository", "sections"],
      k ∈ Gen.Format.documentRdfMap.map (·.1)) ∧
    (∀ k ∈ ["id", "name", "definition", "type", "repository", "reference", "sections", "properties"],
      k ∈ Gen.Format.sectionRdfMap.map (·.1)) ∧
    (∀ k ∈ ["id", "name", "definition", "dtype", "unit", "uncertainty", "reference", "value_origin"],
      k ∈ Gen.Format.propertyRdfMap.map (·.1)) := by
  refine ⟨?_, ?_, ?_, ?_, odmlIri_eq ?_, odmlIri_eq ?_, odmlIri_eq ?_, ?_, ?_, ?_⟩ <;> decide +kernel

/-- Building and running a query never fails for attribute names of the odML RDF model,
    whatever the searched values and whatever the graph. -/
theorem query_never_fails (q : QParams) (g : Graph)
    (h : ∀ x ∈ q.doc ++ q.sec ++ q.prop,
      ∃ k : String, x.attr = k.toList ∧ k ∈ (tableOf x.kind).map (·.1)) :
    (∃ pats, prepareQuery q = .ok pats) ∧ ∃ rows, queryRows g q = .ok rows := by
  obtain ⟨a, ha⟩ := attrPats_ok q.doc (fun x hx => h x (by simp [hx]))
  obtain ⟨b, hb⟩ := attrPats_ok q.sec (fun x hx => h x (by simp [hx]))
  obtain ⟨c, hc⟩ := attrPats_ok q.prop (fun x hx => h x (by simp [hx]))
  have : ∃ pats, prepareQuery q = .ok pats := by
    unfold prepareQuery
    simp only [ha, hb, hc]
    exact ⟨_, rfl⟩
  obtain ⟨pats, hp⟩ := this
  refine ⟨⟨pats, hp⟩, ?_⟩
  unfold queryRows
  simp only [hp]
  exact ⟨_, rfl⟩

/-- … whereas a name outside the model makes the SPARQL text unparsable. -/
example : prepareQuery ⟨[], [⟨.sec, "foo".toList, "x".toList, []⟩], []⟩ = .error .parse := by rfl

/-- Soundness of `solutions`: every returned binding instantiates every pattern to a triple of
    the graph. -/
theorem evalBGP_sound (g : Graph) (pats : List Pat) (b : Binding) (h : b ∈ solutions g pats) :
    ∀ pat ∈ pats, ∃ t ∈ g, instPat b pat t := by
  obtain ⟨b0, hb0, e⟩ := mem_evalBGP.mp h
  exact (ext_sound e).2

/-- Completeness of `solutions`: whenever a binding instantiates every pattern to a triple of
    the graph, a returned binding agrees with it on everything it binds. -/
theorem evalBGP_complete (g : Graph) (pats : List Pat) (b' : Binding)
    (h : ∀ pat ∈ pats, ∃ t ∈ g, instPat b' pat t) :
    ∃ b ∈ solutions g pats, b.le b' := by
  obtain ⟨b, e, l⟩ := ext_complete (b := {}) (b' := b') (fun x t hx => by cases x <;> cases hx) h
  exact ⟨b, mem_evalBGP.mpr ⟨{}, by simp, e⟩, l⟩

/-- The FILTERs: a solution of the group is a solution of the basic graph pattern for which
    every FILTER holds; and what each kind of FILTER says, in terms of the triples of the graph. -/
theorem filtered_exact (g : Graph) (pats : List Pat) (fs : List Flt) (b : Binding) :
    b ∈ filtered g pats fs ↔ b ∈ solutions g pats ∧ ∀ f ∈ fs, f.holds g b = true := by
  simp [filtered, mem_filter, all_eq_true]

/-- `FILTER (STR(?x) = "s")`: the variable is bound to the IRI `s` or to a literal with the
    lexical form `s` (of any datatype). -/
theorem filter_strEq_exact (g : Graph) (b : Binding) (x : Var) (s : Str) :
    (Flt.strEq x s).holds g b = true ↔ ∃ t, b.get x = some t ∧ strOf t = some s := by
  simp only [Flt.holds]
  cases b.get x <;> simp

/-- `FILTER EXISTS { ?x ?t1 ?t2 . FILTER (STRSTARTS(STR(?t1), "…#_") && STR(?t2) = "s") }`: the node
    has a member (`rdf:_n`) whose text is `s`. -/
theorem filter_member_exact (g : Graph) (b : Binding) (x : Var) (s : Str) (n : Term)
    (hx : b.get x = some n) :
    (Flt.member x s).holds g b = true ↔
      ∃ t ∈ g, t.s = n ∧ isMemberPred t.p = true ∧ strOf t.o = some s :=
  holds_member g b x s n hx

/-- `FILTER EXISTS { ?x pred ?t1 . ?t1 rdf:type ?t2 . FILTER (STR(?t2) = "s") }`: the node is linked
    by `pred` to a node one of whose types has the text `s`. -/
theorem filter_typedBy_exact (g : Graph) (b : Binding) (x : Var) (pred : Term) (s : Str) (n : Term)
    (hx : b.get x = some n) :
    (Flt.typedBy x pred s).holds g b = true ↔
      ∃ m u, (⟨n, pred, m⟩ : Triple) ∈ g ∧ (⟨m, rdfType, u⟩ : Triple) ∈ g ∧ strOf u = some s :=
  holds_typedBy g b x pred s n hx

/-- An `id` pair of any kind of object adds no triple pattern, only the FILTER on the node of the
    object, and that FILTER selects exactly the node the writer names with that id
    (`URIRef(ODML_NS + str(obj.id))`) - all ids, all graphs, all bindings. -/
theorem id_pair_exact (k : Kind) (v : Str) (vs : List Str) (g : Graph) (b : Binding) (i : Str)
    (hx : b.get (varOf k) = some (node i)) :
    attrPat ⟨k, "id".toList, v, vs⟩ = .ok [] ∧
    attrFlt ⟨k, "id".toList, v, vs⟩ = [.strEq (varOf k) (ns ++ v)] ∧
    ((Flt.strEq (varOf k) (ns ++ v)).holds g b = true ↔ i = v) :=
  ⟨(attr_id k v vs).1, (attr_id k v vs).2, holds_strEq_node g b _ i v hx⟩

/-- **Match mode executes every non-empty combination**: the executed queries are exactly the
    non-empty sub-lists of the (sorted) given pairs in which no attribute of one kind of object
    is asked twice (such a combination cannot have a hit). -/
theorem combinations_exact (pairs : List Pair) (l : List Pair) :
    l ∈ subsets pairs ↔ l ≠ [] ∧ l.Sublist (pairs.mergeSort pairLe) ∧ NoClashL l := by
  unfold subsets
  rw [mem_mergeSort, mem_dfsLoop _ [] l Pairwise.nil]
  constructor
  · rintro ⟨ext, hne, hs, rfl, hn⟩
    exact ⟨by simpa using hne, by simpa using hs, hn⟩
  · rintro ⟨hne, hs, hn⟩
    exact ⟨l, hne, hs, by simp, hn⟩

/-- … most specific (longest) first. -/
theorem combinations_most_specific_first (pairs : List Pair) :
    (subsets pairs).Pairwise (fun a b => b.length ≤ a.length) := by
  unfold subsets
  have := pairwise_mergeSort (le := lenGe) lenGe_trans lenGe_total (dfsLoop (pairs.mergeSort pairLe) [])
  exact this.imp (fun h => by simpa [lenGe] using h)

/-- … and exactly the combinations with a hit are reported, in that order. -/
theorem hitless_omitted (g : Graph) (pairs : List Pair)
    (out : List (QParams × List (Option Term × Option Term × Option Term)))
    (h : findRows g pairs = .ok out) :
    out.map (·.2) = ((subsets pairs).filterMap fun c =>
      match queryRows g (groupPairs c) with
      | .ok rows => if rows.isEmpty then none else some rows
      | .error _ => none) := by
  unfold findRows at h
  generalize subsets pairs = l at h
  induction l generalizing out with
  | nil => simp [findRows.go] at h; subst h; rfl
  | cons c r ih =>
    simp only [findRows.go] at h
    cases hq : queryRows g (groupPairs c) with
    | error e => simp [hq] at h
    | ok rows =>
      cases hr : findRows.go g r with
      | error e => simp [hq, hr] at h
      | ok rest =>
        simp only [hq, hr, Except.ok.injEq] at h
        have := ih rest hr
        subst h
        rw [filterMap_cons]
        simp only [hq]
        by_cases he : rows.isEmpty = true
        · simp only [he, if_true]; exact this
        · simp only [he, Bool.false_eq_true, if_false, map_cons]; rw [this]

/-- A fuzzy search reports what the match search on the attribute=term pairs reports. -/
theorem fuzzy_equals_match_on_pairs (g : Graph) (f : FParams) :
    findRows g (fuzzyPairs f) = findRows g (matchPairs (fuzzyAsMatch f)) := by
  simp [fuzzyPairs, matchPairs, fuzzyAsMatch]

def dS : DocT :=
  ⟨"d1".toList, [("author", .str "me".toList), ("date", .date "2020-01-02".toList)], none,
   [.mk "s1".toList [("name", .str "s".toList), ("type", .str "t".toList)]
     [⟨"p1".toList, [("name", .str "s".toList), ("unit", .str "mV".toList),
                     ("uncertainty", .float "0.5".toList)], []⟩] []]⟩
def qS : QParams :=
  ⟨[⟨.doc, "author".toList, "me".toList, []⟩, ⟨.doc, "date".toList, "2020-01-02".toList, []⟩],
   [⟨.sec, "name".toList, "s".toList, []⟩],
   [⟨.prop, "name".toList, "s".toList, []⟩, ⟨.prop, "unit".toList, "mV".toList, []⟩,
    ⟨.prop, "uncertainty".toList, "0.5".toList, []⟩]⟩

/-- What the queries need of the regenerated tables. -/
theorem query_tables_ok : QTablesOK := by
  obtain ⟨-, -, -, -, docIri, secIri, propIri, -⟩ := query_vocabulary_matches_writer
  exact {
    base := C10.rdf_tables_wellformed
    docSecs := by decide +kernel
    secSecs := by decide +kernel
    secProps := by decide +kernel
    hsNotProp := by decide +kernel
    hpNotDoc := by decide +kernel
    hpNotProp := by decide +kernel
    hsIri := odmlIri_eq (by decide +kernel)
    hpIri := odmlIri_eq (by decide +kernel)
    docIri, secIri, propIri
    typesDistinct :=
      have ne : ∀ {a b : String}, a ≠ b → Term.iri a.toList ≠ .iri b.toList :=
        fun h e => h (iri_toList_inj e)
      have seq : ∀ {l T}, odmlIri l = T → T ≠ rdfSeq :=
        fun h e => rdfNs_ne_ns _ _ (Term.iri.inj (h.trans e)).symm
      ⟨ne (by decide +kernel), ne (by decide +kernel), ne (by decide +kernel),
        seq docIri, seq secIri, seq propIri⟩ }

theorem query_tables_ok2 : QTablesOK2 where
  base := query_tables_ok
  propValue := by decide +kernel
  docRepo := by decide +kernel
  secRepo := by decide +kernel
  hvIri := odmlIri_eq (by decide +kernel)
  htIri := odmlIri_eq (l := "hasTerminology") (by decide +kernel)

/-- **Sound and complete** on exports without repositories, for queries over the attributes of
    `QuerySafe` (`safeAttrs`: the string-valued ones and the two that are exported as typed
    literals), of one kind or spanning kinds: a row `(?d, ?s, ?p)`
    is returned iff its objects are related by direct containment and carry all requested values
    — none that lacks one, none missing. -/
theorem query_sound_complete (ds : List DocT) (q : QParams) (wf : WFDocs ds) (r : RdfRepr ds)
    (nr : NoRepo ds) (safe : QuerySafe q) (row : Row) :
    ∃ rows, queryRows (exportRdf ⟨false, []⟩ ds) q = .ok rows ∧
      (row ∈ rows ↔ row ∈ directEval ds q) := by
  rw [← Query.directEval'_eq_of_safe ds q safe]
  exact Query.sound_complete_full query_tables_ok2 ds q wf r (repoOK_of_noRepo nr)
    (queryFull_of_safe safe) row

set_option linter.unusedVariables false in
/-- **A value pair is exact** on the export (no sub-classing) of every well-formed
    document set: its FILTERs are one membership test of the value node per searched value, and
    with `?v` bound to the value node of a Property they all hold iff every searched value is the
    text of one of the values of that Property (`carriesValues`, the clause of both specifications) -
    whatever the datatype of the exported literals, at whatever position.  (`nr` is not used:
    `Query.value_filter_exact` holds with repositories as well.) -/
theorem value_pair_exact (ds : List DocT) (wf : WFDocs ds) (nr : NoRepo ds) (p : PropT)
    (hp : p ∈ docProps ds) (b : Binding) (hb : b.get .v = some (.seqn p.id)) (v : Str) (vs : List Str) :
    attrFlt ⟨.prop, "value".toList, v, vs⟩ = vs.map (Flt.member .v) ∧
    ((∀ f ∈ attrFlt ⟨.prop, "value".toList, v, vs⟩, f.holds (exportRdf ⟨false, []⟩ ds) b = true) ↔
      carriesValues p ⟨.prop, "value".toList, v, vs⟩ = true) := by
  have h1 : attrFlt ⟨.prop, "value".toList, v, vs⟩ = vs.map (Flt.member .v) := rfl
  refine ⟨h1, ?_⟩
  rw [h1]
  simp only [mem_map, forall_exists_index, and_imp, forall_apply_eq_imp_iff₂, carriesValues,
    all_eq_true, any_eq_true, beq_iff_eq]
  refine forall_congr' (fun s => forall_congr' (fun _ => ?_))
  exact Query.value_filter_exact query_tables_ok2 wf hp b hb s

/-- The hypotheses are satisfiable, with a query spanning all three kinds that has a hit. -/
example : WFDocs [dS] ∧ RdfRepr [dS] ∧ NoRepo [dS] ∧ QuerySafe qS ∧
    (some (node "d1".toList), some (node "s1".toList), some (node "p1".toList)) ∈ directEval [dS] qS :=
  ⟨wfDocs_of_B (by decide +kernel), rdfRepr_of_B (by decide +kernel),
   noRepo_of_B (by decide +kernel), querySafe_of_B (by decide +kernel), by decide +kernel⟩

/-! ## All searchable attributes: `query_sound_complete_full` is the theorem

`directEval'` is the direct specification for all searchable attributes (`objCarries`: for `id` the id
of the object is the searched string; `propCarries`: for `value` every searched value is the text of
one of the values of the Property; otherwise `carries`).  `query_sound_complete`, `query_sound_complete_ids` and `query_sound_complete_values`
are its instances on smaller scopes of queries (`QuerySafe` ⊆ `QueryIds` ⊆ `QueryValues` ⊆ `QueryFull`)
and on document sets without repositories (`NoRepo → RepoOK`). -/

/-- The extended specification agrees with `directEval` on the queries of `query_sound_complete`. -/
theorem direct_spec_extends (ds : List DocT) (q : QParams) (safe : QuerySafe q) :
    directEval' ds q = directEval ds q :=
  Query.directEval'_eq_of_safe ds q safe

/-- **Sound and complete with `id` pairs** (step 1): as `query_sound_complete`, for queries that
    also contain `id` pairs of any kind of object (Document / Section / Property), alone or together
    with other pairs, of one kind or spanning kinds: a row is returned iff its objects are related by
    direct containment, have the requested ids and carry all other requested values. -/
theorem query_sound_complete_ids (ds : List DocT) (q : QParams) (wf : WFDocs ds) (r : RdfRepr ds)
    (nr : NoRepo ds) (ids : QueryIds q) (row : Row) :
    ∃ rows, queryRows (exportRdf ⟨false, []⟩ ds) q = .ok rows ∧
      (row ∈ rows ↔ row ∈ directEval' ds q) :=
  Query.sound_complete_full query_tables_ok2 ds q wf r (repoOK_of_noRepo nr)
    (queryFull_of_values (queryValues_of_ids ids)) row

/-- **Sound and complete with `value` pairs** (step 2): as `query_sound_complete_ids`, for queries
    that also contain `value` pairs: the Property of a returned row holds every searched value (as
    the text of one of its values, whatever the datatype and the position), and every such Property
    is returned.  `?v` (the value node) is bound by the query but is no part of the rows. -/
theorem query_sound_complete_values (ds : List DocT) (q : QParams) (wf : WFDocs ds) (r : RdfRepr ds)
    (nr : NoRepo ds) (vals : QueryValues q) (row : Row) :
    ∃ rows, queryRows (exportRdf ⟨false, []⟩ ds) q = .ok rows ∧
      (row ∈ rows ↔ row ∈ directEval' ds q) :=
  Query.sound_complete_full query_tables_ok2 ds q wf r (repoOK_of_noRepo nr)
    (queryFull_of_values vals) row

def dV : DocT :=
  ⟨"d1".toList, [("author", .str "me".toList), ("date", .date "2020-01-02".toList)], none,
   [.mk "s1".toList [("name", .str "s".toList), ("type", .str "t".toList)]
     [⟨"p1".toList, [("name", .str "p".toList), ("dtype", .str "int".toList),
                     ("uncertainty", .float "0.5".toList)], [⟨"20".toList, xsdInteger⟩, ⟨"25".toList, xsdInteger⟩]⟩,
      ⟨"p2".toList, [("name", .str "q".toList)], [⟨"x".toList, []⟩]⟩] [],
    .mk "s2".toList [("name", .str "s2".toList), ("type", .str "t".toList)] [] []]⟩

def dV2 : DocT := ⟨"d2".toList, [("author", .str "you".toList)], none, []⟩

def qI : QParams :=
  ⟨[⟨.doc, "id".toList, "d1".toList, []⟩, ⟨.doc, "author".toList, "me".toList, []⟩],
   [⟨.sec, "id".toList, "s1".toList, []⟩],
   [⟨.prop, "id".toList, "p2".toList, []⟩, ⟨.prop, "name".toList, "q".toList, []⟩]⟩

def qV : QParams :=
  ⟨[⟨.doc, "id".toList, "d1".toList, []⟩],
   [⟨.sec, "name".toList, "s".toList, []⟩],
   [⟨.prop, "value".toList, [], ["25".toList, "20".toList]⟩, ⟨.prop, "id".toList, "p1".toList, []⟩,
    ⟨.prop, "dtype".toList, "int".toList, []⟩]⟩

/-- The hypotheses are satisfiable: two Documents, queries spanning all three kinds with `id` pairs
    (and a `value` pair with two searched values), each with a hit. -/
example : WFDocs [dV, dV2] ∧ RdfRepr [dV, dV2] ∧ NoRepo [dV, dV2] ∧ QueryIds qI ∧ QueryValues qV ∧
    (some (node "d1".toList), some (node "s1".toList), some (node "p2".toList)) ∈ directEval' [dV, dV2] qI ∧
    (some (node "d1".toList), some (node "s1".toList), some (node "p1".toList)) ∈ directEval' [dV, dV2] qV :=
  ⟨wfDocs_of_B (by decide +kernel), rdfRepr_of_B (by decide +kernel), noRepo_of_B (by decide +kernel),
   by decide +kernel, by decide +kernel, by decide +kernel, by decide +kernel⟩

/-- **Sound and complete, all searchable attributes, repositories included** (step 3): on the
    export (no sub-classing) of every document set with unique ids and representable attributes whose
    repositories are `RepoOK` (set to a non-empty value that is not one of the three odML class
    IRIs; document sets without repositories are a special case, `repoOK_of_noRepo`), for every
    query of `QueryFull` - every attribute name the query parsers accept for the kind of object
    except the child lists (`fullAttrs`) - of one kind or spanning kinds: a row `(?d, ?s, ?p)` is
    returned by the generated query (basic graph pattern and FILTERs) iff its objects are related by
    direct containment and carry all requested values - none that lacks one, none missing. -/
theorem query_sound_complete_full (ds : List DocT) (q : QParams) (wf : WFDocs ds) (r : RdfRepr ds)
    (ro : RepoOK ds) (full : QueryFull q) (row : Row) :
    ∃ rows, queryRows (exportRdf ⟨false, []⟩ ds) q = .ok rows ∧
      (row ∈ rows ↔ row ∈ directEval' ds q) :=
  Query.sound_complete_full query_tables_ok2 ds q wf r ro full row

/-- **A match-mode search is exact for every executed combination**: for given pairs over searchable
    attributes (each under the key of its kind) every combination the finder executes
    (`combinations_exact`: every non-empty clash-free sub-list of the sorted pairs) returns exactly
    the rows of the objects that carry all pairs of the combination. -/
theorem match_search_sound_complete (ds : List DocT) (pairs : List Pair) (wf : WFDocs ds)
    (r : RdfRepr ds) (ro : RepoOK ds) (hp : ∀ x ∈ pairs, fullPair x.kind x) (c : List Pair)
    (hc : c ∈ subsets pairs) (row : Row) :
    ∃ rows, queryRows (exportRdf ⟨false, []⟩ ds) (groupPairs c) = .ok rows ∧
      (row ∈ rows ↔ row ∈ directEval' ds (groupPairs c)) := by
  have hsub := ((combinations_exact pairs c).mp hc).2.1
  have hmem : ∀ x ∈ c, fullPair x.kind x := fun x hx =>
    hp x ((mem_mergeSort (le := pairLe)).mp (hsub.subset hx))
  refine query_sound_complete_full ds (groupPairs c) wf r ro ⟨?_, ?_, ?_⟩ row <;>
    (intro x hx
     simp only [groupPairs, mem_filter, beq_iff_eq] at hx
     have := hmem x hx.1
     rw [hx.2] at this
     exact this)

/-- **What a match-mode search reports** (all searchable attributes, repositories included): the
    search succeeds; the reported blocks are exactly the executed combinations
    (`combinations_exact`, most specific first: `combinations_most_specific_first`) that have a hit on
    the documents, in execution order; and the rows of each block are exactly the rows of the objects
    that carry all pairs of its combination. -/
theorem match_search_reports_exact (ds : List DocT) (pairs : List Pair) (wf : WFDocs ds)
    (r : RdfRepr ds) (ro : RepoOK ds) (hp : ∀ x ∈ pairs, fullPair x.kind x) :
    ∃ out, findRows (exportRdf ⟨false, []⟩ ds) pairs = .ok out ∧
      out.map (·.1) =
        ((subsets pairs).filter fun c => !(directEval' ds (groupPairs c)).isEmpty).map groupPairs ∧
      ∀ blk ∈ out, ∀ row, row ∈ blk.2 ↔ row ∈ directEval' ds blk.1 :=
  Query.findRows_go_exact _ ds (subsets pairs)
    (fun c hc row => match_search_sound_complete ds pairs wf r ro hp c hc row)

/-- … and a fuzzy search (`FIND attributes HAVING terms`) over searchable attributes reports exactly
    that for the attribute = term pairs (`fuzzy_equals_match_on_pairs`). -/
theorem fuzzy_search_reports_exact (ds : List DocT) (f : FParams) (wf : WFDocs ds)
    (r : RdfRepr ds) (ro : RepoOK ds) (hd : ∀ a ∈ f.doc, String.ofList a ∈ fullAttrs .doc)
    (hs : ∀ a ∈ f.sec, String.ofList a ∈ fullAttrs .sec)
    (hpr : ∀ a ∈ f.prop, String.ofList a ∈ fullAttrs .prop) :
    ∃ out, findRows (exportRdf ⟨false, []⟩ ds) (fuzzyPairs f) = .ok out ∧
      out.map (·.1) =
        ((subsets (fuzzyPairs f)).filter fun c => !(directEval' ds (groupPairs c)).isEmpty).map groupPairs ∧
      ∀ blk ∈ out, ∀ row, row ∈ blk.2 ↔ row ∈ directEval' ds blk.1 := by
  refine match_search_reports_exact ds (fuzzyPairs f) wf r ro ?_
  intro x hx
  simp only [fuzzyPairs, mem_append, mem_flatMap, mem_map] at hx
  rcases hx with (⟨a, ha, v, _, rfl⟩ | ⟨a, ha, v, _, rfl⟩) | ⟨a, ha, v, _, rfl⟩
  · exact ⟨rfl, hd a ha⟩
  · exact ⟨rfl, hs a ha⟩
  · exact ⟨rfl, hpr a ha⟩

def qF : QParams :=
  ⟨[⟨.doc, "repository".toList, "http://x.org/t.xml".toList, []⟩, ⟨.doc, "id".toList, "d1".toList, []⟩],
   [⟨.sec, "repository".toList, "http://x.org/s.xml".toList, []⟩, ⟨.sec, "type".toList, "t".toList, []⟩],
   [⟨.prop, "value".toList, [], ["20".toList]⟩, ⟨.prop, "uncertainty".toList, "0.5".toList, []⟩]⟩

/-! ## Witness searches: typed literals, values, id, repository

Until the `fix:` commits eb38590, 573e2b8, 57076b7 every one of these queries returned no row
(plain string literal against a typed one; `rdf:Bag` / `rdf:li` against `rdf:Seq` / `rdf:_n`;
a `hasId` triple that is never written; the repository URL as a literal).  The witnesses of the
former counterexample theorems now find their objects, and only them. -/

def dW : DocT :=
  ⟨"d1".toList, [("author", .str "me".toList), ("date", .date "2020-01-02".toList),
                 ("repository", .str "http://x.org/t.xml".toList)], none,
   [.mk "s1".toList [("name", .str "s".toList), ("type", .str "t".toList),
                     ("repository", .str "http://x.org/s.xml".toList)]
     [⟨"p1".toList, [("name", .str "p".toList), ("dtype", .str "int".toList),
                     ("uncertainty", .float "0.5".toList)], [⟨"20".toList, xsdInteger⟩, ⟨"25".toList, xsdInteger⟩]⟩,
      ⟨"p2".toList, [("name", .str "q".toList)], [⟨"x".toList, []⟩]⟩] [],
    .mk "s2".toList [("name", .str "s2".toList), ("type", .str "t".toList)] [] []]⟩

def dW2 : DocT := ⟨"d2".toList, [("author", .str "you".toList)], none, []⟩

theorem wf_repr_dW : WFDocs [dW, dW2] ∧ RdfRepr [dW, dW2] :=
  ⟨wfDocs_of_B (by decide +kernel), rdfRepr_of_B (by decide +kernel)⟩

example : WFDocs [dW, dW2] ∧ RdfRepr [dW, dW2] := wf_repr_dW

/-- The hypotheses of `query_sound_complete_full` are satisfiable: Documents and Sections with
    repositories, a query spanning all three kinds with repository, id, value and typed-literal pairs
    that has a hit; and the direct specification gives the rows the executed query gives
    (`repository_query_matches`, `value_query_matches`; the candidate list names a row once per way
    of reading `?d`, hence `eraseDups` - the theorems speak about membership). -/
example : WFDocs [dW, dW2] ∧ RdfRepr [dW, dW2] ∧ RepoOK [dW, dW2] ∧ QueryFull qF ∧
    (directEval' [dW, dW2] qF).eraseDups =
      [(some (node "d1".toList), some (node "s1".toList), some (node "p1".toList))] ∧
    (directEval' [dW, dW2] ⟨[], [⟨.sec, "repository".toList, "http://x.org/s.xml".toList, []⟩], []⟩).eraseDups
      = [(some (node "d1".toList), some (node "s1".toList), none)] ∧
    directEval' [dW, dW2] ⟨[], [], [⟨.prop, "value".toList, [], ["20".toList, "x".toList]⟩]⟩ = [] :=
  ⟨wf_repr_dW.1, wf_repr_dW.2, repoOK_of_B (by decide +kernel), queryFull_of_B (by decide +kernel),
   by decide +kernel, by decide +kernel, by decide +kernel⟩

deriving instance DecidableEq for Except

/-- The searches of the four theorems below, in one kernel run: decoding the IRIs of the graph is
    the slow part of a search, and inside one check it is done once. -/
theorem witness_rows : ∀ qr ∈ ([
    (⟨[⟨.doc, "date".toList, "2020-01-02".toList, []⟩], [], []⟩, [(some (node "d1".toList), none, none)]),
    (⟨[], [], [⟨.prop, "uncertainty".toList, "0.5".toList, []⟩]⟩,
      [(none, some (node "s1".toList), some (node "p1".toList))]),
    (⟨[⟨.doc, "date".toList, "2020-01-03".toList, []⟩], [], []⟩, []),
    (⟨[], [], [⟨.prop, "value".toList, [], ["25".toList, "20".toList]⟩]⟩,
      [(none, some (node "s1".toList), some (node "p1".toList))]),
    (⟨[], [], [⟨.prop, "value".toList, [], ["x".toList]⟩]⟩,
      [(none, some (node "s1".toList), some (node "p2".toList))]),
    (⟨[], [], [⟨.prop, "value".toList, [], ["20".toList, "x".toList]⟩]⟩, []),
    (⟨[⟨.doc, "id".toList, "d2".toList, []⟩], [], []⟩, [(some (node "d2".toList), none, none)]),
    (⟨[], [⟨.sec, "id".toList, "s2".toList, []⟩], []⟩,
      [(some (node "d1".toList), some (node "s2".toList), none)]),
    (⟨[], [⟨.sec, "id".toList, "s1".toList, []⟩], [⟨.prop, "id".toList, "p2".toList, []⟩]⟩,
      [(some (node "d1".toList), some (node "s1".toList), some (node "p2".toList))]),
    (⟨[⟨.doc, "id".toList, "s1".toList, []⟩], [], []⟩, []),
    (⟨[⟨.doc, "repository".toList, "http://x.org/t.xml".toList, []⟩], [], []⟩,
      [(some (node "d1".toList), none, none)]),
    (⟨[], [⟨.sec, "repository".toList, "http://x.org/s.xml".toList, []⟩], []⟩,
      [(some (node "d1".toList), some (node "s1".toList), none)]),
    (⟨[], [⟨.sec, "repository".toList, "http://x.org/t.xml".toList, []⟩], []⟩, [])] :
      List (QParams × List Row)),
    queryRows (exportRdf ⟨false, []⟩ [dW, dW2]) qr.1 = .ok qr.2 := by decide +kernel

/-- Typed literals match by their text: the Document that carries the date is found (and not the
    other one); a date nobody carries finds nothing. -/
theorem typed_literal_query_matches :
    queryRows (exportRdf ⟨false, []⟩ [dW, dW2]) ⟨[⟨.doc, "date".toList, "2020-01-02".toList, []⟩], [], []⟩
      = .ok [(some (node "d1".toList), none, none)] ∧
    queryRows (exportRdf ⟨false, []⟩ [dW, dW2]) ⟨[], [], [⟨.prop, "uncertainty".toList, "0.5".toList, []⟩]⟩
      = .ok [(none, some (node "s1".toList), some (node "p1".toList))] ∧
    queryRows (exportRdf ⟨false, []⟩ [dW, dW2]) ⟨[⟨.doc, "date".toList, "2020-01-03".toList, []⟩], [], []⟩
      = .ok [] := by
  have h := witness_rows
  simp only [forall_mem_cons] at h
  obtain ⟨h1, h2, h3, -⟩ := h
  exact ⟨h1, h2, h3⟩

/-- Value queries find the Property that holds every searched value, whatever the datatype of the
    exported literal; a Property that lacks one of them is not found. -/
theorem value_query_matches :
    queryRows (exportRdf ⟨false, []⟩ [dW, dW2]) ⟨[], [], [⟨.prop, "value".toList, [], ["25".toList, "20".toList]⟩]⟩
      = .ok [(none, some (node "s1".toList), some (node "p1".toList))] ∧
    queryRows (exportRdf ⟨false, []⟩ [dW, dW2]) ⟨[], [], [⟨.prop, "value".toList, [], ["x".toList]⟩]⟩
      = .ok [(none, some (node "s1".toList), some (node "p2".toList))] ∧
    queryRows (exportRdf ⟨false, []⟩ [dW, dW2]) ⟨[], [], [⟨.prop, "value".toList, [], ["20".toList, "x".toList]⟩]⟩
      = .ok [] := by
  have h := witness_rows
  simp only [forall_mem_cons] at h
  obtain ⟨-, -, -, h1, h2, h3, -⟩ := h
  exact ⟨h1, h2, h3⟩

/-- A search by id finds the object with that id. -/
theorem id_query_matches :
    queryRows (exportRdf ⟨false, []⟩ [dW, dW2]) ⟨[⟨.doc, "id".toList, "d2".toList, []⟩], [], []⟩
      = .ok [(some (node "d2".toList), none, none)] ∧
    queryRows (exportRdf ⟨false, []⟩ [dW, dW2]) ⟨[], [⟨.sec, "id".toList, "s2".toList, []⟩], []⟩
      = .ok [(some (node "d1".toList), some (node "s2".toList), none)] ∧
    queryRows (exportRdf ⟨false, []⟩ [dW, dW2])
        ⟨[], [⟨.sec, "id".toList, "s1".toList, []⟩], [⟨.prop, "id".toList, "p2".toList, []⟩]⟩
      = .ok [(some (node "d1".toList), some (node "s1".toList), some (node "p2".toList))] ∧
    queryRows (exportRdf ⟨false, []⟩ [dW, dW2]) ⟨[⟨.doc, "id".toList, "s1".toList, []⟩], [], []⟩
      = .ok [] := by
  have h := witness_rows
  simp only [forall_mem_cons] at h
  obtain ⟨-, -, -, -, -, -, h1, h2, h3, h4, -⟩ := h
  exact ⟨h1, h2, h3, h4⟩

/-- A search by repository finds the objects whose own repository is that URL. -/
theorem repository_query_matches :
    queryRows (exportRdf ⟨false, []⟩ [dW, dW2]) ⟨[⟨.doc, "repository".toList, "http://x.org/t.xml".toList, []⟩], [], []⟩
      = .ok [(some (node "d1".toList), none, none)] ∧
    queryRows (exportRdf ⟨false, []⟩ [dW, dW2]) ⟨[], [⟨.sec, "repository".toList, "http://x.org/s.xml".toList, []⟩], []⟩
      = .ok [(some (node "d1".toList), some (node "s1".toList), none)] ∧
    queryRows (exportRdf ⟨false, []⟩ [dW, dW2]) ⟨[], [⟨.sec, "repository".toList, "http://x.org/t.xml".toList, []⟩], []⟩
      = .ok [] := by
  have h := witness_rows
  simp only [forall_mem_cons] at h
  obtain ⟨-, -, -, -, -, -, -, -, -, -, h1, h2, h3, -⟩ := h
  exact ⟨h1, h2, h3⟩

/-! ## The finder object: a search answers the call it is given

`Model/Finder.lean`: what a `FuzzyFinder` keeps between two calls (`graph`, `q_params`, `_subsets`)
and `find` statement by statement.  The parameters of a call are what the caller's dictionary says
when `find` is called (the harness hands the same dictionary object, changed in place, to the
library). -/

/-- **A search answers the call.**  Whatever the finder was used for before (`f` is any state: after
    other searches, other dictionaries, refused or failed calls), a call with a valid mode, a graph
    (passed now, or left out after an earlier call passed it) and parameters given one way reports
    what `findRows` reports for THIS graph and the pairs the parameters say NOW - nothing of an
    earlier question is left in the answer; and the finder keeps this graph. -/
theorem search_answers_the_call (f : Finder) (c : Call) (g : Graph) (pairs : List Pair)
    (hm : c.modeOk = true)
    (hg : c.graph = some g ∨ (c.graph = none ∧ f.graph = some g))
    (hp : (c.qStr = some pairs ∧ c.qParams = none) ∨ (c.qStr = none ∧ c.qParams = some pairs)) :
    (f.find c).2 = liftQ (findRows g pairs) ∧ (f.find c).1.graph = some g := by
  obtain ⟨m, cg, cs, cd⟩ := c
  obtain ⟨fg, fp, fs⟩ := f
  simp only at hm hg hp
  subst hm
  have hfr : findRows g pairs = findRows.go g (subsets pairs) := rfl
  rcases hg with rfl | ⟨rfl, rfl⟩ <;> rcases hp with ⟨rfl, rfl⟩ | ⟨rfl, rfl⟩ <;>
    simp [Finder.find, hfr]

/-- A call with a valid mode that passes a graph leaves that graph on the finder - also when it is
    refused afterwards for its parameters (`_validate_find_input_attributes` takes the graph first). -/
theorem graph_kept_by_any_call (f : Finder) (c : Call) (g : Graph) (hm : c.modeOk = true)
    (hg : c.graph = some g) : (f.find c).1.graph = some g := by
  obtain ⟨m, cg, cs, cd⟩ := c
  simp only at hm hg
  subst hm; subst hg
  cases cs <;> cases cd <;> simp [Finder.find]

/-- ... so a search that leaves the graph out is a search on the graph of the previous call. -/
theorem search_without_graph_uses_last_passed (f : Finder) (c : Call) (g : Graph) (pairs : List Pair)
    (hm : c.modeOk = true) (hg : c.graph = some g) :
    ((f.find c).1.find ⟨true, none, none, some pairs⟩).2 = liftQ (findRows g pairs) :=
  (search_answers_the_call _ _ g pairs rfl (Or.inr ⟨rfl, graph_kept_by_any_call f c g hm hg⟩)
    (Or.inr ⟨rfl, rfl⟩)).1

/-- **The reporting clause over histories**: after ANY history of calls on one finder (searches in
    either mode with any parameters, refused calls, calls whose queries could not be built), a
    match search - parameters as a string or as a dictionary - on the export of `ds` reports exactly
    the executed combinations of the pairs given now that have a hit, most specific first, each
    with exactly the rows of the objects that carry all its pairs (`match_search_reports_exact`);
    with `fuzzyPairs f` for `pairs` this is the fuzzy search (`fuzzy_search_reports_exact`). -/
theorem search_reports_exact_after_any_history (hist : List Call) (ds : List DocT) (pairs : List Pair)
    (viaString : Bool) (wf : WFDocs ds) (r : RdfRepr ds) (ro : RepoOK ds)
    (hp : ∀ x ∈ pairs, fullPair x.kind x) :
    ∃ out, ((({} : Finder).run hist).find
        ⟨true, some (exportRdf ⟨false, []⟩ ds), if viaString then some pairs else none,
         if viaString then none else some pairs⟩).2 = .ok out ∧
      out.map (·.1) =
        ((subsets pairs).filter fun c => !(directEval' ds (groupPairs c)).isEmpty).map groupPairs ∧
      ∀ blk ∈ out, ∀ row, row ∈ blk.2 ↔ row ∈ directEval' ds blk.1 := by
  obtain ⟨out, ho, h1, h2⟩ := match_search_reports_exact ds pairs wf r ro hp
  refine ⟨out, ?_, h1, h2⟩
  have h := (search_answers_the_call (({} : Finder).run hist)
    ⟨true, some (exportRdf ⟨false, []⟩ ds), if viaString then some pairs else none,
     if viaString then none else some pairs⟩ (exportRdf ⟨false, []⟩ ds) pairs rfl (Or.inl rfl)
    (by cases viaString <;> simp)).1
  rw [h, ho]; rfl

end C20
