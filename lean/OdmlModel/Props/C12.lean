/-
C12 — Resolving links and includes only adds copies; cleaning restores the document.

Property theorems; models: `Model/Link.lean` (link / include setters, `finalize`, `clean`,
`unmerge`, `__eq__`) on top of `Model/Merge.lean`; helper lemmas: `Proofs/Link.lean`,
`Proofs/Merge.lean`. The theorems are about one linking Section `l` and its target `t`, both
arbitrary trees (any size and depth), any value interpretation `cv`; in the property's regime
(linking Sections pairwise disjoint and disjoint from every target) `finalize` / `clean` act on
each linking Section separately (`Link.linkStep` reads the target, rewrites the linking Section
in place with `updAt`), which is what the correspondence run checks on whole documents.

Side conditions: `wfSec cv t` (unique sibling names in the target), `EqRefl cv` (`v == v`),
`noClash l t` (the property's "shared no child name"), `notMerged l` (the linking Section is in
the state of a built, loaded or cleaned Section: no `_merged`, nothing on record as filled in),
`r.record = true` (the merge is one that is recorded, as the setters' is).
-/
import OdmlModel.Proofs.Link

namespace C12
open Merge Link

variable {V : Type}

/-! ## 1. Resolving a link only adds copies -/

/-- The linking Section shares no child name with its target: resolving the link (a lenient
    merge) never raises, keeps every own child as it is and in place, and appends one copy of
    every child of the target, in the target's order. The target is an argument: unchanged.
    (`r.eff l.attrs`: the reference with the record flag in force at `l`; it only decides
    whether the copies carry a `_merged` mark, see `copy_is_faithful`.) -/
theorem link_adds_only (cv : Conv V) (r : Ref) (l t : Sec V) (hwf : wfSec cv t = true)
    (hnc : noClash l t = true) :
    (merge cv false r l t).2 = .ok ∧
    (merge cv false r l t).1.secs =
      l.secs ++ t.secs.map (fun o => cloneMerged ((r.eff l.attrs).child o.name) o) ∧
    (merge cv false r l t).1.props = l.props ++ t.props ∧
    (merge cv false r l t).1.name = l.name ∧ (merge cv false r l t).1.type = l.type ∧
    (merge cv false r l t).1.attrs.link = l.attrs.link ∧
    (merge cv false r l t).1.attrs.incl = l.attrs.incl := by
  rw [merge_noClash cv r l t hwf hnc]
  exact ⟨rfl, rfl, rfl, rfl, rfl, rfl, rfl⟩

/-- a copy differs from its original only in remembering where it came from (a copy made by a
    merge that is not recorded - on top of a resolved link - remembers nothing) -/
theorem copy_is_faithful (r : Ref) (o : Sec V) :
    (cloneMerged r o).props = o.props ∧ (cloneMerged r o).secs = o.secs ∧
    (r.record = true → (cloneMerged r o).attrs = { o.attrs with merged := some r }) ∧
    (r.record = false → (cloneMerged r o).attrs = { o.attrs with merged := none }) :=
  ⟨rfl, rfl, fun h => by simp [cloneMerged, Ref.pick, h], fun h => by simp [cloneMerged, Ref.pick, h]⟩

/-- The general case (own children may use names of the target; first sentence of the
    property only): whenever resolving succeeds, every child of the target whose name the
    linking Section does not use is found as a copy, and every own child for which the target
    has no child of the same name (and type) is unchanged and in place. -/
theorem link_adds_only_general (cv : Conv V) (r : Ref) (l t : Sec V) (hwf : wfSec cv t = true)
    (hok : (merge cv false r l t).2 = .ok) :
    (∀ o ∈ t.secs, secNameIn l.secs o.name = false →
      findSec (merge cv false r l t).1.secs o.name o.type =
        some (cloneMerged ((r.eff l.attrs).child o.name) o)) ∧
    (∀ p ∈ t.props, propNameIn l.props p.name = false →
      findProp (merge cv false r l t).1.props p.name = some p) ∧
    (∀ (i : Nat) (c : Sec V), l.secs[i]? = some c → (∀ o ∈ t.secs, ¬ (o.name = c.name ∧ o.type = c.type)) →
      (merge cv false r l t).1.secs[i]? = some c) ∧
    (∀ (i : Nat) (c : PropT V), l.props[i]? = some c → (∀ o ∈ t.props, o.name ≠ c.name) →
      (merge cv false r l t).1.props[i]? = some c) := by
  obtain ⟨-, hs, hp, he⟩ := merge_ok_shape cv false r l t hok
  rw [he]
  cases t with
  | mk ta tp ts =>
    obtain ⟨hnd, -, -, hnds⟩ := (wfSec_mk ..).1 hwf
    simp only [Sec.secs_mk, Sec.props_mk] at hs hp ⊢
    refine ⟨?_, ?_, mergeSecs_keeps cv false _ l.secs ts, mergeProps_keeps cv false l.props tp⟩
    · rw [mergeSecs_eq_run] at hs ⊢
      exact fun o ho hn => ((secLoop_lawful ..).run_result ts l.secs hnds hs o ho).2
        (findSec_none_of_name _ hn)
    · rw [mergeProps_eq_run] at hp ⊢
      exact fun p hp' hn => ((propLoop_lawful ..).run_result tp l.props hnd hp p hp').2
        ((findProp_none_iff _ _).2 hn)

/-! ## 2. Cleaning removes exactly the copies -/

/-- `unmerge` after resolving (no shared child name), for a linking Section in any state: all
    copies are gone, the own children are as before and in place, the Section is no longer
    merged and nothing is on record any more; link and include are kept; of definition and
    reference what is on record as filled in is taken back: what this merge filled in or an
    earlier merge left on record, or - a merge that is not recorded - only the latter. -/
theorem unmerge_restores (cv : Conv V) (heq : EqRefl cv) (r : Ref) (l t : Sec V)
    (hwf : wfSec cv t = true) (hnc : noClash l t = true) :
    unmerge cv (merge cv false r l t).1 t =
      .mk { l.attrs with
              definition := unfill (fillText l.attrs.definition t.attrs.definition)
                ((r.eff l.attrs).pick
                  (recFill l.attrs.definition t.attrs.definition l.attrs.filledDef) l.attrs.filledDef)
              reference := unfill (fillText l.attrs.reference t.attrs.reference)
                ((r.eff l.attrs).pick
                  (recFill l.attrs.reference t.attrs.reference l.attrs.filledRef) l.attrs.filledRef)
              filledDef := none, filledRef := none, merged := none } l.props l.secs := by
  rw [merge_noClash cv r l t hwf hnc]
  have hnc' := (noClash_iff l t).1 hnc
  cases t with
  | mk ta tp ts =>
    obtain ⟨hnd, -, hwfs, hnds⟩ := (wfSec_mk ..).1 hwf
    simp only [Sec.secs_mk, Sec.props_mk, Sec.attrs_mk] at hnc' ⊢
    unfold unmerge
    simp only [Sec.attrs_mk, Sec.props_mk, Sec.secs_mk]
    rw [unmergeSecs_clones cv heq (r.eff l.attrs) ts l.secs hwfs hnds hnc'.1,
        unmergeProps_copies cv heq tp l.props hnd hnc'.2]

/-- The full-strength restoration law for one linking Section: `l` is any Section that is not
    merged (as built, loaded or cleaned), `t` any target it shares no child name with; the merge
    is one that is recorded (`r.record`: the setters resolve with `_merge(target, False, True)`). -/
def Restores (cv : Conv V) : Prop :=
  ∀ (r : Ref) (l t : Sec V), r.record = true → wfSec cv t = true → noClash l t = true →
    notMerged l = true → unmerge cv (merge cv false r l t).1 t = l

/-- Also with shared child names and in strict mode: whenever a merge succeeds, `unmerge` gives
    the linking Section its own attributes back (name, type, definition, reference, link,
    include); only for the children the restoration law needs `noClash`. -/
theorem clean_restores_attrs_general (cv : Conv V) (k : Bool) (r : Ref) (l t : Sec V)
    (hr : r.record = true)
    (hok : (merge cv k r l t).2 = .ok) (hm : notMerged l = true) :
    (unmerge cv (merge cv k r l t).1 t).attrs = l.attrs := by
  have hsh := merge_ok_shape cv k r l t hok
  rw [hsh.2.2.2]
  obtain ⟨h1, h2, h3⟩ := (notMerged_iff l).1 hm
  have he := Ref.eff_record_on r l.attrs hr (resolved_of_not_merged _ h1)
  cases t with
  | mk ta tp ts =>
    unfold unmerge
    simp only [Sec.attrs_mk, Ref.pick_on _ he, h2, h3, unfill_fill]
    cases l with
    | mk a ps ss =>
      simp only [Sec.attrs_mk] at h1 h2 h3 ⊢
      cases a; simp_all

/-- **Clean after finalize restores the linking Section exactly** — whatever definition and
    reference the linking Section and the target have: an unset one is filled in by the merge
    and taken back by `unmerge`, a set one is kept also when it equals the target's. (Without
    the record in `_merged_attrs` this holds only where nothing is filled, `Link.noFill`: finding
    `C12/definition-reference-filled-not-restored`.) -/
theorem clean_after_link (cv : Conv V) (heq : EqRefl cv) (r : Ref) (l t : Sec V)
    (hr : r.record = true)
    (hwf : wfSec cv t = true) (hnc : noClash l t = true) (hm : notMerged l = true) :
    unmerge cv (merge cv false r l t).1 t = l := by
  have ha := clean_restores_attrs_general cv false r l t hr (link_adds_only cv r l t hwf hnc).1 hm
  rw [unmerge_restores cv heq r l t hwf hnc] at ha ⊢
  rw [Sec.attrs_mk] at ha
  rw [ha, Sec.eta]

/-- The restoration law holds of the code, for every value interpretation with `v == v`. -/
theorem clean_finalize_restores (cv : Conv V) (heq : EqRefl cv) : Restores cv :=
  fun r l t hr hwf hnc hm => clean_after_link cv heq r l t hr hwf hnc hm

/-- witness of that finding: the target has a definition, the linking Section has none -/
def wLinker : Sec Val :=
  .mk { name := ['l'], type := ['t'], definition := none, reference := none,
        link := some ['/', 'x'], incl := none, merged := none } [] []
def wTarget : Sec Val :=
  .mk { name := ['x'], type := ['t'], definition := some ['D'], reference := none,
        link := none, incl := none, merged := none } [] []

/-- On the witness: while resolved the linking Section shows the
    target's definition (and has it on record), after `unmerge` it is the Section it was. -/
theorem filled_definition_taken_back :
    (merge convC false { url := none, path := [['x']] } wLinker wTarget).1.attrs.definition
      = some ['D'] ∧
    (merge convC false { url := none, path := [['x']] } wLinker wTarget).1.attrs.filledDef
      = some ['D'] ∧
    unmerge convC (merge convC false { url := none, path := [['x']] } wLinker wTarget).1 wTarget
      = wLinker :=
  ⟨by decide +kernel, by decide +kernel,
   clean_after_link convC eqRefl_convC _ wLinker wTarget rfl (by decide +kernel) (by decide +kernel) (by decide +kernel)⟩

/-- An edit between finalize and clean is not destroyed: a definition / reference that is no
    longer the one `merge` filled in is kept by `unmerge` (any Section `m`, any target). -/
theorem clean_keeps_user_edit (cv : Conv V) (m t : Sec V) :
    (∀ v, m.attrs.filledDef = some v → m.attrs.definition ≠ some v →
      (unmerge cv m t).attrs.definition = m.attrs.definition) ∧
    (∀ v, m.attrs.filledRef = some v → m.attrs.reference ≠ some v →
      (unmerge cv m t).attrs.reference = m.attrs.reference) ∧
    (m.attrs.filledDef = none → (unmerge cv m t).attrs.definition = m.attrs.definition) ∧
    (m.attrs.filledRef = none → (unmerge cv m t).attrs.reference = m.attrs.reference) := by
  cases t with
  | mk ta tp ts =>
    unfold unmerge
    simp only [Sec.attrs_mk]
    refine ⟨?_, ?_, ?_, ?_⟩
    · intro v hv hne; rw [hv]; simp [unfill, hne]
    · intro v hv hne; rw [hv]; simp [unfill, hne]
    · intro hv; rw [hv]; rfl
    · intro hv; rw [hv]; rfl

/-- `unmerge` re-establishes the state the restoration law starts from. -/
theorem unmerge_notMerged (cv : Conv V) (m t : Sec V) : notMerged (unmerge cv m t) = true := by
  cases t with
  | mk ta tp ts => unfold unmerge; rfl

/-- Repeated cycles: from any state of the linking Section (merged or not, whatever is on
    record), after one finalize / clean cycle every further cycle restores it exactly. -/
theorem cycle_stable (cv : Conv V) (heq : EqRefl cv) (r : Ref) (l t : Sec V)
    (hr : r.record = true)
    (hwf : wfSec cv t = true) (hnc : noClash l t = true) :
    let l1 := unmerge cv (merge cv false r l t).1 t
    unmerge cv (merge cv false r l1 t).1 t = l1 := by
  simp only
  apply clean_after_link cv heq r _ t hr hwf
  · rw [unmerge_restores cv heq r l t hwf hnc]
    rw [noClash_iff] at hnc ⊢; exact hnc
  · exact unmerge_notMerged cv _ t

/-! ## 3. `Section.clean()` on a resolved linking Section -/

theorem cleanSec_noLinks (cv : Conv V) (deref : Ref → Option (Sec V)) :
    ∀ (n : Nat) (s : Sec V), noLinks s = true → cleanSec cv deref n s = s := by
  intro n
  induction n with
  | zero => intro s _; rfl
  | succ n ih =>
    intro s hs
    cases s with
    | mk a ps ss =>
      rw [noLinks] at hs
      simp only [Bool.and_eq_true, Option.isNone_iff_eq_none] at hs
      unfold cleanSec
      simp only [Sec.attrs_mk, hs.1.2, Sec.props_mk, Sec.secs_mk]
      rw [map_noLinksList _ ih ss hs.2]

/-- `Section.clean()` of a resolved linking Section whose own children carry no links: the
    `_merged` object is looked up, `unmerge` removes the copies, and cleaning the remaining
    (own) children changes nothing. -/
theorem clean_sec_restores (cv : Conv V) (heq : EqRefl cv) (deref : Ref → Option (Sec V))
    (n : Nat) (r : Ref) (l t : Sec V) (hr : r.record = true)
    (hwf : wfSec cv t = true) (hnc : noClash l t = true)
    (hm : notMerged l = true) (hown : noLinksList l.secs = true)
    (hd : deref r = some t) :
    cleanSec cv deref (n + 1) (merge cv false r l t).1 = l := by
  have hmg : (merge cv false r l t).1.attrs.merged = some r := by
    rw [merge_noClash cv r l t hwf hnc]
    exact Ref.pick_on _ (Ref.eff_record_on r l.attrs hr
      (resolved_of_not_merged _ ((notMerged_iff l).1 hm).1)) _ _
  unfold cleanSec
  simp only [hmg, hd]
  rw [clean_after_link cv heq r l t hr hwf hnc hm,
    map_noLinksList _ (cleanSec_noLinks cv deref n) l.secs hown]
  exact Sec.eta l

/-! ## 4. Whole documents: one step of `finalize` and the loop -/

/-- `finalize` skips a Section that has neither link nor include. -/
theorem finalize_step_not_linker (cv : Conv V) (fetch : Str → Option (Doc V)) (doc : Doc V)
    (p : List Str) (l : Sec V) (hl : secAt doc p = some l) (h1 : l.attrs.link = none)
    (h2 : l.attrs.incl = none) : linkStep cv fetch doc p = (doc, .ok) := by
  unfold linkStep
  simp only [hl, h1, h2]

/-- At a linking Section, at any depth: the Section is replaced in place by the lenient merge
    of itself with the Section its stored path designates (sections 1-3 say what that is). -/
theorem finalize_step_at_linker (cv : Conv V) (fetch : Str → Option (Doc V)) (doc : Doc V)
    (p : List Str) (l t : Sec V) (txt : Str) (hl : secAt doc p = some l)
    (hk : l.attrs.link = some txt) (ht : secAt doc (parsePath txt) = some t) :
    let l1 := cleanSec cv (deref fetch doc) (height l + 1) l
    let r := merge cv false { url := none, path := parsePath txt } l1 t
    (linkStep cv fetch doc p).2 = r.2 ∧ secAt (linkStep cv fetch doc p).1 p = some r.1 := by
  simp only
  unfold linkStep
  simp only [hl, hk, ht]
  exact ⟨trivial, secAt_updAt_same _ p doc l hl (merge_cleanSec_name ..)⟩

/-- One step changes neither the referenced Section nor any other part of the document: every
    Section at a position disjoint from the linking Section's is untouched, whatever the
    outcome of the step. -/
theorem finalize_step_frame (cv : Conv V) (fetch : Str → Option (Doc V)) (doc : Doc V)
    (p q : List Str) (hp : p ≠ []) (hq : q ≠ []) (hd : diverge p q = true) :
    secAt (linkStep cv fetch doc p).1 q = secAt doc q := by
  rcases linkStep_shape cv fetch doc p with h | ⟨l, x, hl, hx, h⟩
  · rw [h]
  · rw [h]
    exact secAt_updAt_diverge _ p q doc
      (fun s hs => Option.some.inj (hl.symm.trans hs) ▸ hx) hp hq hd

/-- The loop over any list of positions (e.g. the linking Sections of the document): a Section
    disjoint from all of them is untouched, whatever the outcome. -/
theorem finalize_loop_frame (cv : Conv V) (fetch : Str → Option (Doc V)) (ps : List (List Str))
    (doc : Doc V) (q : List Str) (hq : q ≠ []) (h : ∀ p ∈ ps, p ≠ [] ∧ diverge p q = true) :
    secAt (linkSteps cv fetch doc ps).1 q = secAt doc q := by
  induction ps generalizing doc with
  | nil => rfl
  | cons p ps ih =>
    have hp := h p (List.mem_cons_self ..)
    have hstep := finalize_step_frame cv fetch doc p q hp.1 hq hp.2
    unfold linkSteps
    split
    · rename_i doc' e he
      rw [he] at hstep; exact hstep
    · rename_i doc' he
      rw [he] at hstep
      rw [ih doc' (fun p' hp' => h p' (List.mem_cons_of_mem _ hp')), hstep]

/-! ## 5. The text of an include: `URL#path` -/

/-- "include (URL#path of another file)": the include text written from a URL (which holds no
    `#`: it would start the fragment) and a position by names designates exactly that URL and
    that position — whatever characters but `/` the names hold, a `#` included (`shank #1`):
    the text is split at the FIRST `#` only. -/
theorem include_text_designates (u : Str) (ns : List Str)
    (hu : ∀ c ∈ u, (c == '#') = false) (hns : ∀ n ∈ ns, ∀ c ∈ n, (c == '/') = false) :
    parseInclude (u ++ '#' :: absPath ns) = (u, some ns) := by
  unfold parseInclude
  rw [splitFirst_append_sep '#' u (absPath ns) hu]
  simp only [Option.map_some]
  rw [parsePath_absPath ns hns]

/-- An include without `#` names the whole file (its first Section). -/
theorem include_text_without_path (u : Str) (hu : ∀ c ∈ u, (c == '#') = false) :
    parseInclude u = (u, none) := by
  unfold parseInclude
  rw [splitFirst_no_sep '#' u hu]
  rfl

/-- The include variant of `finalize_step_at_linker`: at a Section (any depth) whose include is
    `URL#path`, the Section is replaced in place by the lenient merge of itself with the
    Section at that position of the document served for the URL — also when a name on the way
    holds a `#`. -/
theorem finalize_step_at_include (cv : Conv V) (fetch : Str → Option (Doc V)) (doc : Doc V)
    (p : List Str) (l t : Sec V) (u : Str) (ns : List Str) (term : Doc V)
    (hl : secAt doc p = some l) (h1 : l.attrs.link = none)
    (hk : l.attrs.incl = some (u ++ '#' :: absPath ns))
    (hu : ∀ c ∈ u, (c == '#') = false) (hns : ∀ n ∈ ns, ∀ c ∈ n, (c == '/') = false)
    (hf : fetch u = some term) (ht : secAt term ns = some t) :
    let l1 := cleanSec cv (deref fetch doc) (height l + 1) l
    let r := merge cv false { url := some u, path := ns } l1 t
    (linkStep cv fetch doc p).2 = r.2 ∧ secAt (linkStep cv fetch doc p).1 p = some r.1 :=
  linkStep_at_include cv fetch doc p l t _ u ns term hl h1 hk
    (include_text_designates u ns hu hns) hf ht

/-- `f#/p/s #1` is the Section `s #1` below `p` of the file `f`, not `/p/s ` and not `1`. -/
example : parseInclude "f#/p/s #1".toList = ("f".toList, some ["p".toList, "s #1".toList]) := by
  decide +kernel

/-! ## Hypotheses are satisfiable -/

def attrs0 (n t : Str) : SecAttrs :=
  { name := n, type := t, definition := none, reference := none, link := none, incl := none,
    merged := none }
def pA : PropT Val := {
  name := ['a'], dtype := some .int, values := [.int 1, .int 2],
  unit := some ['m', 'V'], uncertainty := none, definition := none, reference := none, origin := none }
def pB : PropT Val := {
  name := ['b'], dtype := some .float, values := [.flt 2, .flt 7],
  unit := none, uncertainty := some 1, definition := some ['D'], reference := none, origin := none }
def eTarget : Sec Val :=
  .mk { name := ['t'], type := ['u'], definition := none, reference := none, link := none,
        incl := none, merged := none } [pA]
      [.mk (attrs0 ['c'] ['u']) [pB] [.mk (attrs0 ['g'] ['u']) [] []]]
def eLinker : Sec Val :=
  .mk { name := ['l'], type := ['u'], definition := some ['o', 'w', 'n'], reference := none,
        link := some ['/', 't'], incl := none, merged := none }
      [{ pA with name := ['o', '1'] }] [.mk (attrs0 ['o', '2'] ['u']) [] []]

example : wfSec convC eTarget = true ∧ noClash eLinker eTarget = true ∧
    notMerged eLinker = true ∧ noLinksList eLinker.secs = true ∧
    (merge convC false default eLinker eTarget).1.secs.length = 2 := by decide +kernel
example : EqRefl convC := eqRefl_convC

end C12
