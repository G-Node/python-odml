/-
C09 — Cardinalities: normal form, exact violation reports, never enforced, persisted.

Helper lemmas are in `Proofs/Card.lean`, `Proofs/Str.lean`.
Model: `Model/Card.lean` (the values), `Model/CardObj.lean` (the stored Python objects: exact int vs
bool); tied to /repo by `harness/c09.py`.
-/
import OdmlModel.Proofs.Card
import OdmlModel.Generated.FormatTables

namespace C09
open Card Py

/-- What the setters can leave in a cardinality slot: `Normal` (the property's normal form)
    plus the two extra facts the implementation maintains: a maximum is never 0, and a
    minimum of 0 never stands alone (`(0, None)` resets). -/
def Stored (c : Card) : Prop :=
  Normal c ∧ Strong c ∧ (∀ p, c = some p → p.1 = some 0 → p.2 ≠ none)

theorem Stored.unset : Stored none := by simp [Stored, Normal, Strong]

theorem Stored.max {y : Int} (hy : 0 < y) : Stored (some (none, some y)) := by
  simp [Stored, Normal, Strong]; omega

theorem Stored.min {x : Int} (hx : 0 < x) : Stored (some (some x, none)) := by
  simp [Stored, Normal, Strong]; omega

theorem Stored.both {x y : Int} (hx : 0 ≤ x) (hxy : x ≤ y) (hy : 0 < y) :
    Stored (some (some x, some y)) := by
  simp [Stored, Normal, Strong]; omega

/-- The four shapes of a stored cardinality. -/
theorem Stored.shapes {P : Card → Prop} (unset : P none)
    (max : ∀ y, 0 < y → P (some (none, some y)))
    (min : ∀ x, 0 < x → P (some (some x, none)))
    (both : ∀ x y, 0 ≤ x → x ≤ y → 0 < y → P (some (some x, some y))) :
    ∀ c, Stored c → P c
  | none, _ => unset
  | some (none, none), h => absurd ⟨rfl, rfl⟩ h.1.2.2.2
  | some (none, some y), h => max y (h.2.1 y rfl)
  | some (some x, none), h =>
    have := h.1.1 x rfl
    have : x ≠ 0 := fun h0 => h.2.2 _ rfl (h0 ▸ rfl) rfl
    min x (by omega)
  | some (some x, some y), h => both x y (h.1.1 x rfl) (h.1.2.2.1 x y rfl rfl) (h.2.1 y rfl)

/-- Whatever value is assigned, an accepted assignment stores a normal-form cardinality. -/
theorem fmt_normal (v : In) (c : Card) (h : formatCard v = .ok c) : Stored c := by
  induction v using In.pair_cases with
  | pair t a b =>
    rw [formatCard_pair] at h
    by_cases hne : (!a.truthy) = true ∧ (!b.truthy) = true
    · rw [if_pos (Bool.and_eq_true _ _ ▸ hne)] at h
      cases h
      exact .unset
    · rw [if_neg (Bool.and_eq_true _ _ ▸ hne)] at h
      cases hx : nonnegInt a <;> cases hy : nonnegInt b <;> simp only [hx, hy] at h
      · cases h
      · rename_i y
        split at h <;> cases h
        have : y ≠ 0 := fun h0 => hne ⟨‹_›, (nonneg_falsy hy).2.mpr h0⟩
        exact .max (by have := (nonneg_falsy hy).1; omega)
      · rename_i x
        split at h <;> cases h
        have : x ≠ 0 := fun h0 => hne ⟨(nonneg_falsy hx).2.mpr h0, ‹_›⟩
        exact .min (by have := (nonneg_falsy hx).1; omega)
      · rename_i x y
        obtain ⟨hx0, hxt⟩ := nonneg_falsy hx
        obtain ⟨hy0, hyt⟩ := nonneg_falsy hy
        simp only [hxt, hyt] at hne h
        by_cases hxy : y ≥ x
        · rw [if_pos hxy] at h; cases h
          exact .both hx0 hxy (by omega)
        · rw [if_neg hxy] at h
          (repeat' split at h) <;> cases h
          · exact .max (by omega)
          · exact .min (by omega)
  | other v hv =>
    rw [formatCard_other v hv] at h
    split at h
    · cases h; exact .unset
    · cases hi : v.asInt <;> simp only [hi] at h
      · cases h
      · split at h <;> cases h
        exact .max ‹_›

/-- A refused assignment raises `ValueError` and keeps the previous setting. -/
theorem set_refused_keeps (old : Card) (v : In) (h : formatCard v = .valueError) :
    setCard old v = (old, false) := by
  simp [setCard, h]

/-- An accepted assignment stores exactly what `format_cardinality` returned. -/
theorem set_accepted (old : Card) (v : In) (c : Card) (h : formatCard v = .ok c) :
    setCard old v = (c, true) := by
  simp [setCard, h]

theorem setCard_stored (c : Card) (v : In) (hc : Stored c) : Stored (setCard c v).1 := by
  unfold setCard
  split
  · exact fmt_normal v _ ‹_›
  · exact hc

theorem foldl_invariant {α β : Type} (P : β → Prop) (f : β → α → β)
    (step : ∀ b a, P b → P (f b a)) (l : List α) (b : β) (h : P b) : P (l.foldl f b) :=
  List.foldlRecOn l f h fun b hb a _ => step b a hb

/-- The slot of an object is in normal form after **any** sequence of assignments,
    accepted or refused, starting from unset. -/
theorem slot_always_stored (vs : List In) :
    Stored (vs.foldl (fun c v => (setCard c v).1) none) :=
  foldl_invariant Stored _ setCard_stored vs none .unset

/-- The documented domain of a cardinality assignment. -/
def Acceptable : In → Prop
  | .seq _ [a, b] =>
      (a.truthy = false ∧ b.truthy = false) ∨
      (∃ x y, nonnegInt a = some x ∧ nonnegInt b = some y ∧ x ≤ y) ∨
      (a.truthy = false ∧ ∃ y, nonnegInt b = some y) ∨
      (b.truthy = false ∧ ∃ x, nonnegInt a = some x)
  | v => v.truthy = false ∨ ∃ i, v.asInt = some i ∧ 0 < i

/-- Any assignment outside the documented domain raises `ValueError`, any inside is accepted. -/
theorem fmt_domain (v : In) : (∃ c, formatCard v = .ok c) ↔ Acceptable v := by
  -- "is accepted", pushed to the leaves of the branching, leaves a propositional goal
  have push := @apply_ite _ _ (fun r : Res => ∃ c, r = .ok c)
  induction v using In.pair_cases with
  | pair t a b =>
    rw [formatCard_pair]
    simp only [Acceptable]
    cases hx : nonnegInt a <;> cases hy : nonnegInt b <;>
      simp only [push, Res.ok.injEq, exists_eq', reduceCtorEq, exists_false]
    · cases a.truthy <;> cases b.truthy <;> simp
    · cases a.truthy <;> cases b.truthy <;> simp
    · cases a.truthy <;> cases b.truthy <;> simp
    · simp [(nonneg_truthy hx).2, (nonneg_truthy hy).2]
      have := (nonneg_truthy hx).1
      have := (nonneg_truthy hy).1
      omega
  | other v hv =>
    rw [formatCard_other v hv]
    have hA : Acceptable v ↔ (v.truthy = false ∨ ∃ i, v.asInt = some i ∧ 0 < i) := by
      unfold Acceptable
      split
      · exact absurd rfl (hv _ _ _)
      · rfl
    rw [hA]
    cases v.asInt <;>
      simp only [push, Res.ok.injEq, exists_eq', reduceCtorEq, exists_false] <;>
      cases v.truthy <;> simp

/-- A tuple or list of any length other than 2 (and not empty) is refused whatever it holds -
    in particular `(None,)`, `(0,)`, `[None, None, None]`, whose items are all falsy - and the
    previous setting is kept.  (Seeded change C09-M merged the "no bound" edge case of pairs into
    the emptiness test and accepted exactly these.) -/
theorem wrong_length_refused (t : Bool) (xs : List In) (old : Card) (hne : xs ≠ [])
    (hlen : xs.length ≠ 2) :
    formatCard (.seq t xs) = .valueError ∧ setCard old (.seq t xs) = (old, false) := by
  have h : formatCard (.seq t xs) = .valueError := by
    rw [formatCard_other _ (fun t a b e => hlen (by cases e; rfl))]
    cases xs with
    | nil => exact absurd rfl hne
    | cons a as => rfl
  exact ⟨h, set_refused_keeps old _ h⟩

example : formatCard (.seq true [.nul]) = .valueError := (wrong_length_refused true [.nul] none (by simp) (by simp)).1
example : formatCard (.seq false [.int 0, .int 0, .int 0]) = .valueError := by decide

/-- A single positive integer sets the maximum. -/
theorem fmt_single (i : Int) (h : 0 < i) : formatCard (.int i) = .ok (some (none, some i)) := by
  have : (i != 0) = true := by simp; omega
  simp [formatCard, In.truthy, In.asInt, this, h]

/-- An ordered pair of non-negative integers (not both 0) is stored as given. -/
theorem fmt_pair (t : Bool) (x y : Int) (hx : 0 ≤ x) (hxy : x ≤ y) (hy : 0 < y) :
    formatCard (.seq t [.int x, .int y]) = .ok (some (some x, some y)) := by
  have h1 : (y != 0) = true := by simp; omega
  have h2 : 0 ≤ y := by omega
  simp [formatCard, In.truthy, nonnegInt, In.asInt, hx, h1, h2, hxy]

/-! ## A warning exactly when the child count lies outside [min, max] -/

theorem report_iff_outside (c : Card) (hc : Stored c) (n : Nat) :
    (cardIssue c n).isSome ↔ Outside c n := by
  revert c
  apply Stored.shapes
  · simp [cardIssue, Outside]
  · intro y hy
    have : (y != 0) = true := by simp; omega
    simp [cardIssue, Outside, this]
  · intro x hx
    have : (x != 0) = true := by simp; omega
    simp [cardIssue, Outside, this]
  · intro x y hx hxy hy
    have : (y != 0) = true := by simp; omega
    simp only [cardIssue, Outside, this, Bool.true_and]
    split <;> simp_all <;> omega

/-- The reported cause names the violated bound. -/
theorem report_cause (c : Card) (n : Nat) (k : Cause) (h : cardIssue c n = some k) :
    (∃ m mx, c = some (some m, mx) ∧ k = .minimum m ∧ (n : Int) < m) ∨
    (∃ mn m, c = some (mn, some m) ∧ k = .maximum m ∧ (n : Int) > m) := by
  unfold cardIssue at h
  (repeat' split at h) <;> cases h <;> rename_i hc <;>
    simp only [Bool.and_eq_true, decide_eq_true_eq] at hc
  · exact Or.inl ⟨_, _, rfl, rfl, hc.2⟩
  · exact Or.inr ⟨_, _, rfl, rfl, hc.2⟩
  · exact Or.inr ⟨_, _, rfl, rfl, hc.2⟩

/-- One object with a cardinality slot and a child count. -/
structure Obj where
  card : Card
  count : Nat
  deriving Repr

inductive Op where
  | set (v : In)
  | add
  | remove
  deriving Repr

/-- `append`/`remove` of children (values, properties, sections) succeed whatever the
    cardinality says; `remove` needs a child to remove. Returns whether the op was accepted. -/
def step (o : Obj) : Op → Obj × Bool
  | .set v => let r := setCard o.card v; ({ o with card := r.1 }, r.2)
  | .add => ({ o with count := o.count + 1 }, true)
  | .remove => if o.count = 0 then (o, false) else ({ o with count := o.count - 1 }, true)

theorem never_enforced_add (o : Obj) : (step o .add) = ({ o with count := o.count + 1 }, true) := rfl

theorem never_enforced_remove (o : Obj) (h : 0 < o.count) :
    (step o .remove) = ({ o with count := o.count - 1 }, true) := by
  simp [step]; omega

/-- After any editing history the slot is in normal form and the warning is exact
    for the current child count. -/
theorem history_exact (ops : List Op) (n0 : Nat) :
    let o := ops.foldl (fun o op => (step o op).1) { card := none, count := n0 }
    Stored o.card ∧ ((cardIssue o.card o.count).isSome ↔ Outside o.card o.count) := by
  intro o
  have hs : Stored o.card := by
    refine foldl_invariant (fun o : Obj => Stored o.card) _ (fun o op h => ?_) ops _ .unset
    cases op with
    | set v => exact setCard_stored o.card v h
    | add => exact h
    | remove => simp only [step]; split <;> exact h
  exact ⟨hs, report_iff_outside _ hs _⟩

/-- The tuple handed to the constructor by a reader. -/
def asIn : Card → In
  | none => .nul
  | some (a, b) => .seq true [match a with | none => .nul | some i => .int i,
                              match b with | none => .nul | some i => .int i]

/-- Re-assigning a stored cardinality to a fresh object gives the same cardinality
    (readers pass what they parsed to the constructor, which formats it again). -/
theorem stored_fixpoint (c : Card) (h : Stored c) : formatCard (asIn c) = .ok c := by
  revert c
  apply Stored.shapes
  · rfl
  · intro y hy
    have : (y != 0) = true := by simp; omega
    simp [asIn, formatCard, In.truthy, nonnegInt, In.asInt, this, Int.le_of_lt hy]
  · intro x hx
    have : (x != 0) = true := by simp; omega
    simp [asIn, formatCard, In.truthy, nonnegInt, In.asInt, this, Int.le_of_lt hx]
  · intro x y hx hxy hy
    have : (y != 0) = true := by simp; omega
    simp [asIn, formatCard, In.truthy, nonnegInt, In.asInt, this, hx, hxy, Int.le_trans hx hxy]

/-- XML: `parse_cardinality(str(card)) = card` for every stored cardinality, all integer sizes. -/
theorem persist_text (p : Option Int × Option Int) (h : Stored (some p)) :
    parseCardText (renderCardText p) = some p := by
  obtain ⟨a, b⟩ := p
  obtain ⟨hn, hs, hz⟩ := h
  simp only [Normal] at hn
  obtain ⟨ha, hb, hab, hnn⟩ := hn
  have hta := renderBound_boundText a ha
  have htb := renderBound_boundText b hb
  unfold parseCardText renderCardText
  have hne : (['('] ++ renderBound a ++ [',', ' '] ++ renderBound b ++ [')']).isEmpty = false := by
    simp
  rw [hne]
  simp only [Bool.false_eq_true, ↓reduceIte]
  rw [strip_slice_render, split_inner hta htb]
  simp only [hta.strip, htb.strip_space_cons]
  cases a with
  | none =>
    cases b with
    | none => simp at hnn
    | some y =>
      have hy := hb y rfl
      obtain ⟨n, rfl⟩ := Int.eq_ofNat_of_zero_le hy
      simp [renderBound, intToStr, none_not_digitStr', isDigitStr_natToDigits,
        natOfDigits_natToDigits]
  | some x =>
    have hx := ha x rfl
    obtain ⟨m, rfl⟩ := Int.eq_ofNat_of_zero_le hx
    cases b with
    | none =>
      simp [renderBound, intToStr, none_not_digitStr', isDigitStr_natToDigits,
        natOfDigits_natToDigits]
    | some y =>
      have hy := hb y rfl
      obtain ⟨n, rfl⟩ := Int.eq_ofNat_of_zero_le hy
      have := hab m n rfl rfl
      have hmn : m ≤ n := by omega
      simp [renderBound, intToStr, isDigitStr_natToDigits, natOfDigits_natToDigits, hmn]

/-- JSON/YAML: the list `[min, max]` (with `null` for None) parses back to the cardinality. -/
theorem persist_list (p : Option Int × Option Int) (h : Stored (some p)) :
    parseCardList (dinOfBound p.1) (dinOfBound p.2) = some p := by
  suffices ∀ c, Stored c → ∀ p, c = some p →
      parseCardList (dinOfBound p.1) (dinOfBound p.2) = some p from this _ h p rfl
  apply Stored.shapes
  · nofun
  · rintro y hy _ ⟨⟩
    simp [parseCardList, dinOfBound, DIn.isNoneLike, DIn.nonnegInt, DIn.truthy, Int.le_of_lt hy]
  · rintro x hx _ ⟨⟩
    simp [parseCardList, dinOfBound, DIn.isNoneLike, DIn.nonnegInt, DIn.truthy, Int.le_of_lt hx]
  · rintro x y hx hxy hy _ ⟨⟩
    simp [parseCardList, dinOfBound, DIn.isNoneLike, DIn.nonnegInt, hx, hxy, Int.le_trans hx hxy]

/-- Save then load (either form) then construct: the same cardinality, for every value
    that any assignment history can have produced. -/
theorem persist_end_to_end (v : In) (p : Option Int × Option Int)
    (h : formatCard v = .ok (some p)) :
    formatCard (asIn (parseCardText (renderCardText p))) = .ok (some p) ∧
    formatCard (asIn (parseCardList (dinOfBound p.1) (dinOfBound p.2))) = .ok (some p) := by
  have hs := fmt_normal v _ h
  rw [persist_text p hs, persist_list p hs]
  exact ⟨stored_fixpoint _ hs, stored_fixpoint _ hs⟩

/-- The three cardinality attributes are part of the file format tables of the current source
    (regenerated from /repo/odml/format.py on every run), so every writer emits them and every
    reader accepts them. -/
theorem card_keys_in_format :
    ("val_cardinality", 0) ∈ Gen.Format.propertyArgs ∧
    ("sec_cardinality", 0) ∈ Gen.Format.sectionArgs ∧
    ("prop_cardinality", 0) ∈ Gen.Format.sectionArgs ∧
    Gen.Format.propertyMap.lookup "val_cardinality" = none ∧
    Gen.Format.sectionMap.lookup "sec_cardinality" = none ∧
    Gen.Format.sectionMap.lookup "prop_cardinality" = none := by decide +kernel

/-! ## The stored objects: exact ints, also for bool bounds (`Model/CardObj.lean`) -/

/-- The stored objects and the stored values are the same cardinality: whatever the `return`
    statements do with an accepted bound, as long as it keeps its value (`int(x)` does, and so did
    handing `x` back), `format_cardinality` accepts / refuses the same settings and stores the same
    (min, max) values. Every theorem above about `formatCard` therefore speaks about the objects
    `formatCardObj pyInt` stores. -/
theorem fmt_obj_view (conv : In → PyBound) (hc : KeepsValue conv) (v : In) :
    (formatCardObj conv v).view = formatCard v := by
  have hn : PyBound.nul.val = none := rfl
  -- both functions branch alike: the view is pushed to the leaves
  induction v using In.pair_cases with
  | pair t a b =>
    have key : ∀ w : In,
        nonnegInt w = none ∨ ∃ x, nonnegInt w = some x ∧ (conv w).val = some x := by
      intro w
      cases h : nonnegInt w
      · exact Or.inl rfl
      · exact Or.inr ⟨_, rfl, hc w _ (nonneg_asInt h)⟩
    rw [formatCardObj_pair, formatCard_pair]
    rcases key a with hx | ⟨x, hx, hax⟩ <;> rcases key b with hy | ⟨y, hy, hby⟩ <;>
      simp only [hx, hy, apply_ite ObjRes.view] <;> simp only [ObjRes.view, ObjCard.view, *]
  | other v hv =>
    rw [formatCardObj_other conv v hv, formatCard_other v hv]
    cases hi : v.asInt with
    | none => simp only [apply_ite ObjRes.view]; rfl
    | some i =>
      simp only [apply_ite ObjRes.view]
      simp only [ObjRes.view, ObjCard.view, hc v i hi, hn]

/-- The same for the three setters (accepted: the new object, refused: the old one kept). -/
theorem set_obj_view (conv : In → PyBound) (hc : KeepsValue conv) (old : ObjCard) (v : In) :
    ((setCardObj conv old v).1.view, (setCardObj conv old v).2) = setCard old.view v := by
  unfold setCardObj setCard
  rw [← fmt_obj_view conv hc v]
  cases formatCardObj conv v <;> rfl

/-- **Bool bounds.** `bool` is a subclass of `int`, so `True`, `(True, 5)`, `[None, True]`,
    `(False, 3)` ... pass the `isinstance(x, int)` tests. Whatever is assigned - bools included -
    every bound of an accepted cardinality is stored as `None` or an exact `int`, never as a `bool`,
    and what is stored for a setting with bool bounds is exactly what is stored for the same
    setting with each bool replaced by the int it equals (also the refusals are the same). -/
theorem bool_bound_exact (v : In) :
    (∀ a b, formatCardObj pyInt v = .ok (some (a, b)) → a.exact = true ∧ b.exact = true) ∧
    formatCardObj pyInt v = formatCardObj pyInt v.unbool :=
  ⟨formatCardObj_pyInt_exact v, (formatCardObj_unbool v).symm⟩

/-- After **any** sequence of assignments (accepted or refused, bools or not) the slot holds
    `None` / exact ints only. -/
theorem slot_always_exact (vs : List In) (p : PyBound × PyBound)
    (h : vs.foldl (fun c v => (setCardObj pyInt c v).1) none = some p) :
    p.1.exact = true ∧ p.2.exact = true := by
  have := foldl_invariant (fun c : ObjCard => (ObjRes.ok c).Exact)
    (fun c v => (setCardObj pyInt c v).1) (fun c v hc => ?_) vs none trivial
  · rwa [h] at this
  · unfold setCardObj
    cases hf : formatCardObj pyInt v with
    | ok c' => exact hf ▸ formatCardObj_exact pyInt pyInt_exact v
    | valueError => exact hc

/-- What is stored for any accepted setting - bool bounds included - is written by the XML writer
    (`str` of the stored tuple) and by the JSON / YAML writers (the list) in a form that the
    parsers read back to the same (min, max). -/
theorem bool_bound_persisted (v : In) (p : PyBound × PyBound)
    (h : formatCardObj pyInt v = .ok (some p)) :
    parseCardText (renderObjText p) = some (p.1.val, p.2.val) ∧
    parseCardList (dinOfPyBound p.1) (dinOfPyBound p.2) = some (p.1.val, p.2.val) := by
  obtain ⟨a, b⟩ := p
  obtain ⟨ha, hb⟩ := formatCardObj_pyInt_exact v a b h
  have hv : formatCard v = .ok (some (a.val, b.val)) := by
    have := fmt_obj_view pyInt pyInt_keepsValue v
    rw [h] at this
    simpa [ObjRes.view, ObjCard.view] using this.symm
  have hs := fmt_normal v _ hv
  have hr : renderObjText (a, b) = renderCardText (a.val, b.val) := by
    simp [renderObjText, renderCardText, exact_render ha, exact_render hb]
  simp only [hr, exact_din ha, exact_din hb]
  exact ⟨persist_text _ hs, persist_list _ hs⟩

/-- Witness on the code before the repair (`return v_min, v_max`, modelled by `asGiven`): the bool
    was stored as it came, the XML writer spelled it `(True, 5)`, and `parse_cardinality` reads
    that as "no cardinality" (known finding `bool_cardinality_bound_lost`, fixed). -/
theorem bool_bound_legacy_counterexample :
    formatCardObj asGiven (.seq true [.bool true, .int 5]) = .ok (some (.bool true, .int 5)) ∧
    renderObjText (.bool true, .int 5) = "(True, 5)".toList ∧
    parseCardText (renderObjText (.bool true, .int 5)) = none := by
  -- `"..".toList` by a lemma: evaluated, it goes through UTF-8 and back, character by character
  rw [String.toList_ofList]
  decide +kernel

example : formatCard (.seq true [.int 2, .int 2]) = .ok (some (some 2, some 2)) := by decide
example : formatCard (.seq true [.int 3, .int 1]) = .valueError := by decide
example : formatCard (.seq false [.int 2, .int 0]) = .ok (some (some 2, none)) := by decide
example : formatCard (.bool true) = .ok (some (none, some 1)) := by decide
example : formatCard (.float false) = .valueError := by decide
example : Stored (some (some 2, some 2)) := by simp [Stored, Normal, Strong]
example : cardIssue (some (some 2, some 2)) 3 = some (.maximum 2) := by decide
example : parseCardText (renderCardText (some 2, some 2)) = some (some 2, some 2) := by decide
example : parseCardText "(None, 12)".toList = some (none, some 12) := by
  rw [String.toList_ofList]
  decide +kernel
example : formatCardObj pyInt (.seq true [.bool true, .int 5]) = .ok (some (.int 1, .int 5)) := by decide
example : formatCardObj pyInt (.seq false [.nul, .bool true]) = .ok (some (.nul, .int 1)) := by decide
example : formatCardObj pyInt (.bool true) = .ok (some (.nul, .int 1)) := by decide
example : formatCardObj pyInt (.seq true [.bool true, .bool false]) = .ok (some (.int 1, .nul)) := by decide
example : formatCardObj pyInt (.seq true [.nul, .bool false]) = .ok none := by decide
example : formatCardObj pyInt (.seq true [.int 2, .bool true]) = .valueError := by decide
example : parseCardText (renderObjText (.int 1, .int 5)) = some (some 1, some 5) := by decide

end C09
