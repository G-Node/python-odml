/-
C05 — Property values always conform to the Property's dtype, in normal form.

Lemmas: `Proofs/DTypes.lean`.
Model: `Model/DTypes.lean`, `Model/Val.lean`, `Py/Num.lean`, `Py/Time.lean`
(tied to /repo by `harness/c05.py`).

Vocabulary
  `PropState`        (values, dtype) of one Property
  `step now s op`    one public value-editing call; returns the state *at the raise point* and the outcome
  `run`, `ctor`      histories and the constructor
  `Cls`, `clsOf dtype`  the Python type a dtype stands for
  `HasClass c v`     v is of that type (date/time valid, time/datetime without sub-second part,
                     n-tuple = list of n strings)
  `Conforms s`       the property's invariant: dtype valid, every stored value `HasClass`
  `ConformsW s`      what the implementation maintains: as `Conforms`, but an n-tuple Property may
                     hold `None` (known finding C05-tuple-empty-item-stored-as-none)
  `TupleOK dt`       the stored spelling of an n-tuple dtype is the one property.py inspects
                     (`endswith("-tuple")`, leading count); true of every dtype that is stored
  `now`              the value of `datetime.now()` (default of date/time/datetime); the only
                     hypothesis on it is that it is a valid datetime.
-/
import OdmlModel.Proofs.DTypes

namespace C05
open DT Py

/-! ## 1. Stored values are of the Python type of the dtype; the dtype is valid -/

/-- Whatever is handed to `dtypes.get`, an accepted conversion yields a value of the dtype's class
    (or `None` for an n-tuple dtype — see `tuple_none_only_from_falsy`). -/
theorem get_conforms (now : DateTime) (hn : now.valid = true) (v w : Elem) (dtype : DType)
    (h : get now v dtype = .ok w) : HasClassW (clsOf dtype) w :=
  get_cls hn h

/-- The invariant is preserved by every public value-editing call, whatever the arguments
    and whether the call is accepted or refused. -/
theorem conforms_step (now : DateTime) (hn : now.valid = true) (s : PropState) (op : Op)
    (hs : ConformsW s) : ConformsW (step now s op).1 :=
  step_sound.conf hn hs

/-- … hence by every history of calls, of any length, in any order. -/
theorem conforms_run (now : DateTime) (hn : now.valid = true) (ops : List Op) :
    ∀ s, ConformsW s → ConformsW (run now s ops) :=
  run_inv (fun _ _ => step_sound.conf hn) ops

/-- A constructed Property satisfies the invariant (any `dtype`, `values`, `value` argument),
    and so does every state reachable from it. -/
theorem conforms_ctor (now : DateTime) (hn : now.valid = true) (d : DtIn) (values value : Inp)
    (s : PropState) (h : ctor now d values value = .ok s) (ops : List Op) :
    ConformsW (run now s ops) := by
  refine conforms_run now hn ops s (ctor_inv ⟨?_, fun _ => rfl, fun v hv => by cases hv⟩
    (fun _ _ => setValues_sound.conf hn) h)
  split
  · exact validDType_toDType ‹_›
  · rfl

/-- for `decide +kernel` on a concrete call: there is no `DecidableEq (Except ε α)` -/
theorem eq_ok_of_toOption {ε α : Type} {r : Except ε α} {a : α} (h : r.toOption = some a) :
    r = .ok a := by
  cases r <;> simp_all [Except.toOption]

example : ctor ⟨⟨2020, 1, 5⟩, ⟨1, 2, 3, 0⟩⟩ (.str "int".toList)
    (.seq false [.atom (.str "3".toList), .atom (.float (.fin ⟨false, 25, -1⟩))]) (.one .none) =
    .ok ⟨[.atom (.int 3), .atom (.int 2)], some "int".toList⟩ :=
  eq_ok_of_toOption (by decide +kernel)

/-- A Property that holds values has a dtype. -/
theorem values_imply_dtype (s : PropState) (hs : ConformsW s) (h : s.values ≠ []) :
    s.dtype ≠ none := fun hc => h (hs.2.1 hc)

/-! ## 2. A refusal leaves values and dtype as they were -/

/-- Whatever call is refused (with whatever exception), values and dtype are unchanged. -/
theorem refused_unchanged (now : DateTime) (s : PropState) (op : Op) (e : Exc)
    (h : (step now s op).2 = .raised e) : (step now s op).1 = s :=
  step_sound.raised h

example : (step ⟨⟨2020, 1, 5⟩, ⟨1, 2, 3, 0⟩⟩ ⟨[.atom (.int 1)], some "int".toList⟩
    (.append (.one (.str "x".toList)) false)).2 = .raised .value := by decide +kernel

/-- Unconvertible input is refused with `ValueError`: the only other exceptions a refused call
    can raise are `AttributeError` for `p.dtype = <invalid type name>` and `IndexError` for
    `p[k] = …` with `k` outside `0..len(p)`. -/
theorem refused_valueerror (now : DateTime) (s : PropState) (op : Op) (e : Exc) (hs : ConformsW s)
    (h : (step now s op).2 = .raised e) :
    e = .value ∨ (∃ d, op = .setDtype d ∧ validType d = false ∧ e = .attr) ∨
      (∃ k v, op = .setItem k v ∧ (k < 0 ∨ k > s.values.length) ∧ e = .index) :=
  step_sound.exc hs h

/-- Input that holds no value is never refused by `p.values = …`: whenever the list
    `_convert_value_input` builds is empty (for the inputs of the model these are the empty list,
    tuple and str; since fix 646f02a the code takes the same exit for every other empty iterable
    instead of reading `new_value[0]`), the call is accepted, the values are cleared and the dtype
    is kept. -/
theorem empty_input_clears (now : DateTime) (s : PropState) (inp : Inp)
    (h : convertValueInput inp = []) :
    step now s (.setValues inp) = ({ s with values := [] }, .ok) := by
  simp only [step, setValues, h]
  split <;> rfl

/-! ## 3. Changing the dtype converts all values or changes nothing -/

/-- `p.dtype = d`: either the call is accepted, the new dtype is stored (in lower case; `None`
    is replaced by the inferred dtype when there are values), as many values as before are
    stored for a scalar dtype and all of them are of the new type — or it is refused
    (`AttributeError` for an invalid type, `ValueError` otherwise) and nothing has changed. -/
theorem dtype_all_or_nothing (now : DateTime) (hn : now.valid = true) (s : PropState) (d : DtIn)
    (hs : ConformsW s) :
    ((setDtype now s d).2 = .ok ∧ ConformsW (setDtype now s d).1 ∧
        (d.toDType ≠ none → (setDtype now s d).1.dtype = d.toDType) ∧
        (isTupleRaw (setDtype now s d).1.dtype = false →
          (setDtype now s d).1.values.length = s.values.length)) ∨
    (((setDtype now s d).2 = .raised .value ∨ ((setDtype now s d).2 = .raised .attr ∧ validType d = false))
        ∧ (setDtype now s d).1 = s) := by
  cases ho : (setDtype now s d).2 with
  | raised e =>
    refine Or.inr ⟨?_, setDtype_sound.raised ho⟩
    rcases setDtype_sound.exc hs ho with rfl | ⟨hv, rfl⟩
    · exact Or.inl rfl
    · exact Or.inr ⟨rfl, hv⟩
  | ok =>
    refine Or.inl ⟨rfl, setDtype_sound.conf hn hs, ?_⟩
    unfold setDtype at ho ⊢
    by_cases hv : validType d = true
    · simp only [hv, Bool.not_true, Bool.false_eq_true, ↓reduceIte] at ho ⊢
      cases hr : (setValues now { s with dtype := d.toDType } (.seq false s.values)).2 with
      | raised e' => simp [hr] at ho
      | ok =>
        exact ⟨fun hne => setValues_dtype hne, fun hraw => setValues_ok_length hr hraw⟩
    · simp [hv] at ho

/-! ## 4. Normal form -/

/-- A stored value of a scalar dtype converts to itself. -/
theorem normal_form_get (now : DateTime) (v : Elem) (dtype : DType)
    (h : HasClass (clsOf dtype) v) (hnt : ∀ n, clsOf dtype ≠ .tuple n) (hna : clsOf dtype ≠ .any) :
    get now v dtype = .ok v :=
  get_fixpoint h hnt hna

/-- Assigning a Property its own values gives the same values and dtype (scalar dtypes; for
    n-tuples see `normal_form_assign_tuple`). -/
theorem normal_form_assign (now : DateTime) (s : PropState) (hs : Conforms s)
    (hnt : ∀ n, clsOf s.dtype ≠ .tuple n) (hna : clsOf s.dtype ≠ .any) :
    step now s (.setValues (.seq false s.values)) = (s, .ok) :=
  setValues_self hs hnt hna

/-- A clone has the same values and dtype as the original (scalar dtypes). -/
theorem clone_same (now : DateTime) (s : PropState) (hs : Conforms s)
    (hnt : ∀ n, clsOf s.dtype ≠ .tuple n) (hna : clsOf s.dtype ≠ .any) :
    step now s .clone = (s, .ok) := by
  simp only [step, setValues_self hs hnt hna]

example : Conforms ⟨[.atom (.date ⟨5, 1, 2⟩)], some "date".toList⟩ ∧
    (∀ n, clsOf (some "date".toList) ≠ .tuple n) ∧ clsOf (some "date".toList) ≠ .any := by
  have hc : clsOf (some "date".toList) = .date := by decide +kernel
  refine ⟨⟨by decide +kernel, by simp, fun v hv => ?_⟩, fun n => ?_, ?_⟩ <;> rw [hc]
  · cases List.mem_singleton.mp hv
    show Date.valid _ = true; decide
  · simp
  · simp

/-- The same for n-tuple Properties (with or without `None` items): the stored lists go through
    the textual re-import of `odml_tuple_import` (`['a','b']` → `"(a; b)"` → `tuple_get`) and come
    back unchanged, because stored items are stripped and contain no `;`. -/
theorem normal_form_assign_tuple (now : DateTime) (s : PropState) (n : Int) (hs : ConformsW s)
    (hcls : clsOf s.dtype = .tuple n) (hok : TupleOK s.dtype) :
    step now s (.setValues (.seq false s.values)) = (s, .ok) ∧ step now s .clone = (s, .ok) := by
  have := setValues_self_tuple (now := now) hs hcls hok
  exact ⟨this, by simp only [step, this]⟩

example : ConformsW ⟨[.seq false [.str ['a'], .str ['b', 'c']], .atom .none], some "2-tuple".toList⟩ ∧
    clsOf (some "2-tuple".toList) = .tuple 2 ∧ TupleOK (some "2-tuple".toList) := by
  have hc : clsOf (some "2-tuple".toList) = .tuple 2 := by decide +kernel
  refine ⟨⟨by decide +kernel, by simp, ?_⟩, hc, ?_⟩
  · intro v hv
    rw [hc]
    simp only [List.mem_cons, List.not_mem_nil, or_false] at hv
    rcases hv with rfl | rfl
    · refine Or.inl ⟨by simp, by simp, ?_⟩
      intro a ha
      simp only [List.mem_cons, List.not_mem_nil, or_false] at ha
      rcases ha with rfl | rfl
      · exact ⟨_, rfl, by decide, by decide⟩
      · exact ⟨_, rfl, by decide, by decide⟩
    · exact Or.inr ⟨⟨2, rfl⟩, rfl⟩
  · intro d n hd hcls
    cases hd
    rw [hc] at hcls
    cases hcls
    exact ⟨by decide +kernel, by decide +kernel⟩

/-- Normal form of **every reachable state**, whatever its dtype: after any constructor call and
    any history of calls, assigning the Property its own values, or cloning it, gives the same
    values and dtype. -/
theorem normal_form_reachable (now : DateTime) (hn : now.valid = true) (d : DtIn)
    (values value : Inp) (s0 : PropState) (h : ctor now d values value = .ok s0) (ops : List Op) :
    let s := run now s0 ops
    step now s (.setValues (.seq false s.values)) = (s, .ok) ∧ step now s .clone = (s, .ok) :=
  have := setValues_self_inv (now := now) (conforms_ctor now hn d values value s0 h ops)
    (run_inv (P := fun s => TupleOK s.dtype) (fun _ _ => step_sound.tupleOK) ops s0 (ctor_tupleOK h))
  ⟨this, by simp only [step, this]⟩

/-- value → text → value: what `dtypes.set` (`Property.value_str`) makes of a stored value of a
    scalar dtype is converted back to that value by `dtypes.get`.  For floats the CPython contract
    `float(repr(x)) == x` is the explicit hypothesis `hf`. -/
theorem text_roundtrip (now : DateTime) (v : Elem) (dtype : DType)
    (h : HasClass (clsOf dtype) v) (hnt : ∀ n, clsOf dtype ≠ .tuple n) (hna : clsOf dtype ≠ .any)
    (hf : ∀ f, v = .atom (.float f) → parseFloat f.repr = some f) :
    ∃ t, set now v dtype = .ok t ∧ get now t dtype = .ok v := by
  simp only [set_eq_conv hnt hna, get_eq_conv hna]
  exact setOf_convOf (h.scalar hnt hna) hf

/-- … and so is its `str()` (the text the writers emit), for every scalar dtype but float;
    a datetime must be a valid one, which every Python datetime object is. -/
theorem str_roundtrip_nonfloat (now : DateTime) (v : Elem) (dtype : DType)
    (h : HasClass (clsOf dtype) v) (hnt : ∀ n, clsOf dtype ≠ .tuple n) (hna : clsOf dtype ≠ .any)
    (hnf : clsOf dtype ≠ .float) (hdt : ∀ x, v = .atom (.datetime x) → x.valid = true) :
    get now (.atom (.str v.pyStr)) dtype = .ok v := by
  rw [get_eq_conv hna]; exact convOf_pyStr (h.scalar hnt hna) hnf hdt

example : get ⟨⟨2020, 1, 5⟩, ⟨1, 2, 3, 0⟩⟩ (.atom (.str (Elem.atom (.datetime ⟨⟨5, 1, 2⟩, ⟨3, 4, 5, 0⟩⟩)).pyStr))
    (some "datetime".toList) = .ok (.atom (.datetime ⟨⟨5, 1, 2⟩, ⟨3, 4, 5, 0⟩⟩)) :=
  eq_ok_of_toOption (by decide +kernel)

/-! ## 5. The one way in which the strict reading fails: `None` in an n-tuple Property -/

/-- `tuple_get` returns `None` exactly for a falsy argument (`None`, `""`, `0`, `[]`, …). -/
theorem tuple_none_only_from_falsy (v : Elem) (c : Option Int) :
    tupleGet v c = .ok (.atom .none) ↔ v.truthy = false := by
  constructor
  · intro h
    unfold tupleGet at h
    simp only at h
    repeat' split at h
    all_goals cases h
    simp_all
  · intro h; simp [tupleGet, h]

/-- Apart from such `None` items the implementation's invariant is the property's. -/
theorem conforms_strict_partial (s : PropState) (hs : ConformsW s)
    (hnone : ∀ v ∈ s.values, v ≠ .atom .none) : Conforms s :=
  ⟨hs.1, hs.2.1, fun v hv => (hs.2.2 v hv).elim id (fun h => absurd h.2 (hnone v hv))⟩

/-- Witness (replayed on the implementation by corpus/C05/tuple_none.json):
    `Property(dtype="2-tuple", values=["(a;b)", ""])` is accepted and stores `[['a','b'], None]`. -/
theorem tuple_none_counterexample :
    ∃ s, ctor ⟨⟨2020, 1, 5⟩, ⟨1, 2, 3, 0⟩⟩ (.str "2-tuple".toList)
        (.seq false [.atom (.str "(a;b)".toList), .atom (.str [])]) (.one .none) = .ok s ∧
      ¬ Conforms s := by
  refine ⟨⟨[.seq false [.str ['a'], .str ['b']], .atom .none], some "2-tuple".toList⟩,
    eq_ok_of_toOption (by decide +kernel), ?_⟩
  intro h
  have h2 := h.2.2 (.atom .none) (by simp)
  rw [show clsOf (some "2-tuple".toList) = .tuple 2 by decide +kernel] at h2
  exact h2

/-! ## 6. Which dtype names are valid -/

def scalarNames : List (List Char) :=
  ["string".toList, "text".toList, "int".toList, "float".toList, "url".toList, "datetime".toList,
   "date".toList, "time".toList, "boolean".toList, "person".toList]

/-- `valid_type` accepts exactly the ten odML type names and `n-tuple` (n ≥ 1, no leading zero),
    in any case, with the shorthands `str`/`bool`.  Stated over the `DType` members regenerated
    from /repo on every run. -/
theorem valid_type_exact (d : List Char) :
    validType (.str d) = true ↔ (normDtype d ∈ scalarNames ∨ isTupleName (normDtype d) = true) := by
  rw [show scalarNames = Gen.DTypes.members.map (·.1.toList) from rfl, ← isMember_iff_mem]
  exact validType_str

/-- Witnesses: `str` method names are not dtypes, case variants and shorthands select the right
    converter. -/
theorem method_names_invalid :
    validType (.str "join".toList) = false ∧ validType (.str "upper".toList) = false ∧
    validType (.str "tuple".toList) = false ∧ validType (.str "0-tuple".toList) = false ∧
    validType (.str "2-tuple\n".toList) = false ∧ validType .other = false ∧
    validType (.str "Int".toList) = true ∧ clsOf (DtIn.toDType (.str "Int".toList)) = .int ∧
    clsOf (some "STRING".toList) = .str ∧ clsOf (some "str".toList) = .str ∧
    clsOf (some "bool".toList) = .bool ∧ clsOf (some "boolean".toList) = .bool ∧
    clsOf (some "float".toList) = .float ∧ clsOf (some "date".toList) = .date ∧
    clsOf (some "time".toList) = .time ∧ clsOf (some "datetime".toList) = .datetime ∧
    clsOf (some "text".toList) = .str ∧ clsOf (some "url".toList) = .str ∧
    clsOf (some "person".toList) = .str ∧ clsOf (some "3-tuple".toList) = .tuple 3 ∧
    clsOf (DtIn.toDType (.str "2-TUPLE".toList)) = .tuple 2 := by decide +kernel

end C05
