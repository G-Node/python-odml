/-
C13 — Merging one Section into another is complete, conservative and all-or-nothing.

Property theorems only; the model is `Model/Merge.lean`, helper lemmas are in
`Proofs/Merge.lean`. Every theorem is stated for an arbitrary value interpretation
`cv : Conv V` (conversion, dtype inference, equality) and arbitrary trees: no bound on size,
depth, number of children or values.

Side conditions (all decidable, evaluated by the driver on every generated case):
* `wfSec cv s`    — the source has unique sibling names and every Property's values are of one
                    kind (true of every tree built through the API);
* `typedSec d`    — a destination Property that holds values has a dtype (ditto);
* `typeClash d s` — `Section._merge_name_check` raises (the region of finding
                    `C13/section-name-clash-other-type`: refused before anything changes).
-/
import OdmlModel.Proofs.Merge

namespace C13
open Merge

variable {V : Type}

/-! ## 1. All-or-nothing -/

/-- The two checks `merge` runs before it changes anything predict it: if `merge_check` passes
    and `_merge_name_check` passes (`typeClash d s = false`), the merge does not raise. -/
theorem merge_check_predicts (cv : Conv V) (k : Bool) (r : Ref) (d s : Sec V)
    (hwf : wfSec cv s = true) (hty : typedSec d = true) (hcl : typeClash d s = false)
    (hck : mergeCheck cv k d s = .ok) : (merge cv k r d s).2 = .ok :=
  merge_ok_of_check cv k s r d hwf hty hcl hck

/-- The full-strength statement of "a merge that raises has changed nothing". -/
def AllOrNothing (cv : Conv V) : Prop :=
  ∀ (k : Bool) (r : Ref) (d s : Sec V) (e : Exc), wfSec cv s = true → typedSec d = true →
    (merge cv k r d s).2 = .raised e → (merge cv k r d s).1 = d

/-- A merge that raises has changed nothing. (Without `_merge_name_check` this needs
    `typeClash d s = false`: finding `C13/section-name-clash-other-type`.) -/
theorem merge_all_or_nothing (cv : Conv V) : AllOrNothing cv :=
  fun k r d s e hwf hty hr => (merge_raised cv k r d s e hwf hty hr).1

/-- ... and what it raises is a `ValueError` (never the `KeyError` of `SmartList.append`). -/
theorem merge_raise_is_value_error (cv : Conv V) (k : Bool) (r : Ref) (d s : Sec V) (e : Exc)
    (hwf : wfSec cv s = true) (hty : typedSec d = true)
    (hr : (merge cv k r d s).2 = .raised e) : e = .valueError :=
  (merge_raised cv k r d s e hwf hty hr).2.1

/-- The name clash is refused up front: when the source has, anywhere in the pairs of Sections
    `merge` would visit, a sub-Section whose name the destination uses for a Section of another
    type, `merge` raises `ValueError` and nothing is changed — strict or not, no side condition. -/
theorem name_clash_raises (cv : Conv V) (k : Bool) (r : Ref) (d s : Sec V)
    (hcl : typeClash d s = true) : merge cv k r d s = (d, .raised .valueError) := by
  cases hck : mergeCheck cv k d s with
  | raised e' =>
    rw [merge_of_check_raised cv k r d s e' hck, mergeCheck_raised cv k s d e' hck]
  | ok => exact merge_of_clash cv k r d s hck hcl

/-- Exactly when `merge` raises: one of the two up-front checks refuses. -/
theorem merge_raises_iff (cv : Conv V) (k : Bool) (r : Ref) (d s : Sec V)
    (hwf : wfSec cv s = true) (hty : typedSec d = true) :
    (merge cv k r d s).2 = .raised .valueError ↔
      (mergeCheck cv k d s = .raised .valueError ∨ typeClash d s = true) := by
  refine ⟨fun hr => (merge_raised cv k r d s _ hwf hty hr).2.2, ?_⟩
  rintro (hck | hcl)
  · rw [merge_of_check_raised cv k r d s _ hck]
  · rw [name_clash_raises cv k r d s hcl]

/-! ### The witness of that finding (values: the driver's instance `convC`) -/

def attrs0 (n t : Str) : SecAttrs :=
  { name := n, type := t, definition := none, reference := none, link := none, incl := none,
    merged := none }

/-- dest: one sub-Section `x` of type `t1` -/
def wDest : Sec Val := .mk (attrs0 ['d'] ['t']) [] [.mk (attrs0 ['x'] ['t', '1']) [] []]
/-- src: sub-Sections `w` (new) and `x` of type `t2` (same name, other type) -/
def wSrc : Sec Val :=
  .mk (attrs0 ['s'] ['t']) [] [.mk (attrs0 ['w'] ['t']) [] [], .mk (attrs0 ['x'] ['t', '2']) [] []]

/-- On the witness `merge_check` passes (as `test_merge_check` demands), the name check
    refuses, and `merge` leaves the destination alone: `w` is not appended before `x` is
    refused. -/
theorem name_clash_witness :
    mergeCheck convC true wDest wSrc = .ok ∧ typeClash wDest wSrc = true ∧
    merge convC true default wDest wSrc = (wDest, .raised .valueError) ∧
    merge convC false default wDest wSrc = (wDest, .raised .valueError) :=
  ⟨by decide +kernel, by decide +kernel, name_clash_raises convC true default wDest wSrc (by decide +kernel),
   name_clash_raises convC false default wDest wSrc (by decide +kernel)⟩

/-! ## 2. Strict conflicts -/

/-- In strict mode a conflict in dtype, unit, uncertainty, definition, reference or value origin
    between corresponding objects anywhere in the two trees makes `merge` raise `ValueError`,
    and nothing is changed. (No side condition at all.) -/
theorem strict_conflict_raises (cv : Conv V) (r : Ref) (d s : Sec V)
    (h : treeConflict d s = true) : merge cv true r d s = (d, .raised .valueError) := by
  have hck := mergeCheck_conflict cv d s h
  cases s with
  | mk sa sp ss => unfold merge; rw [hck]

/-- Lenient mode (`strict=False`) never refuses because of attributes: a Property pair is
    refused iff a value of the source cannot be converted to the destination's dtype. -/
theorem lenient_never_attr_conflict (cv : Conv V) (d s : PropT V) :
    propMergeCheck cv false d s = .ok ↔ validate cv d.dtype s.values = true := by
  unfold propMergeCheck
  by_cases h : validate cv d.dtype s.values = true <;> simp [h]

/-! ## 3. Complete -/

/-- After a successful merge the destination has, for every child of the source, a child of the
    same name (and type, for Sections), recursively. -/
theorem merge_complete (cv : Conv V) (k : Bool) (r : Ref) (d s : Sec V)
    (hwf : wfSec cv s = true) (hok : (merge cv k r d s).2 = .ok) :
    Covers (merge cv k r d s).1 s :=
  merge_covers cv k s r d hwf hok

/-- What exactly each child of the source turns into: the child `contains` finds is replaced by
    its own merge with the source child (which succeeded); a child that is not found is
    appended as a copy. This unfolds recursively through `merge` / `propMerge`. (The reference
    handed down carries the record flag in force at `d`, `Ref.eff`: nothing below a Section whose
    link or include is resolved is recorded.) -/
theorem merge_values_tree (cv : Conv V) (k : Bool) (r : Ref) (d s : Sec V)
    (hwf : wfSec cv s = true) (hok : (merge cv k r d s).2 = .ok) :
    (∀ o ∈ s.secs,
      (∀ mine, findSec d.secs o.name o.type = some mine →
        findSec (merge cv k r d s).1.secs o.name o.type =
          some (merge cv k ((r.eff d.attrs).child o.name) mine o).1 ∧
        (merge cv k ((r.eff d.attrs).child o.name) mine o).2 = .ok) ∧
      (findSec d.secs o.name o.type = none →
        findSec (merge cv k r d s).1.secs o.name o.type =
          some (cloneMerged ((r.eff d.attrs).child o.name) o))) ∧
    (∀ p ∈ s.props,
      (∀ mine, findProp d.props p.name = some mine →
        findProp (merge cv k r d s).1.props p.name = some (propMerge cv k mine p).1 ∧
        (propMerge cv k mine p).2 = .ok) ∧
      (findProp d.props p.name = none →
        findProp (merge cv k r d s).1.props p.name = some p)) := by
  obtain ⟨-, hs, hp, he⟩ := merge_ok_shape cv k r d s hok
  rw [he]
  cases s with
  | mk sa sp ss =>
    obtain ⟨hnd, -, -, hnds⟩ := (wfSec_mk ..).1 hwf
    rw [mergeSecs_eq_run] at hs ⊢
    rw [mergeProps_eq_run] at hp ⊢
    exact ⟨(secLoop_lawful ..).run_result ss d.secs hnds hs,
           (propLoop_lawful ..).run_result sp d.props hnd hp⟩

/-! ## 4. Values and attributes of merged Properties -/

/-- A merged Property keeps its own values, in place, and gains exactly the values of the
    source it lacked (`toAdd`: those not `==` to an own value), in the source's order, each
    converted to the Property's dtype. -/
theorem merge_values (cv : Conv V) (k : Bool) (d s d' : PropT V)
    (h : propMerge cv k d s = (d', .ok)) :
    ∃ ws, d'.values = d.values ++ ws ∧
      Forall2 (fun v w => cv.get d'.dtype v = some w) (toAdd cv d.values s.values) ws := by
  have := propMerge_spec cv k d s d' h
  exact ⟨_, this.1, validate_forall2 cv _ _ this.2.1⟩

/-- The dtype of a merged Property changes only when it had neither dtype nor values: then it
    is inferred from the first value of the source. -/
theorem merge_dtype (cv : Conv V) (k : Bool) (d s d' : PropT V)
    (h : propMerge cv k d s = (d', .ok)) :
    d'.dtype = d.dtype ∨
    (d.dtype = none ∧ d.values = [] ∧ ∃ v0 vs, s.values = v0 :: vs ∧ d'.dtype = some (cv.infer v0)) :=
  (propMerge_spec cv k d s d' h).2.2.1

/-- what filling an attribute means: a set one is kept, an unset one is taken from the source
    (an empty text counts as unset) -/
def Filled (own src res : Option Str) : Prop :=
  (∀ a, own = some a → res = some a) ∧
  (own = none → (∀ b, src = some b → b ≠ [] → res = some b) ∧ (src = none → res = none))

theorem filled_fillText (a b : Option Str) : Filled a b (fillText a b) := by
  constructor
  · intro x hx; subst hx; rfl
  · intro ha; subst ha
    refine ⟨fun x hx hne => ?_, fun hb => by subst hb; rfl⟩
    subst hx; exact fillText_none x hne

/-- Unset unit / definition / reference / value origin / uncertainty are filled from the
    source, set ones are kept; the name is kept. -/
theorem merge_attrs_fill_only (cv : Conv V) (k : Bool) (d s d' : PropT V)
    (h : propMerge cv k d s = (d', .ok)) :
    d'.name = d.name ∧ Filled d.unit s.unit d'.unit ∧ Filled d.definition s.definition d'.definition ∧
    Filled d.reference s.reference d'.reference ∧ Filled d.origin s.origin d'.origin ∧
    (∀ u, d.uncertainty = some u → d'.uncertainty = some u) ∧
    (d.uncertainty = none → d'.uncertainty = s.uncertainty) := by
  rw [(propMerge_spec cv k d s d' h).2.2.2]
  refine ⟨rfl, filled_fillText _ _, filled_fillText _ _, filled_fillText _ _, filled_fillText _ _, ?_, ?_⟩
  · intro u hu'; show fillOpt d.uncertainty s.uncertainty = some u; rw [hu']; rfl
  · intro hu'; show fillOpt d.uncertainty s.uncertainty = s.uncertainty; rw [hu']; rfl

/-- Section level: definition and reference are filled, name, type, link and include kept, and
    the Section remembers what it was merged with - unless its link or include is resolved: then
    it stays merged with the Section it refers to, and what is on record as filled in from that
    Section stays as it is (`r.record`: the merge is one that is recorded, i.e. it was
    not reached from a resolved Section further up). -/
theorem merge_sec_attrs_fill_only (cv : Conv V) (k : Bool) (r : Ref) (d s : Sec V)
    (hok : (merge cv k r d s).2 = .ok) :
    let R := (merge cv k r d s).1
    R.name = d.name ∧ R.type = d.type ∧ R.attrs.link = d.attrs.link ∧ R.attrs.incl = d.attrs.incl ∧
    Filled d.attrs.definition s.attrs.definition R.attrs.definition ∧
    Filled d.attrs.reference s.attrs.reference R.attrs.reference ∧
    (r.record = true → d.attrs.resolved = false → R.attrs.merged = some r) ∧
    (d.attrs.resolved = true → R.attrs.merged = d.attrs.merged ∧
      R.attrs.filledDef = d.attrs.filledDef ∧ R.attrs.filledRef = d.attrs.filledRef) := by
  have hsh := merge_ok_shape cv k r d s hok
  simp only
  rw [hsh.2.2.2]
  refine ⟨rfl, rfl, rfl, rfl, filled_fillText _ _, filled_fillText _ _, ?_, ?_⟩
  · intro hr hd; simp [Ref.pick, Ref.eff, hr, hd]
  · intro hd; simp [Ref.pick, Ref.eff, hd]

/-! ## 5. Conservative (whatever the outcome) -/

/-- `merge` never changes name or type of the destination. -/
theorem merge_keeps_name_type (cv : Conv V) (k : Bool) (r : Ref) (d s : Sec V) :
    (merge cv k r d s).1.name = d.name ∧ (merge cv k r d s).1.type = d.type :=
  merge_name_type cv k r d s

/-- A sub-Section of the destination for which the source has no sub-Section of the same name
    and type is unchanged and stays at its position — even when the merge raises. -/
theorem merge_conservative_secs (cv : Conv V) (k : Bool) (r : Ref) (d s : Sec V) (i : Nat)
    (c : Sec V) (hi : d.secs[i]? = some c)
    (hl : ∀ o ∈ s.secs, ¬ (o.name = c.name ∧ o.type = c.type)) :
    (merge cv k r d s).1.secs[i]? = some c := by
  rcases (merge_lists cv k r d s).1 with h | h
  · rw [h]; exact hi
  · rw [h]; exact mergeSecs_keeps cv k (r.eff d.attrs) d.secs s.secs i c hi hl

/-- The same for Properties (matched by name). -/
theorem merge_conservative_props (cv : Conv V) (k : Bool) (r : Ref) (d s : Sec V) (i : Nat)
    (c : PropT V) (hi : d.props[i]? = some c) (hl : ∀ o ∈ s.props, o.name ≠ c.name) :
    (merge cv k r d s).1.props[i]? = some c := by
  rcases (merge_lists cv k r d s).2 with h | h
  · rw [h]; exact hi
  · rw [h]; exact mergeProps_keeps cv k d.props s.props i c hi hl

/-! ## 6. Property.merge on its own -/

/-- `Property.merge` is all-or-nothing: if it raises, the Property is unchanged. -/
theorem prop_merge_all_or_nothing (cv : Conv V) (k : Bool) (d s : PropT V) (e : Exc)
    (hty : typedProp d = true) (hh : propHomog cv s = true)
    (hr : (propMerge cv k d s).2 = .raised e) :
    (propMerge cv k d s).1 = d ∧ e = .valueError := by
  cases hck : propMergeCheck cv k d s with
  | ok => rw [propMerge_ok cv k d s hck hty hh] at hr; cases hr
  | raised e' =>
    have := propMergeCheck_raised cv k d s e' hck
    unfold propMerge at hr ⊢
    rw [hck] at hr ⊢
    cases hr
    exact ⟨rfl, this⟩

/-- Why `Property.merge` must not pass `strict=True` on to `extend`: for two `string` Properties the strict check passes, but a strict `extend`
    infers `text` from a value with a line break and refuses it. -/
theorem extend_strict_refuses_newline :
    let p : PropT Val := {
      name := ['b'], dtype := some .string, values := [.str ['x']],
      unit := none, uncertainty := none, definition := none, reference := none, origin := none }
    let q : PropT Val := { p with values := [.str ['l', '\n', 'm']] }
    propMergeCheck convC true p q = .ok ∧
    (extend convC p (toAdd convC p.values q.values) true).2 = .raised .valueError ∧
    (propMerge convC true p q).2 = .ok := by
  decide +kernel

/-! ## Hypotheses are satisfiable (non-trivial trees) -/

def pA : PropT Val := {
  name := ['a'], dtype := some .int, values := [.int 1, .int 2],
  unit := some ['m', 'V'], uncertainty := none, definition := none, reference := none, origin := none }
def pA' : PropT Val := {
  name := ['a'], dtype := some .float, values := [.flt 2, .flt 7],
  unit := none, uncertainty := some 1, definition := some ['D'], reference := none, origin := none }
def eDest : Sec Val :=
  .mk (attrs0 ['d'] ['t']) [pA] [.mk (attrs0 ['x'] ['t']) [pA] [], .mk (attrs0 ['y'] ['t']) [] []]
def eSrc : Sec Val :=
  .mk { attrs0 ['s'] ['t'] with definition := some ['D', 'e', 'f'] } [pA']
      [.mk (attrs0 ['x'] ['t']) [pA'] [], .mk (attrs0 ['z'] ['u']) [pA] []]

example : wfSec convC eSrc = true ∧ typedSec eDest = true ∧ typeClash eDest eSrc = false ∧
    mergeCheck convC false eDest eSrc = .ok ∧ (merge convC false default eDest eSrc).2 = .ok := by
  decide +kernel
example : treeConflict eDest eSrc = true ∧
    (merge convC true default eDest eSrc).2 = .raised .valueError := by decide +kernel
/-- the lenient merge converts `1.0 → 1` (already there) and `3.5 → 3` -/
example : ((propMerge convC false pA pA').1.values = [.int 1, .int 2, .int 3]) := by decide +kernel

end C13
