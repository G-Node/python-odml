/-
C14 — Paths address exactly one object and traversals enumerate exactly the tree.

The property theorems; the lemmas on positions, `posixpath` and the queue loop are in `Proofs/Path*.lean`.
Model: `Model/Path.lean`, `Model/PathTree.lean`, `Model/PathName.lean`, `Model/PathMove.lean`,
`Py/Posix.lean` (tied to /repo and to the real `posixpath` by `harness/c14.py`). Objects are identified by their position (index path).
All statements are for every Document tree `d` that is well formed and path-safe (`d.wf`:
sibling names pairwise distinct, non-empty, free of `/` and `:`, different from `.` and `..`),
without any bound on size or depth.
-/
import OdmlModel.Proofs.PathRel
import OdmlModel.Proofs.PathRelated
import OdmlModel.Proofs.PathName
import OdmlModel.Proofs.PathMove

namespace C14
open PathTree Path Py Py.Posix PathName PathMove

/-! ## 1. Absolute paths -/

/-- Looking `s.get_path()` up from the Document or from any Section (`cur` is arbitrary)
    returns that very Section. -/
theorem abs_path_resolves (d : Doc) (hw : d.wf = true) (cur p : Pos) (s : Sec)
    (hp : secAt d.secs p = some s) :
    ∃ path, getPath d p = some path ∧ getSectionByPath d cur path = .ok p := by
  obtain ⟨ns, hn⟩ := namesAlong_of_secAt _ _ _ hp
  refine ⟨'/' :: joinSlash ns, by simp [getPath, hn], ?_⟩
  exact resolve_absolute d cur p ns hw (secAt_ne_nil _ _ _ hp) hn

/-- Looking `p.get_path()` of a Property up from anywhere returns that very Property. -/
theorem abs_prop_path_resolves (d : Doc) (hw : d.wf = true) (cur p : Pos) (s : Sec) (k : Nat)
    (pr : PropT) (hp : secAt d.secs p = some s) (hk : s.props[k]? = some pr) :
    ∃ path, propPath d p k = some path ∧ getPropertyByPath d cur path = .ok (p, k) := by
  obtain ⟨ns, hn⟩ := namesAlong_of_secAt _ _ _ hp
  have hres := resolve_absolute d cur p ns hw (secAt_ne_nil _ _ _ hp) hn
  have hplain := namesAlong_plain _ _ _ hw hn
  have hcolon : ':' ∉ ('/' :: joinSlash ns) := by
    simp only [List.mem_cons, not_or]
    exact ⟨by decide, not_mem_joinSlash ':' (by decide) ns
      (fun n hn' => ((plainName_iff n).1 (hplain n hn')).2.2.1)⟩
  refine ⟨('/' :: joinSlash ns) ++ ':' :: pr.name, by simp [propPath, getPath, hn, hp, hk], ?_⟩
  exact property_lookup d cur p s k pr _ hw hcolon hres hp hk

/-! ## 2. Relative paths -/

/-- What `a.get_relative_path(b)` is, in terms of the names along the two positions
    (character-wise `commonprefix` + `dirname` + `relpath` + `normpath` collapse to the
    segment-wise description `relSpec`, also for names that are prefixes of one another). -/
theorem rel_path_spec (d : Doc) (hw : d.wf = true) (a b : Pos) (sa sb : Sec)
    (ha : secAt d.secs a = some sa) (hb : secAt d.secs b = some sb) (na nb : List Str)
    (hna : namesAlong d.secs a = some na) (hnb : namesAlong d.secs b = some nb) :
    getRelativePath d a b = some (relSpec na nb) := by
  simp only [getRelativePath, getPath, hna, hnb, Option.map_some]
  rw [relativePath_segments na nb (namesAlong_ne_nil hna (secAt_ne_nil _ _ _ ha))
    (namesAlong_ne_nil hnb (secAt_ne_nil _ _ _ hb))
    (fun n hn => SegOk_of_plain (namesAlong_plain _ _ _ hw hna n hn))
    (fun n hn => SegOk_of_plain (namesAlong_plain _ _ _ hw hnb n hn))]

/-- For any two Sections `a` and `b` (including `b = a`, `b` an ancestor of `a`, names sharing
    a prefix, only the Document in common): resolving `a.get_relative_path(b)` from `a`
    returns `b`. -/
theorem rel_path_resolves (d : Doc) (hw : d.wf = true) (a b : Pos) (sa sb : Sec)
    (ha : secAt d.secs a = some sa) (hb : secAt d.secs b = some sb) :
    ∃ path, getRelativePath d a b = some path ∧ getSectionByPath d a path = .ok b := by
  obtain ⟨na, hna⟩ := namesAlong_of_secAt _ _ _ ha
  obtain ⟨nb, hnb⟩ := namesAlong_of_secAt _ _ _ hb
  exact ⟨relSpec na nb, rel_path_spec d hw a b sa sb ha hb na nb hna hnb,
    resolve_rel d hw a b sa sb na nb ha hb hna hnb⟩

/-- The same through `get_property_by_path`: `a.get_relative_path(b) + ":" + p.name`
    looked up from `a` returns the Property `p` of `b`. -/
theorem rel_prop_path_resolves (d : Doc) (hw : d.wf = true) (a b : Pos) (sa sb : Sec) (k : Nat)
    (pr : PropT) (ha : secAt d.secs a = some sa) (hb : secAt d.secs b = some sb)
    (hk : sb.props[k]? = some pr) :
    ∃ path, getRelativePath d a b = some path ∧
      getPropertyByPath d a (path ++ ':' :: pr.name) = .ok (b, k) := by
  obtain ⟨na, hna⟩ := namesAlong_of_secAt _ _ _ ha
  obtain ⟨nb, hnb⟩ := namesAlong_of_secAt _ _ _ hb
  refine ⟨relSpec na nb, rel_path_spec d hw a b sa sb ha hb na nb hna hnb, ?_⟩
  refine property_lookup d a b sb k pr _ hw (relSpec_no_colon na nb fun n hn => ?_)
    (resolve_rel d hw a b sa sb na nb ha hb hna hnb) hb hk
  exact ((plainName_iff n).1 (namesAlong_plain _ _ _ hw hnb n hn)).2.2.1

def legacyDoc : Doc := ⟨[.mk ['a'] ['t'] [] [.mk ['b'] ['t'] [] []]]⟩

/-- When a last path step `.` / `..` is looked up as a child *name* (`resolveSegsLegacy`), the
    relative path from a Section to its parent (`..`) cannot be resolved; taken as a step it
    leads to the parent. -/
theorem legacy_last_step_counterexample :
    legacyDoc.wf = true ∧ getRelativePath legacyDoc [0, 0] [0] = some ['.', '.'] ∧
    resolveSegsLegacy legacyDoc [0, 0] (Py.splitOn '/' ['.', '.']) = .valueError ∧
    getSectionByPath legacyDoc [0, 0] ['.', '.'] = .ok [0] := by decide +kernel

/-! ## 3. Traversals -/

/-- The `while len(stack) > 0` loop with `pop(0)` / `append` visits the tree **breadth first**:
    first the whole initial queue, then all children (in child-list order) of those entries
    whose level is below `max_depth`, then their children, … -/
theorem bfs_level_order (md : Option Int) (xs : List Entry) :
    bfs md xs = levelsUpTo md xs (qsize xs + 1) :=
  bfs_eq_levels md _ xs (Nat.lt_succ_self _)

/-- the test `filter_func(sec) and (yield_self if level == 0 else True)` -/
def keeps (yieldSelf : Bool) (f : Sec → Bool) (e : Entry) : Bool :=
  f e.2.1 && (if e.2.2 = 0 then yieldSelf else true)

/-- `itersections` = the level-by-level listing, filtered. -/
theorem itersections_bfs (d : Doc) (start : Pos) (md : Option Int) (ys : Bool) (f : Sec → Bool) :
    itersections d start md ys f =
      ((levelsUpTo md (initialQueue d start md) (qsize (initialQueue d start md) + 1)).filter
        (keeps ys f)).map (·.1) := by
  unfold itersections
  rw [bfs_level_order]
  rfl

theorem itersections_pairwise (d : Doc) (start : Pos) (md : Option Int) (ys : Bool) (f : Sec → Bool) :
    (itersections d start md ys f).Pairwise (fun p q => p.length ≤ q.length ∧ p ≠ q) := by
  unfold itersections
  rw [List.pairwise_map]
  exact (bfs_initialQueue_pairwise d start md).filter _

/-- **Breadth first**: Sections are yielded in the order of their depth. -/
theorem itersections_level_sorted (d : Doc) (start : Pos) (md : Option Int) (ys : Bool)
    (f : Sec → Bool) :
    (itersections d start md ys f).Pairwise (fun p q => p.length ≤ q.length) :=
  (itersections_pairwise d start md ys f).imp (fun h => h.1)

/-- **Exactly once**: no Section is yielded twice. -/
theorem itersections_nodup (d : Doc) (start : Pos) (md : Option Int) (ys : Bool) (f : Sec → Bool) :
    (itersections d start md ys f).Nodup :=
  (itersections_pairwise d start md ys f).imp (fun h => h.2)

/-- **Exactly the tree below the start** (start on a Section): a position is yielded iff it is a
    valid Section at or below the start, passes the filter, and is either the start itself
    with `yield_self`, or strictly below it within `max_depth` levels. -/
theorem itersections_mem (d : Doc) (start : Pos) (s0 : Sec) (md : Option Int) (ys : Bool)
    (f : Sec → Bool) (hs : secAt d.secs start = some s0) (p : Pos) :
    p ∈ itersections d start md ys f ↔
      ∃ r sec, p = start ++ r ∧ secAt d.secs p = some sec ∧ f sec = true ∧
        ((r = [] ∧ ys = true) ∨ (r ≠ [] ∧ withinDepth md r.length)) := by
  have hq : initialQueue d start md = [(start, s0, 0)] := by
    cases start with
    | nil => simp [secAt] at hs
    | cons i t => simp [initialQueue, hs]
  simp only [itersections, mem_filter_map_fst, mem_bfs, hq, List.mem_singleton, exists_eq_left,
    ReachVia, Nat.zero_add, Bool.and_eq_true]
  constructor
  · rintro ⟨_, ⟨r, t, ht, rfl, hd⟩, ⟨hf, hy⟩, rfl⟩
    refine ⟨r, t, rfl, (secAt_append_eq_secBelow hs r).trans ht, hf, ?_⟩
    cases r with
    | nil => exact .inl ⟨rfl, by simpa using hy⟩
    | cons j r => exact .inr ⟨by simp, by simpa using hd⟩
  · rintro ⟨r, t, rfl, ht, hf, hd⟩
    rw [secAt_append_eq_secBelow hs] at ht
    refine ⟨_, ⟨r, t, ht, rfl, hd.imp (·.1) (·.2)⟩, ⟨hf, ?_⟩, rfl⟩
    rcases hd with ⟨rfl, hy⟩ | ⟨hr, _⟩
    · simpa using hy
    · simp [hr]

/-- Started on the Document: every Section of the document within `max_depth` levels that
    passes the filter, and nothing else (the Document itself is never yielded). -/
theorem itersections_mem_document (d : Doc) (md : Option Int) (ys : Bool) (f : Sec → Bool) (p : Pos) :
    p ∈ itersections d [] md ys f ↔
      ∃ sec, secAt d.secs p = some sec ∧ f sec = true ∧ withinDepth md p.length := by
  simp only [itersections, mem_filter_map_fst, mem_bfs, initialQueue_document, Bool.and_eq_true]
  constructor
  · rintro ⟨e, ⟨y, hy, r, hr⟩, ⟨hf, _⟩, rfl⟩
    obtain ⟨_, j, s, _, rfl⟩ := (mem_pushed ..).1 hy
    obtain ⟨t, ht, rfl, hd⟩ := (reachVia_cons ..).2 ⟨_, hy, rfl, hr⟩
    exact ⟨t, ht, hf, by simpa [docEntry] using hd⟩
  · rintro ⟨t, ht, hf, hd⟩
    cases p with
    | nil => simp [secAt] at ht
    | cons j r =>
      obtain ⟨y, hy, _, hr⟩ :=
        (reachVia_cons md (docEntry d) (j :: r, t, r.length + 1) j r).1
          ⟨t, ht, by simp [docEntry], .inr (by simpa [docEntry] using hd)⟩
      exact ⟨_, ⟨y, hy, r, hr⟩, ⟨hf, by simp⟩, rfl⟩

/-- `iterproperties` yields exactly the Properties (passing the filter) of the Sections that
    `itersections(yield_self=True)` visits … -/
theorem iterproperties_mem (d : Doc) (start : Pos) (md : Option Int) (f : PropT → Bool)
    (x : Pos × Nat) :
    x ∈ iterproperties d start md f ↔
      x.1 ∈ itersections d start md true (fun _ => true) ∧
      ∃ s pr, secAt d.secs x.1 = some s ∧ s.props[x.2]? = some pr ∧ f pr = true := by
  have hv := bfs_valid d start md
  simp only [iterproperties, itersections, mem_filter_map_fst, List.mem_flatMap, mem_propsOf,
    Nat.zero_add]
  constructor
  · rintro ⟨e, he, h1, j, pr, hj, hk, hf⟩
    exact ⟨⟨e, he, by simp, h1.symm⟩, e.2.1, pr, h1 ▸ hv e he, hk ▸ hj, hf⟩
  · rintro ⟨⟨e, he, _, hp⟩, s, pr, hs, hk, hf⟩
    obtain rfl : e.2.1 = s := Option.some.inj ((hv e he).symm.trans (hp ▸ hs))
    exact ⟨e, he, hp.symm, x.2, pr, hk, rfl, hf⟩

/-- … each exactly once, Sections in breadth-first order. -/
theorem iterproperties_once_bfs (d : Doc) (start : Pos) (md : Option Int) (f : PropT → Bool) :
    (iterproperties d start md f).Nodup ∧
    (iterproperties d start md f).Pairwise (fun a b => a.1.length ≤ b.1.length) :=
  ⟨(iterproperties_pairwise d start md f).imp (fun h => h.2),
   (iterproperties_pairwise d start md f).imp (fun h => h.1)⟩

/-- `itervalues` yields exactly the value lists (identified by their Property) that pass the
    filter, of the Properties of the visited Sections, each once, breadth first. -/
theorem itervalues_spec (d : Doc) (start : Pos) (md : Option Int) (f : List Int → Bool) :
    (∀ x, x ∈ itervalues d start md f ↔
      x.1 ∈ itersections d start md true (fun _ => true) ∧
      ∃ s pr, secAt d.secs x.1 = some s ∧ s.props[x.2]? = some pr ∧ f pr.vals = true) ∧
    (itervalues d start md f).Nodup ∧
    (itervalues d start md f).Pairwise (fun a b => a.1.length ≤ b.1.length) :=
  ⟨iterproperties_mem d start md _, iterproperties_once_bfs d start md _⟩

/-! ## 4. find -/

/-- `q` is a direct child Section of `cur` that satisfies the requested name / type -/
def MatchingChild (lw : Str → Str) (d : Doc) (cur : Pos) (key type : Option Str) (sub : Bool) (q : Pos) : Prop :=
  ∃ l j s, kidsAt d.secs cur = some l ∧ l[j]? = some s ∧ q = cur ++ [j] ∧
    matchesObj lw (some s) key (lowerReq lw type) sub = true

theorem find_list (lw : Str → Str) (d : Doc) (cur : Pos) (key type : Option Str) (sub : Bool) (l : List Sec)
    (hl : kidsAt d.secs cur = some l) (q : Pos) :
    q ∈ findAllIn lw cur key (lowerReq lw type) sub 0 l ↔ MatchingChild lw d cur key type sub q := by
  simp only [mem_findAllIn, MatchingChild, hl, Option.some.injEq, Nat.zero_add]
  exact ⟨fun ⟨j, s, h⟩ => ⟨l, j, s, rfl, h⟩, fun ⟨_, j, s, hl, h⟩ => hl ▸ ⟨j, s, h⟩⟩

/-- `find` returns only direct children satisfying the requested name / type. -/
theorem find_sound (lw : Str → Str) (d : Doc) (cur : Pos) (key type : Option Str) (all sub : Bool) :
    (∀ q, find lw d cur key type all sub = .one q → MatchingChild lw d cur key type sub q) ∧
    (∀ qs, find lw d cur key type all sub = .many qs →
      qs ≠ [] ∧ ∀ q ∈ qs, MatchingChild lw d cur key type sub q) := by
  unfold find
  cases hl : kidsAt d.secs cur with
  | none => simp
  | some l =>
    simp only [ofList_eq_one, ofList_eq_many]
    exact ⟨fun q ⟨_, hq⟩ => (find_list lw d cur key type sub l hl q).1 (List.mem_of_mem_head? hq),
      fun qs ⟨_, hne, he⟩ => he ▸ ⟨hne, fun q => (find_list lw d cur key type sub l hl q).1⟩⟩

/-- `find` finds one if any exists. -/
theorem find_complete (lw : Str → Str) (d : Doc) (cur : Pos) (key type : Option Str) (all sub : Bool) (q : Pos)
    (h : MatchingChild lw d cur key type sub q) : find lw d cur key type all sub ≠ .none := by
  obtain ⟨l, j, s, hl, h⟩ := h
  have hmem := (find_list lw d cur key type sub l hl q).2 ⟨l, j, s, hl, h⟩
  simp only [find, hl, ne_eq, ofList_eq_none]
  exact List.ne_nil_of_mem hmem

/-- `find(findAll=True)` returns exactly the matching children. -/
theorem find_all_exact (lw : Str → Str) (d : Doc) (cur : Pos) (key type : Option Str) (sub : Bool) (qs : List Pos)
    (h : find lw d cur key type true sub = .many qs) (q : Pos) :
    q ∈ qs ↔ MatchingChild lw d cur key type sub q := by
  unfold find at h
  cases hl : kidsAt d.secs cur with
  | none => simp [hl] at h
  | some l =>
    simp only [hl, ofList_eq_many] at h
    exact h.2.2 ▸ find_list lw d cur key type sub l hl q

/-! ## 5. find_related -/

/-- the Document (`[]`) has neither name nor type -/
def nodeAt (d : Doc) (q : Pos) : Option Sec :=
  match q with
  | [] => none
  | _ => secAt d.secs q

/-- `q` satisfies the requested name / type **and** stands in one of the requested relations
    to `cur`: below it (directly, or at any depth when `recursive`), a child of its parent,
    or its parent (any ancestor up to the Document when `recursive`). On the siblings path the
    request is lower-cased twice, as by `parent.find` (see `find_related_caseless`). -/
def RelatedMatch (lw : Str → Str) (d : Doc) (cur : Pos) (key type : Option Str)
    (children siblings parents recursive : Bool) (q : Pos) : Prop :=
  (children = true ∧ ∃ l r sec, kidsAt d.secs cur = some l ∧ r ≠ [] ∧ q = cur ++ r ∧
      secAt l r = some sec ∧ (recursive = true ∨ r.length = 1) ∧
      matchesObj lw (some sec) key (lowerReq lw type) false = true) ∨
  (siblings = true ∧ cur ≠ [] ∧ MatchingChild lw d cur.dropLast key (lowerReq lw type) false q) ∨
  (parents = true ∧ ∃ k, k < cur.length ∧ q = cur.take k ∧ (recursive = true ∨ k + 1 = cur.length) ∧
      matchesObj lw (nodeAt d q) key (lowerReq lw type) false = true)

theorem find_related_mem (lw : Str → Str) (d : Doc) (cur : Pos) (key type : Option Str)
    (c s p r : Bool) (q : Pos) :
    q ∈ findRelatedAll lw d cur key type c s p r ↔ RelatedMatch lw d cur key type c s p r q := by
  unfold findRelatedAll RelatedMatch
  simp only [List.mem_append, or_assoc, List.mem_ite_nil_right]
  refine or_congr (and_congr_right fun _ => ?_)
    (or_congr (and_congr_right fun _ => ?_) (and_congr_right fun _ => ?_))
  · cases kidsAt d.secs cur with
    | none => exact ⟨nofun, fun ⟨_, _, _, h, _⟩ => nomatch h⟩
    | some l =>
      simp only [mem_filter_map_fst, Prod.exists, mem_preList, Bool.and_eq_true,
        Bool.or_eq_true, decide_eq_true_eq, Option.some.injEq]
      constructor
      · rintro ⟨_, sec, ⟨rr, hrr, rfl, hs⟩, ⟨hcond, hm⟩, rfl⟩
        exact ⟨l, rr, sec, rfl, hrr, rfl, hs, hcond.imp_right (by simp), hm⟩
      · rintro ⟨_, rr, sec, rfl, hrr, rfl, hs, hcond, hm⟩
        exact ⟨_, sec, ⟨rr, hrr, rfl, hs⟩, ⟨hcond.imp_right (by simp), hm⟩, rfl⟩
  · by_cases hc : cur = []
    · simp [parentOf, hc]
    · simp only [parentOf, hc, ↓reduceIte, ne_eq, not_false_eq_true, true_and]
      cases hl : kidsAt d.secs cur.dropLast with
      | none => exact ⟨nofun, fun ⟨_, _, _, h, _⟩ => nomatch hl ▸ h⟩
      | some l => exact find_list lw d cur.dropLast key (lowerReq lw type) false l hl q
  · rw [List.mem_filter, mem_ancestors_upto]
    exact ⟨fun ⟨⟨k, h1, h2, h3⟩, hm⟩ => ⟨k, h1, h2, h3, hm⟩,
      fun ⟨k, h1, h2, h3, hm⟩ => ⟨⟨k, h1, h2, h3⟩, hm⟩⟩

/-- `find_related` returns only objects satisfying the requested name / type within the
    requested relation (per flag). -/
theorem find_related_sound (lw : Str → Str) (d : Doc) (cur : Pos) (key type : Option Str) (c s p r all : Bool) :
    (∀ q, findRelated lw d cur key type c s p r all = .one q → RelatedMatch lw d cur key type c s p r q) ∧
    (∀ qs, findRelated lw d cur key type c s p r all = .many qs →
      qs ≠ [] ∧ ∀ q, q ∈ qs ↔ RelatedMatch lw d cur key type c s p r q) := by
  simp only [findRelated, ofList_eq_one, ofList_eq_many]
  exact ⟨fun q ⟨_, hq⟩ => (find_related_mem lw d cur key type c s p r q).1 (List.mem_of_mem_head? hq),
    fun qs ⟨_, hne, he⟩ => he ▸ ⟨hne, find_related_mem lw d cur key type c s p r⟩⟩

/-- … and finds one if any exists. -/
theorem find_related_complete (lw : Str → Str) (d : Doc) (cur : Pos) (key type : Option Str) (c s p r all : Bool)
    (q : Pos) (h : RelatedMatch lw d cur key type c s p r q) :
    findRelated lw d cur key type c s p r all ≠ .none := by
  simp only [findRelated, ne_eq, ofList_eq_none]
  exact List.ne_nil_of_mem ((find_related_mem lw d cur key type c s p r q).2 h)

/-! ## 5b. The type comparison is "equal after `str.lower`", whatever `str.lower` does to a letter

`lw` (= `str.lower`) is a parameter of the model, so `find_sound` … `find_related_complete` hold
for every such function. The theorems below spell the comparison out. They use two facts about
`str.lower` only: it maps the empty string to the empty string (`find` does not lower-case a falsy
request) and, for the siblings relation of `find_related` (the request is lower-cased by
`find_related` and once more by `parent.find`), it is idempotent. -/

/-- the requested name: none, or the name of the Section -/
def NameOk (key : Option Str) (s : Sec) : Prop := key = none ∨ key = some s.name

theorem matches_caseless (lw : Str → Str) (h0 : lw [] = []) (o : Option Sec) (key : Option Str)
    (t : Str) (sub : Bool) :
    matchesObj lw o key (lowerReq lw (some t)) sub = true ↔
      ∃ s, o = some s ∧ NameOk key s ∧ (lw s.type = lw t ∨
        (sub = true ∧ lw t ∈ (Py.splitOn '/' (lw s.type)).dropLast)) := by
  rw [lowerReq_some lw h0]
  unfold matchesObj NameOk
  cases o with
  | none => cases key <;> cases sub <;> simp
  | some s =>
    simp only [Option.some.injEq, exists_eq_left']
    cases key <;> cases sub <;> simp [@eq_comm _ (Sec.name _)]

/-- **find compares types after `str.lower` on both sides.** -/
theorem find_caseless (lw : Str → Str) (h0 : lw [] = []) (d : Doc) (cur : Pos) (key : Option Str)
    (t : Str) (sub : Bool) (q : Pos) :
    MatchingChild lw d cur key (some t) sub q ↔
      ∃ l j s, kidsAt d.secs cur = some l ∧ l[j]? = some s ∧ q = cur ++ [j] ∧ NameOk key s ∧
        (lw s.type = lw t ∨ (sub = true ∧ lw t ∈ (Py.splitOn '/' (lw s.type)).dropLast)) := by
  simp only [MatchingChild, matches_caseless lw h0, Option.some.injEq, exists_eq_left']

/-- **A child whose type is the requested string is found** (and so is one whose type differs from
    it by what `str.lower` removes), whatever `str.lower` does to the letters of the type: the
    clause "find one if any exists" for types with letters outside ASCII. -/
theorem find_type_as_stored (lw : Str → Str) (h0 : lw [] = []) (d : Doc) (cur : Pos) (l : List Sec)
    (j : Nat) (s : Sec) (key : Option Str) (t : Str) (all sub : Bool)
    (hl : kidsAt d.secs cur = some l) (hj : l[j]? = some s) (hk : NameOk key s)
    (ht : t = s.type ∨ lw t = lw s.type) :
    find lw d cur key (some t) all sub ≠ .none ∧
    (∀ qs, find lw d cur key (some t) true sub = .many qs → cur ++ [j] ∈ qs) := by
  have hlt : lw s.type = lw t := by
    rcases ht with h | h
    · rw [h]
    · exact h.symm
  have hm : MatchingChild lw d cur key (some t) sub (cur ++ [j]) :=
    (find_caseless lw h0 d cur key t sub _).2 ⟨l, j, s, hl, hj, rfl, hk, Or.inl hlt⟩
  exact ⟨find_complete lw d cur key (some t) all sub _ hm,
    fun qs hqs => (find_all_exact lw d cur key (some t) sub qs hqs _).2 hm⟩

/-- **find_related compares types after `str.lower` in each of the three relations** (the same
    comparison as `find`; the second lower-casing on the siblings path changes nothing). -/
theorem find_related_caseless (lw : Str → Str) (h0 : lw [] = []) (hid : ∀ x, lw (lw x) = lw x)
    (d : Doc) (cur : Pos) (key : Option Str) (t : Str) (c s p r : Bool) (q : Pos) :
    RelatedMatch lw d cur key (some t) c s p r q ↔
      (c = true ∧ ∃ l rr sec, kidsAt d.secs cur = some l ∧ rr ≠ [] ∧ q = cur ++ rr ∧
        secAt l rr = some sec ∧ (r = true ∨ rr.length = 1) ∧ NameOk key sec ∧ lw sec.type = lw t) ∨
      (s = true ∧ cur ≠ [] ∧ ∃ l j sec, kidsAt d.secs cur.dropLast = some l ∧ l[j]? = some sec ∧
        q = cur.dropLast ++ [j] ∧ NameOk key sec ∧ lw sec.type = lw t) ∨
      (p = true ∧ ∃ k sec, k < cur.length ∧ q = cur.take k ∧ (r = true ∨ k + 1 = cur.length) ∧
        nodeAt d q = some sec ∧ NameOk key sec ∧ lw sec.type = lw t) := by
  simp only [RelatedMatch, MatchingChild, lowerReq_idem lw h0 hid, matches_caseless lw h0,
    Bool.false_eq_true, false_and, or_false, Option.some.injEq, exists_eq_left']
  refine or_congr_right (or_congr_right (and_congr_right fun _ => ?_))
  exact ⟨fun ⟨k, h1, h2, h3, sec, h4⟩ => ⟨k, sec, h1, h2, h3, h4⟩,
    fun ⟨k, sec, h1, h2, h3, h4⟩ => ⟨k, h1, h2, h3, sec, h4⟩⟩

/-- **A Section in a requested relation whose type is the requested string is found** by
    `find_related`, whatever `str.lower` does to its letters. -/
theorem find_related_type_as_stored (lw : Str → Str) (h0 : lw [] = [])
    (hid : ∀ x, lw (lw x) = lw x) (d : Doc) (cur : Pos) (key : Option Str) (t : Str)
    (c s p r all : Bool) (q : Pos)
    (h : (c = true ∧ ∃ l rr sec, kidsAt d.secs cur = some l ∧ rr ≠ [] ∧ q = cur ++ rr ∧
          secAt l rr = some sec ∧ (r = true ∨ rr.length = 1) ∧ NameOk key sec ∧ sec.type = t) ∨
        (s = true ∧ cur ≠ [] ∧ ∃ l j sec, kidsAt d.secs cur.dropLast = some l ∧ l[j]? = some sec ∧
          q = cur.dropLast ++ [j] ∧ NameOk key sec ∧ sec.type = t) ∨
        (p = true ∧ ∃ k sec, k < cur.length ∧ q = cur.take k ∧ (r = true ∨ k + 1 = cur.length) ∧
          nodeAt d q = some sec ∧ NameOk key sec ∧ sec.type = t)) :
    findRelated lw d cur key (some t) c s p r all ≠ .none := by
  apply find_related_complete lw d cur key (some t) c s p r all q
  rw [find_related_caseless lw h0 hid]
  rcases h with ⟨hc, l, rr, sec, h1, h2, h3, h4, h5, h6, h7⟩ | ⟨hs, hc, l, j, sec, h1, h2, h3, h4, h5⟩ |
      ⟨hp, k, sec, h1, h2, h3, h4, h5, h6⟩
  · exact Or.inl ⟨hc, l, rr, sec, h1, h2, h3, h4, h5, h6, by rw [h7]⟩
  · exact Or.inr (Or.inl ⟨hs, hc, l, j, sec, h1, h2, h3, h4, by rw [h5]⟩)
  · exact Or.inr (Or.inr ⟨hp, k, sec, h1, h2, h3, h4, h5, by rw [h6]⟩)

/-- What goes wrong when the two sides do NOT go through the same function (the request through
    `fold`, the type of the Section through `lw`): a child whose type is the requested string is
    missed as soon as the two functions differ on it. Concrete instance with a two-letter
    alphabet: `lw` keeps the string, `fold` maps `s` to `z`. -/
theorem mixed_folding_counterexample :
    let lw : Str → Str := id
    let fold : Str → Str := fun t => t.map (fun ch => if ch = 's' then 'z' else ch)
    let d : Doc := ⟨[.mk ['a'] ['s'] [] []]⟩
    find lw d [] none (some ['s']) false false = .one [0] ∧
    Found.ofList false (findAllIn lw [] none (some (fold ['s'])) false 0 d.secs) = .none := by
  decide +kernel

/-! ## 5c. The hypothesis "sibling names are pairwise distinct" is kept by the name setter
(model `Model/PathName.lean`, tied to /repo by the stream `setname`) -/

/-- The name setter keeps the sibling names pairwise distinct, whatever it is given (a name, `None`,
    `""`), whatever the id of the object is - also when the id is the name of a sibling. -/
theorem set_name_keeps_distinct (sibs : List Str) (i : Nat) (oid : Str) (new : Option Str)
    (r : List Str) (hd : distinct sibs = true) (h : setName sibs i oid new = .ok r) :
    distinct r = true := by
  rcases setName_ok h with ⟨rfl, _⟩ | ⟨hc, rfl⟩
  · exact hd
  · exact distinct_set sibs i _ hd hc

/-- ... and plain (inside the property's quantifier), provided the id and a non-empty given name are. -/
theorem set_name_keeps_plain (sibs : List Str) (i : Nat) (oid : Str) (new : Option Str)
    (r : List Str) (hp : sibs.all plainName = true) (hid : plainName oid = true)
    (hnew : ∀ n, new = some n → n ≠ [] → plainName n = true)
    (h : setName sibs i oid new = .ok r) : r.all plainName = true := by
  rcases setName_ok h with ⟨rfl, _⟩ | ⟨_, rfl⟩
  · exact hp
  · refine all_plain_set sibs i _ hp ?_
    unfold stored
    cases new with
    | none => simpa [falsy] using hid
    | some n =>
      by_cases hn : n = []
      · simpa [falsy, hn] using hid
      · simpa [falsy, hn] using hnew n rfl hn

/-- What the setter stores: the given name, or the id when the given name is `None` / `""`; the other
    entries of the child list keep their names and places (the current name is not empty: the setter
    never stores an empty one). -/
theorem set_name_stores (sibs : List Str) (i : Nat) (oid : Str) (new : Option Str) (r : List Str)
    (hi : i < sibs.length) (hne : sibs[i] ≠ []) (h : setName sibs i oid new = .ok r) :
    r = sibs.set i (stored oid new) := by
  rcases setName_ok h with ⟨rfl, hcur⟩ | ⟨_, rfl⟩
  · rw [hcur _ (List.getElem?_eq_getElem hi) hne, List.set_getElem_self]
  · rfl

/-- The first clause of the property after a rename: a forest whose top-level names are what the setter
    leaves (`l'` = `l` with entry `i` renamed; nothing below a Section depends on its own name) is well
    formed and path safe again, so every path theorem applies to it. -/
theorem set_name_keeps_wf (l l' : List Sec) (i : Nat) (oid : Str) (new : Option Str)
    (hw : wfForest l = true) (hbelow : wfList l' = true)
    (hid : plainName oid = true) (hnew : ∀ n, new = some n → n ≠ [] → plainName n = true)
    (h : setName (l.map (·.name)) i oid new = .ok (l'.map (·.name))) : wfForest l' = true := by
  simp only [wfForest, Bool.and_eq_true] at hw ⊢
  exact ⟨⟨hbelow, set_name_keeps_plain _ i oid new _ hw.1.2 hid hnew h⟩,
    set_name_keeps_distinct _ i oid new _ hw.2 h⟩

/-- ... in particular: after `child.name = new` on a top-level Section of a well-formed Document every
    Section is found again by its path, from the Document and from every Section. -/
theorem paths_resolve_after_set_name (d d' : Doc) (i : Nat) (oid : Str) (new : Option Str)
    (hw : d.wf = true) (hbelow : wfList d'.secs = true)
    (hid : plainName oid = true) (hnew : ∀ n, new = some n → n ≠ [] → plainName n = true)
    (h : setName (d.secs.map (·.name)) i oid new = .ok (d'.secs.map (·.name)))
    (cur p : Pos) (s : Sec) (hp : secAt d'.secs p = some s) :
    ∃ path, getPath d' p = some path ∧ getSectionByPath d' cur path = .ok p :=
  abs_path_resolves d' (set_name_keeps_wf d.secs d'.secs i oid new hw hbelow hid hnew h) cur p s hp

/-- The order of the two steps matters: with the sibling check on the
    value as given and the fall-back to the id in the final assignment, clearing the name of an object
    whose id is the name of a sibling yields two siblings of one name; the setter as it is refuses. -/
theorem late_fallback_counterexample :
    let sibs : List Str := [['s'], ['i', 'd']]
    setNameLate sibs 0 ['i', 'd'] none = .ok [['i', 'd'], ['i', 'd']] ∧
    distinct [['i', 'd'], ['i', 'd']] = false ∧
    setName sibs 0 ['i', 'd'] none = .keyError ∧
    setName sibs 0 ['i', 'd'] (some []) = .keyError := by
  decide +kernel

/-- the hypotheses are satisfiable, and the setter does rename / fall back / refuse -/
example : setName [['a'], ['b']] 0 ['i'] (some ['c']) = .ok [['c'], ['b']] ∧
    setName [['a'], ['b']] 0 ['i'] none = .ok [['i'], ['b']] ∧
    setName [['a'], ['b']] 0 ['i'] (some ['b']) = .keyError ∧
    setName [['i'], ['b']] 0 ['i'] (some []) = .ok [['i'], ['b']] := by decide +kernel

/-! ## 5d. A refused move leaves every path valid; an accepted one keeps the tree well formed
(model `Model/PathMove.lean`, tied to /repo by the stream `setparent`) -/

/-- A refused move is no edit: whenever `x.parent = new_parent` raises - the name is taken in the new
    child list (by a Section of whatever type, content or id), or the new parent is `x` or lies below
    it - both child lists and the parent reference of `x` are what they were. -/
theorem set_parent_refused_keeps (old : List Kid) (i : Nat) (new : List Kid) (below : Bool)
    (h : (setParent old i new below).raised = true) :
    setParent old i new below = ⟨true, old, new, .old⟩ := by
  rw [setParent_eq] at h ⊢
  split at h
  · cases h
  · split at h
    · rename_i hc; rw [if_pos hc]
    · cases h

/-- An accepted move takes the object out of the old child list and puts it at the end of the new one,
    where its name was free. -/
theorem set_parent_accepted_moves (old : List Kid) (i : Nat) (new : List Kid) (below : Bool) (x : Kid)
    (hx : old[i]? = some x) (h : (setParent old i new below).raised = false) :
    setParent old i new below = ⟨false, old.eraseIdx i, new ++ [x], .new⟩ ∧ nameTaken new x = false ∧
      below = false := by
  rw [setParent_eq, hx] at h ⊢
  dsimp only at h ⊢
  split at h
  · cases h
  · rename_i hc; rw [if_neg hc]; simpa using hc

/-- Refused or accepted, child lists and parent reference agree afterwards: the object is an entry of
    exactly the child list of the holder it names as its parent. -/
theorem set_parent_consistent (old : List Kid) (i : Nat) (new : List Kid) (below : Bool) (x : Kid)
    (hx : old[i]? = some x) : (setParent old i new below).consistent old i new x := by
  rw [setParent_eq, hx]
  dsimp only
  split <;> simp [Moved.consistent]

/-- The move keeps the sibling names of both child lists pairwise distinct. -/
theorem set_parent_keeps_distinct (old : List Kid) (i : Nat) (new : List Kid) (below : Bool)
    (ho : distinct (old.map (·.name)) = true) (hn : distinct (new.map (·.name)) = true) :
    distinct ((setParent old i new below).old.map (·.name)) = true ∧
    distinct ((setParent old i new below).new.map (·.name)) = true := by
  rw [setParent_eq]
  split
  · exact ⟨ho, hn⟩
  · split
    · exact ⟨ho, hn⟩
    · rename_i x _ hc
      have ht : nameTaken new x = false ∧ below = false := by simpa using hc
      rw [map_name_eraseIdx, List.map_append]
      exact ⟨distinct_eraseIdx _ i ho, distinct_append_one _ _ hn (nameTaken_false new x ht.1)⟩

/-- The first clause of the property after `x.parent = doc` for a Section `x` (entry `i` of the child
    list `old` of another holder - another Document, or a Section of another Document) and a
    well-formed Document `d`: refused (`d` stays as it is) or accepted (`x` is the last top-level
    Section of `d'`), every Section of the Document is found by its path, from the Document and from
    every Section, and the child list of the Document is the one the setter leaves. -/
theorem paths_resolve_after_set_parent (d : Doc) (old : List Sec) (i : Nat) (x : Sec) (below : Bool)
    (hw : d.wf = true) (hx : old[i]? = some x) (hxw : x.wf = true) (hxn : plainName x.name = true)
    (d' : Doc)
    (hd' : d' = if (setParent (kids old) i (kids d.secs) below).raised then d else ⟨d.secs ++ [x]⟩) :
    kids d'.secs = (setParent (kids old) i (kids d.secs) below).new ∧
    ∀ (cur p : Pos) (s : Sec), secAt d'.secs p = some s →
      ∃ path, getPath d' p = some path ∧ getSectionByPath d' cur path = .ok p := by
  have hkx : (kids old)[i]? = some ⟨x.name, x.type⟩ := by simp [kids, hx]
  subst hd'
  cases hr : (setParent (kids old) i (kids d.secs) below).raised with
  | true =>
    rw [set_parent_refused_keeps _ i _ below hr]
    exact ⟨rfl, abs_path_resolves d hw⟩
  | false =>
    obtain ⟨he, ht, _⟩ := set_parent_accepted_moves _ i _ below _ hkx hr
    rw [he]
    exact ⟨kids_append d.secs x, abs_path_resolves _ (wfForest_append_one _ x hw hxw hxn
      (kids_names d.secs ▸ nameTaken_false _ _ ht))⟩

/-- The pre-check has to refuse what the child list refuses: with
    `Sectionable.contains` (name AND type) as the pre-check, a Section asked into a holder that has a
    Section of the same name and ANOTHER type is taken out of its old child list, names the new holder
    as its parent, and is then refused by the child list: the call raises and the Section is in no
    list. The setter as it is refuses before anything is touched; for a namesake of the same type the
    two agree. -/
theorem contains_precheck_counterexample :
    let x : Kid := ⟨['p'], ['e']⟩
    let old : List Kid := [x, ⟨['q'], ['e']⟩]
    let new : List Kid := [⟨['p'], ['a']⟩]
    setParentContains old 0 new false = ⟨true, [⟨['q'], ['e']⟩], new, .new⟩ ∧
    ¬ (setParentContains old 0 new false).consistent old 0 new x ∧
    setParent old 0 new false = ⟨true, old, new, .old⟩ ∧
    setParentContains old 0 [⟨['p'], ['e']⟩] false = setParent old 0 [⟨['p'], ['e']⟩] false := by
  refine ⟨by decide, ?_, by decide, by decide⟩
  intro h
  rcases h with ⟨h1, _, _⟩ | ⟨_, _, h3⟩
  · revert h1; decide
  · revert h3; decide

/-- the hypotheses are satisfiable, and the setter does move / refuse -/
example : setParent [⟨['a'], ['t']⟩, ⟨['b'], ['t']⟩] 1 [⟨['a'], ['u']⟩] false
      = ⟨false, [⟨['a'], ['t']⟩], [⟨['a'], ['u']⟩, ⟨['b'], ['t']⟩], .new⟩ ∧
    (setParent [⟨['a'], ['t']⟩, ⟨['b'], ['t']⟩] 0 [⟨['a'], ['u']⟩] false).raised = true ∧
    (setParent [⟨['a'], ['t']⟩] 0 [] true).raised = true := by decide +kernel

/-! ## 6. The hypotheses are satisfiable (non-vacuity) -/

/-- a well-formed, path-safe document with names that are prefixes of one another -/
def exDoc : Doc := ⟨[
  .mk ['a'] ['t'] [⟨['p'], [1]⟩] [
    .mk ['a', 'b'] ['s', 't', 'i', 'm', '/', 'w'] [⟨['p'], [2]⟩, ⟨['a'], [3, 4]⟩] [.mk ['e'] ['t'] [] []],
    .mk ['a', 'b', 'c'] ['T'] [] []],
  .mk ['a', 'b'] ['t'] [] []]⟩

example : exDoc.wf = true := by decide +kernel
example : secAt exDoc.secs [0, 0, 0] ≠ none ∧ secAt exDoc.secs [0, 1] ≠ none := by decide
/-- instances of `rel_path_resolves` on `exDoc`: sibling with a longer name, ancestor, self -/
example : getRelativePath exDoc [0, 0] [0, 1] = some ['.', '.', '/', 'a', 'b', 'c'] ∧
    getSectionByPath exDoc [0, 0] ['.', '.', '/', 'a', 'b', 'c'] = .ok [0, 1] := by decide +kernel

example : getRelativePath exDoc [0, 0, 0] [0] = some ['.', '.', '/', '.', '.'] ∧
    getSectionByPath exDoc [0, 0, 0] ['.', '.', '/', '.', '.'] = .ok [0] := by decide +kernel

example : getRelativePath exDoc [0, 0] [1] = some ['/', 'a', 'b'] := by decide +kernel
/-- the hypotheses of the `find` / `find_related` theorems -/
example : MatchingChild Py.lower exDoc [0] (some ['a', 'b']) none false [0, 0] :=
  ⟨_, 0, _, rfl, rfl, rfl, by decide⟩

example : RelatedMatch Py.lower exDoc [0, 0, 0] none (some ['T']) false false true true [0] :=
  Or.inr (Or.inr ⟨rfl, 1, by decide, rfl, Or.inl rfl, by decide⟩)

end C14
