/-
C19 - Validation observes only: no side effects, repeatable, custom rules stay private.

Lemmas about the registry operations are in `Proofs/Valid.lean`.
Models: `Model/Registry.lean` (registry state machine) and `Model/Valid.lean` (what a handler
collection reports), tied to /repo by `harness/c19.py`.

"Validation changes nothing in the validated objects" and "the same issues in another
process" have no model-level content beyond `run_changes_nothing` /
`validate_order_independent` (the model's validation is a pure function of the tables and the
tree): their content is in the tie, see design.d/C19.md.
-/
import OdmlModel.Model.TermLoad
import OdmlModel.Proofs.Valid

namespace C19

section
open Valid Registry

/-! ## 1. The reported issues do not depend on the iteration order of the handler sets -/

/-- Python iterates a `set` of functions: any order of the handlers of each class yields the
    same multiset of issues.  For arbitrary handlers (`apply`), so also user-defined ones. -/
theorem validate_order_independent {ρ : Type} (apply : ρ → Visit → List Issue)
    (reg reg' : Klass → List ρ) (h : ∀ k, (reg k).Perm (reg' k)) (n : Node) :
    (issuesWith apply reg n).Perm (issuesWith apply reg' n) := by
  unfold issuesWith
  exact flatMap_perm_pointwise _ _ _ (fun v _ => List.Perm.flatMap_right _ (h v.obj.klass))

theorem crash_order_independent {ρ : Type} (crashes : ρ → Visit → Bool)
    (reg reg' : Klass → List ρ) (h : ∀ k, (reg k).Perm (reg' k)) (n : Node) :
    crashesWith crashes reg n = crashesWith crashes reg' n := by
  unfold crashesWith
  congr 1
  funext v
  exact (h v.obj.klass).any_eq

/-- Two handler collections that are equal *as sets* (no duplicates, same members) report the
    same multiset: what another process (another hash seed) computes for the same registry. -/
theorem report_depends_on_sets {ρ : Type} (apply : ρ → Visit → List Issue)
    (reg reg' : Klass → List ρ) (hn : ∀ k, (reg k).Nodup) (hn' : ∀ k, (reg' k).Nodup)
    (h : ∀ k a, a ∈ reg k ↔ a ∈ reg' k) (n : Node) :
    (issuesWith apply reg n).Perm (issuesWith apply reg' n) :=
  validate_order_independent apply reg reg'
    (fun k => (List.perm_ext_iff_of_nodup (hn k) (hn' k)).mpr (h k)) n

/-- Running a validation changes no registry (and the model has nothing else it could change). -/
theorem run_changes_nothing (st : State) (i : Nat) : step st (.run i) = st := rfl

theorem validate_repeatable (cust : Nat → Visit → List Issue) (st : State) (i : Nat) (n : Node) :
    report cust (step st (.run i)) i n = report cust st i n := rfl

/-! ## 2. The default registry is changed by explicit global registration only -/

/-- The operation writes the class-level table: `Validation.register_handler`, or
    `register_custom_handler` on an object created *without* reset (whose `_handlers` is the
    class attribute). -/
def touchesGlobal (st : State) : Op → Bool
  | .registerGlobal _ _ => true
  | .registerCustom i _ _ =>
    match st.insts[i]? with
    | some none => true
    | _ => false
  | _ => false

/-- The step does not write the class-level table (what the library does on its own never
    does: `ctor_and_setter_validations_private`). -/
def stepClean (st : State) : Act → Bool
  | .op o => !touchesGlobal st o
  | .lib _ => true

def cleanB : State → List Act → Bool
  | _, [] => true
  | st, a :: as => stepClean st a && cleanB (act st a) as

/-- A history in which no step writes the class-level table. -/
def Clean (st : State) (as : List Act) : Prop := cleanB st as = true

theorem act_global_of_clean (st : State) (a : Act) (h : stepClean st a = true) :
    (act st a).global = st.global := by
  cases a with
  | lib m => rw [lib_run]
  | op o =>
    cases o with
    | newValidation r => cases r <;> rfl
    | registerGlobal k hd => cases h
    | run i => rfl
    | registerCustom i k hd =>
      simp only [stepClean, touchesGlobal] at h
      simp only [act, step]
      rcases hi : st.insts[i]? with _ | _ | t
      · rfl
      · simp [hi] at h
      · rfl

/-- Whatever the history of default validations, custom validations
    with added rules, object creation, cardinality changes, value assignments, saves and loads —
    as long as nobody registers a handler globally, the default registry is what it was. -/
theorem registry_isolated (as : List Act) : ∀ (st : State), Clean st as →
    (runActs st as).global = st.global := by
  induction as with
  | nil => intro st _; rfl
  | cons a as ih =>
    intro st h
    simp only [Clean, cleanB, Bool.and_eq_true] at h
    exact (ih (act st a) h.2).trans (act_global_of_clean st a h.1)

/-- What the library does on its own (constructors, cardinality setters, value assignment,
    save, load, a default or a custom validation) never writes the class-level table and never
    touches an existing validation object: it only creates new objects; those of the setters
    are reset objects holding exactly the one cardinality rule. -/
theorem ctor_and_setter_validations_private (st : State) (m : Macro) :
    (act st (.lib m)).global = st.global ∧
    (∀ j, j < st.insts.length → (act st (.lib m)).insts[j]? = st.insts[j]?) ∧
    (act st (.lib m)).insts = st.insts ++ m.newObjects := by
  rw [lib_run]
  refine ⟨rfl, ?_, rfl⟩
  intro j hj
  simp [List.getElem?_append_left hj]

/-- A validation created with reset=True starts without any handler (its table is a fresh
    dict, not the class dict). -/
theorem reset_starts_empty (st : State) (k : Klass) :
    effective (step st (.newValidation true)) st.insts.length k = [] := by
  simp [effective, step, Table.empty]

/-- A validation created without reset uses the class-level table. -/
theorem default_uses_global (st : State) (i : Nat) (h : isReset st i = false) :
    effective st i = st.global := by
  unfold effective
  unfold isReset at h
  cases hi : st.insts[i]? with
  | none => rfl
  | some t =>
    cases t with
    | none => rfl
    | some t => simp [hi] at h

/-- In every clean history from the freshly imported library, every default validation
    reports exactly the issues of C08 (`Valid.issues`), whatever user rules were added to
    reset validations in between. -/
theorem default_report_stable (cust : Nat → Visit → List Issue) (as : List Act)
    (hc : Clean init as) (i : Nat) (hi : isReset (runActs init as) i = false) (n : Node) :
    report cust (runActs init as) i n = Valid.issues n := by
  unfold report
  rw [default_uses_global _ _ hi, registry_isolated as init hc]
  simp [init, issuesWith, Valid.issues, List.flatMap_map, applyH]

/-! ## 3. Rules added to a reset validation stay private -/

/-- The user function `h` occurs nowhere but (possibly) in the own table of object `i`. -/
def PrivateTo (h : Handler) (i : Nat) (st : State) : Prop :=
  (∀ k, h ∉ st.global k) ∧
  ∀ j t, j ≠ i → st.insts[j]? = some (some t) → ∀ k, h ∉ t k

/-- The step registers `h` somewhere else than on object `i`. -/
def RegistersElsewhere (h : Handler) (i : Nat) : Act → Prop
  | .op (.registerGlobal _ h') => h' = h
  | .op (.registerCustom j _ h') => h' = h ∧ j ≠ i
  | _ => False

instance (h : Handler) (i : Nat) (a : Act) : Decidable (RegistersElsewhere h i a) := by
  unfold RegistersElsewhere
  split <;> exact inferInstance

theorem PrivateTo.append {h : Handler} {i : Nat} {st : State} (hP : PrivateTo h i st)
    (extra : List (Option Table)) (hx : ∀ t, some t ∈ extra → ∀ k, h ∉ t k) :
    PrivateTo h i { st with insts := st.insts ++ extra } := by
  refine ⟨hP.1, fun j t hj ht k => ?_⟩
  simp only [List.getElem?_append] at ht
  split at ht
  · exact hP.2 j t hj ht k
  · exact hx t (List.mem_of_getElem? ht) k

theorem isReset_append {st : State} {i : Nat} (hr : isReset st i = true)
    (extra : List (Option Table)) : isReset { st with insts := st.insts ++ extra } i = true := by
  obtain ⟨t, ht⟩ := (isReset_iff st i).mp hr
  exact (isReset_iff _ i).mpr
    ⟨t, by simp [List.getElem?_append_left (List.getElem?_eq_some_iff.mp ht).1, ht]⟩

theorem PrivateTo.set {h h' : Handler} {i j : Nat} {st : State} {t : Table} (k' : Klass)
    (hP : PrivateTo h i st) (hr : isReset st i = true) (hj : st.insts[j]? = some (some t))
    (hne : j ≠ i → h ≠ h') :
    PrivateTo h i { st with insts := st.insts.set j (some (t.add k' h')) } ∧
      isReset { st with insts := st.insts.set j (some (t.add k' h')) } i = true := by
  refine ⟨⟨hP.1, fun j' t' hj' ht' k => ?_⟩, ?_⟩
  · rw [List.getElem?_set] at ht'
    split at ht'
    · subst j'
      split at ht' <;> cases ht'
      exact not_mem_add (hP.2 j t hj' hj k) (hne hj')
    · exact hP.2 j' t' hj' ht' k
  · by_cases hji : j = i
    · simp [isReset, hji, (List.getElem?_eq_some_iff.mp (hji ▸ hj)).1]
    · simpa [isReset, List.getElem?_set, hji] using hr

theorem private_step (c : Nat) (i : Nat) (st : State) (a : Act)
    (hP : PrivateTo (.custom c) i st) (hr : isReset st i = true)
    (hno : ¬ RegistersElsewhere (.custom c) i a) :
    PrivateTo (.custom c) i (act st a) ∧ isReset (act st a) i = true := by
  cases a with
  | lib m =>
    rw [lib_run]
    exact ⟨hP.append _ (newObjects_no_custom m c), isReset_append hr _⟩
  | op o =>
    cases o with
    | run j => exact ⟨hP, hr⟩
    | newValidation r =>
      cases r
      · exact ⟨hP.append [none] (by simp), isReset_append hr _⟩
      · exact ⟨hP.append [some Table.empty] (by simp [Table.empty]), isReset_append hr _⟩
    | registerGlobal k' h' =>
      exact ⟨⟨fun k => not_mem_add (hP.1 k) (Ne.symm hno), hP.2⟩, hr⟩
    | registerCustom j k' h' =>
      simp only [RegistersElsewhere, not_and, Decidable.not_not] at hno
      simp only [act, step]
      rcases hj : st.insts[j]? with _ | _ | t
      · exact ⟨hP, hr⟩
      · -- `j` is not reset, so it is not `i`, so `h'` is another handler
        refine ⟨⟨fun k => not_mem_add (hP.1 k) fun e => ?_, hP.2⟩, hr⟩
        obtain ⟨ti, hti⟩ := (isReset_iff st i).mp hr
        rw [hno e.symm, hti] at hj
        cases hj
      · exact PrivateTo.set k' hP hr hj fun hji e => hji (hno e.symm)

/-- A user rule that so far lives (at most) in the own table of the
    reset validation `i`, and that later is registered on `i` only, never shows up in the
    default registry nor in any other validation object - whatever else happens in between
    (default validations, other custom validations, object creation, cardinality changes,
    value assignments, saves, loads, global registration of *other* handlers). -/
theorem custom_rule_private (c : Nat) (i : Nat) (as : List Act) : ∀ (st : State),
    PrivateTo (.custom c) i st → isReset st i = true →
    (∀ a ∈ as, ¬ RegistersElsewhere (.custom c) i a) →
    PrivateTo (.custom c) i (runActs st as) := by
  induction as with
  | nil => intro st hP _ _; exact hP
  | cons a as ih =>
    intro st hP hr hno
    obtain ⟨hP', hr'⟩ := private_step c i st a hP hr (hno a (by simp))
    exact ih (act st a) hP' hr' (fun b hb => hno b (by simp [hb]))

/-- Consequently no validation created without reset ever applies the private rule. -/
theorem custom_rule_not_in_default (c : Nat) (i : Nat) (st : State)
    (hP : PrivateTo (.custom c) i st) (j : Nat) (hj : isReset st j = false) (k : Klass) :
    Handler.custom c ∉ effective st j k := by
  rw [default_uses_global st j hj]
  exact hP.1 k

/-- A fresh user rule is private to a freshly created reset validation. -/
theorem fresh_custom_is_private (c : Nat) (st : State)
    (hg : ∀ k, Handler.custom c ∉ st.global k)
    (hin : ∀ (j : Nat) (t : Table), st.insts[j]? = some (some t) → ∀ k, Handler.custom c ∉ t k) :
    PrivateTo (.custom c) st.insts.length (step st (.newValidation true)) ∧
    isReset (step st (.newValidation true)) st.insts.length = true := by
  exact ⟨PrivateTo.append ⟨hg, fun j t _ => hin j t⟩ [some Table.empty] (by simp [Table.empty]),
    by simp [isReset, step]⟩

/-- `register_custom_handler` on a validation created *without* reset writes the class-level
    table (its `_handlers` is the class attribute): the reason why the property speaks of
    reset=True only, and why `Clean` excludes this step. -/
theorem custom_on_default_object_leaks :
    (runOps init [.newValidation false, .registerCustom 0 .section (.custom 7)]).global .section ≠
      init.global .section := by
  -- `init` is generalised so that nothing evaluates the registry table behind it
  generalize hi : init = st
  have hn : Handler.custom 7 ∉ st.global .section := hi ▸ custom_not_in_init 7 .section
  have hl : st.insts = [] := hi ▸ rfl
  simp only [runOps, List.foldl, step, hl, List.nil_append, List.getElem?_cons_zero,
    Table.add_self _ _ _ hn]
  simp

/-- Explicit global registration does change the default registry (the one allowed way). -/
theorem register_global_changes :
    (step init (.registerGlobal .odML (.custom 1))).global .odML =
      init.global .odML ++ [.custom 1] := by
  generalize hi : init = st
  exact Table.add_self _ _ _ (hi ▸ custom_not_in_init 1 .odML)

/-- Non-vacuity of `Clean` / `custom_rule_private`: a history with a custom validation, a user
    rule, object creation, cardinality changes, save and load. -/
def sampleHistory : List Act :=
  [.lib .defaultValidation, .op (.newValidation true), .op (.registerCustom 1 .section (.custom 3)),
   .op (.run 1), .lib .constructSection, .lib (.constructProperty true), .lib .setValCardinality,
   .lib .save, .lib .load, .lib .defaultValidation]

example : Clean init sampleHistory := by unfold Clean; decide
example : ∀ a ∈ sampleHistory, ¬ RegistersElsewhere (.custom 3) 1 a := by decide
example : (runActs init sampleHistory).insts.length = 12 := by decide
example : effective (runActs init sampleHistory) 1 .section = [.custom 3] := by decide

end

/-! ## 4. The on-demand terminology rules read the table of loaded terminologies (seeded round 5)

`Model/TermLoad.lean`: `terminology.load` statement by statement.  A custom validation with
`section_repository_present` / `property_terminology_check` is repeatable - in the same process, after
any history of the loader, and in another process - because what a load yields is a function of the
file alone, and a load that fails leaves nothing in the table. -/

open TermLoad

theorem lookup_cons_self (t : Table) (url : Nat) (b : Bool) : lookup ((url, b) :: t) url = some b :=
  List.lookup_cons_self

theorem lookup_cons_ne (t : Table) (url u : Nat) (b : Bool) (h : u ≠ url) :
    lookup ((url, b) :: t) u = lookup t u := by
  simp only [lookup, List.lookup_cons, beq_eq_false_iff_ne.mpr h]

theorem load_hit {files : Nat → FileState} {t : Table} {url : Nat} {b : Bool}
    (h : lookup t url = some b) : load files t url = (if b then .doc else .none, t) := by
  unfold load
  cases b <;> simp [h]

theorem load_miss {files : Nat → FileState} {t : Table} {url : Nat} (h : lookup t url = none) :
    load files t url = match files url with
      | .unreachable => (.none, t)
      | .unparsable => (.none, (url, false) :: t)
      | .unfinalizable => (.raised, t)
      | .good => (.doc, (url, true) :: t) := by
  simp only [load, h]
  cases files url <;> rfl

/-- A load that fails - the file cannot be fetched, or its links cannot be resolved - leaves the
    table of loaded terminologies exactly as it was. -/
theorem failed_load_leaves_no_trace (files : Nat → FileState) (t : Table) (url : Nat)
    (h : files url = .unfinalizable ∨ files url = .unreachable) :
    (load files t url).2 = t := by
  cases hl : lookup t url with
  | some b => rw [load_hit hl]
  | none => rcases h with h | h <;> simp [load_miss hl, h]

/-- Loading the same URL again yields what the first load has yielded, whatever the file is and
    whatever the table held before: a rule that looks into a terminology sees the same on the second
    run of a validation as on the first. -/
theorem terminology_load_repeatable (files : Nat → FileState) (t : Table) (url : Nat) :
    (load files (load files t url).2 url).1 = (load files t url).1 := by
  cases hl : lookup t url with
  | some b => rw [load_hit hl, load_hit hl]
  | none =>
    cases hf : files url <;>
      simp [load_miss hl, hf, load_hit (lookup_cons_self t url false),
        load_hit (lookup_cons_self t url true)]

theorem consistent_cons {files : Nat → FileState} {t : Table} (h : Consistent files t) (url : Nat)
    (b : Bool) (hb : (b = true ∧ files url = .good) ∨ (b = false ∧ files url = .unparsable)) :
    Consistent files ((url, b) :: t) := by
  intro u v hu
  by_cases hx : u = url
  · subst hx; rw [lookup_cons_self] at hu; cases hu; exact hb
  · rw [lookup_cons_ne _ _ _ _ hx] at hu; exact h u v hu

theorem load_consistent (files : Nat → FileState) (t : Table) (url : Nat)
    (h : Consistent files t) : Consistent files (load files t url).2 := by
  cases hl : lookup t url with
  | some b => rwa [load_hit hl]
  | none =>
    rw [load_miss hl]
    cases hf : files url
    · exact h
    · exact consistent_cons h url false (Or.inr ⟨rfl, hf⟩)
    · exact h
    · exact consistent_cons h url true (Or.inl ⟨rfl, hf⟩)

theorem step_consistent (files : Nat → FileState) (t : Table) (o : Op)
    (h : Consistent files t) : Consistent files (step files t o) := by
  cases o with
  | load url => exact load_consistent files t url h
  | deferred url =>
    simp only [step, deferredLoad]
    split
    · exact h
    · exact load_consistent files t url h

theorem run_consistent (files : Nat → FileState) (ops : List Op) : ∀ (t : Table),
    Consistent files t → Consistent files (run files t ops) := by
  induction ops with
  | nil => intro t h; exact h
  | cons o os ih => intro t h; exact ih _ (step_consistent files t o h)

theorem load_of_consistent (files : Nat → FileState) (t : Table) (url : Nat)
    (h : Consistent files t) : (load files t url).1 = outcomeOf (files url) := by
  cases hl : lookup t url with
  | some b =>
    rw [load_hit hl]
    rcases h url b hl with ⟨rfl, hf⟩ | ⟨rfl, hf⟩ <;> simp [hf, outcomeOf]
  | none => cases hf : files url <;> simp [load_miss hl, hf, outcomeOf]

/-- What a load yields depends on the file alone, not on the history of the process: after any
    sequence of loads and deferred loads of any URLs - successful, refused, failed - the URL loads as
    it does in a process that has never loaded anything. -/
theorem terminology_load_history_independent (files : Nat → FileState) (ops : List Op) (url : Nat) :
    (load files (run files [] ops) url).1 = outcomeOf (files url) :=
  load_of_consistent files _ url (run_consistent files ops [] (by intro u v hu; simp [lookup] at hu))

/-- The two on-demand rules report the same on the same unchanged Section / Property after any two
    histories of the loader (in particular: first run and second run, this process and another). -/
theorem terminology_rules_repeatable (files : Nat → FileState) (ops ops' : List Op) (url : Nat)
    (hasType hasName : Bool) :
    sectionWarnings (load files (run files [] ops) url).1 hasType =
      sectionWarnings (load files (run files [] ops') url).1 hasType ∧
    propertyWarnings (load files (run files [] ops) url).1 hasType hasName =
      propertyWarnings (load files (run files [] ops') url).1 hasType hasName := by
  simp [terminology_load_history_independent]

/-- Witness that the statement has content: were the parsed document entered into the table before
    its links are resolved (a table that is not `Consistent`), the second load would differ. -/
theorem inconsistent_table_changes_outcome :
    (load (fun _ => .unfinalizable) [(0, true)] 0).1 ≠ (load (fun _ => .unfinalizable) [] 0).1 := by
  decide

example : run (fun u => if u = 0 then .good else if u = 1 then .unparsable else .unfinalizable) []
    [.load 0, .deferred 1, .load 2, .deferred 2, .load 1] = [(1, false), (0, true)] := by decide

end C19
